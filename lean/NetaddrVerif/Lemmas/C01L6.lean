/-
Lemmas/C01L6.lean — the platform model of IPv6 text (`Text6`): what the split-style reader
`pton6` makes of a colon-joined token list built from group numerals, with or without a gap and
with or without a dotted-quad tail (such a text is one of the grammar `C01G.Rfc4291`, which
`pton6` reads by `C01G.pton6_iff_rfc4291`); the zero run the printer `ntop6` chooses (a finite
search over the 256 zero / non-zero patterns of eight groups, `scan8`); and the round trip: every
128-bit value is read back from its compact text.
-/
import NetaddrVerif.Lemmas.C01LGrammarPton6
import NetaddrVerif.Lemmas.C15LWords
namespace NV.C01L
open NV NV.Text4 NV.Text6

/-- a printer of group numerals whose output the group reader reads back: the last conjunct, the only one the
    proofs read (by `C01G.hextet_iff` it implies the other three) -/
def GoodF (f : Nat → List Char) : Prop :=
  ∀ n, n < 65536 → f n ≠ [] ∧ '.' ∉ f n ∧ ':' ∉ f n ∧ hextet (f n) = some n

theorem goodF_hex : GoodF hex := fun n h =>
  ⟨hex_ne_nil n, fun hc => absurd (hex_all n _ hc) (by decide), fun hc => absurd (hex_all n _ hc) (by decide), hextet_hex n h⟩
theorem goodF_hex4 : GoodF hex4 := fun n h =>
  ⟨hex4_ne_nil n h, fun hc => absurd (hex4_all n _ hc) (by decide), fun hc => absurd (hex4_all n _ hc) (by decide),
    hextet_hex4 n h⟩

def Small (ns : List Nat) : Prop := ∀ n ∈ ns, n < 65536

theorem groups_of_small (f : Nat → List Char) (hf : GoodF f) (ns : List Nat) (hs : Small ns) :
    (∀ t ∈ ns.map f, C01G.IsGroup t) ∧ (ns.map f).map (C01G.numVal 16) = ns := by
  have h : ∀ n ∈ ns, C01G.IsGroup (f n) ∧ n = C01G.numVal 16 (f n) := fun n hn =>
    (C01G.hextet_iff _ n).mp (hf n (hs n hn)).2.2.2
  refine ⟨fun t ht => ?_, ?_⟩
  · obtain ⟨n, hn, rfl⟩ := List.mem_map.mp ht
    exact (h n hn).1
  · rw [List.map_map]
    conv => rhs; rw [← List.map_id ns]
    exact List.map_congr_left fun n hn => (h n hn).2.symm

/-- `Text6.words` is `int_to_words(v, 16, 8)` of Model/Codec, and `Text6.ofWords` the big-endian value of a word list: the
    round trip and the bound are those of Lemmas/C15LWords.lean -/
theorem words_eq_beWords (v : Nat) : words v = Codec.beWords 16 8 v := by
  rw [Codec.beWords_range]
  simp [words, List.range, List.range.loop, Nat.shiftRight_eq_div_pow]

theorem ofWords_eq_beWordsValue (ws : List Nat) : ofWords ws = Codec.beWordsValue 16 ws := by
  have := Codec.horner_eq 16 ws 0
  simpa [ofWords] using this

theorem ofWords_words (v : Nat) (hv : v < 2 ^ 128) : ofWords (words v) = v := by
  rw [ofWords_eq_beWordsValue, words_eq_beWords]; exact Codec.beWordsValue_words hv

theorem small_words (v : Nat) : Small (words v) := by
  rw [words_eq_beWords]; exact Codec.beWords_lt 16 8 v

theorem length_words (v : Nat) : (words v).length = 8 := rfl

/-- no gap: eight numerals joined by ':' (the `ipv6_full` and `ipv6_verbose` dialects, and the
    compact form of an address without a zero run) -/
theorem pton6_nogap (f : Nat → List Char) (hf : GoodF f) (ns : List Nat) (hs : Small ns) (hl : ns.length = 8) :
    pton6 ([':'].intercalate (ns.map f)) = some (ofWords ns) := by
  obtain ⟨hG, hval⟩ := groups_of_small f hf ns hs
  refine (C01G.pton6_iff_rfc4291 _ _).mpr (Or.inl ⟨ns.map f, [], [], hG, Or.inl ⟨rfl, rfl⟩, ?_, ?_, ?_⟩)
  · rw [List.append_nil, C01G.joinColon_eq]
  · exact (List.length_map f).trans hl
  · rw [List.append_nil, hval, C01G.ofWords_eq]

/-- with a gap (an `Rfc4291Compressed` text): numerals `A`, the gap, numerals `B` and an optional dotted quad `q` -/
theorem pton6_gap (A B : List Nat) (hA : Small A) (hB : Small B) (q : Option Nat)
    (hq : ∀ x, q = some x → x < 2 ^ 32)
    (hlen : A.length + B.length + (if q.isSome then 2 else 0) ≤ 7) :
    let Q : List (List Char) := match q with | none => [] | some x => [ntoa x]
    let nsQ : List Nat := match q with | none => [] | some x => [x / 65536, x % 65536]
    pton6 ([':'].intercalate ((if A.length == 0 then [[]] else []) ++ A.map hex ++ [[]] ++ (B.map hex ++ Q)
        ++ (if (B.map hex ++ Q).length == 0 then [[]] else []))) =
      some (ofWords (A ++ List.replicate (8 - (A.length + B.length + nsQ.length)) 0 ++ (B ++ nsQ))) := by
  intro Q nsQ
  obtain ⟨hA', vA⟩ := groups_of_small hex goodF_hex A hA
  obtain ⟨hB', vB⟩ := groups_of_small hex goodF_hex B hB
  have hQ : C01G.IsTail Q nsQ := by
    cases q with
    | none => exact Or.inl ⟨rfl, rfl⟩
    | some x => exact Or.inr ⟨ntoa x, x, (C01G.quad_iff_ntoa _ _).mpr ⟨hq x rfl, rfl⟩, rfl, rfl⟩
  have hnsQ : nsQ.length = if q.isSome then 2 else 0 := by cases q <;> rfl
  have hpad : ∀ X : List (List Char), (if X.length == 0 then [[]] else []) = C01G.padL X := by
    intro X; cases X <;> rfl
  have hpadA := hpad (A.map hex)
  rw [List.length_map] at hpadA
  rw [hpadA, hpad, ← C01G.joinColon_eq]
  have e : C01G.padL (A.map hex) ++ A.map hex ++ [[]] ++ (B.map hex ++ Q) ++ C01G.padL (B.map hex ++ Q) =
      C01G.pad (A.map hex) (B.map hex ++ Q) := by
    unfold C01G.pad; simp only [List.append_assoc, List.singleton_append]
  rw [e, C01G.joinColon_pad]
  refine (C01G.pton6_iff_rfc4291 _ _).mpr (Or.inr ⟨_, _, Q, nsQ, hA', hB', hQ, rfl, ?_, ?_⟩)
  · rw [List.length_map, List.length_map, hnsQ]; exact hlen
  · rw [vA, vB, List.length_map, List.length_map, C01G.ofWords_eq]

/-- what the round trip needs of the chosen run: at least two groups, inside the address, all zero -/
def runOk (fl : List Bool) : Bool :=
  match longestRun fl with
  | none => true
  | some (b, l) => decide (2 ≤ l) && decide (b + l ≤ 8) && ((fl.drop b).take l == List.replicate l true)

/-- complete finite domain, the 256 zero / non-zero patterns of eight groups: the run the platform
    printer chooses is sound (`runOk`); fbsocket's positions / sort / scan search finds the same run;
    the runs `(0, 6)` and `(0, 5)` are chosen exactly when six resp. five zero groups are followed by a
    non-zero one, and fbsocket's search then finds them again among the seven tokens that are left when
    the last two groups have become a dotted quad -/
theorem scan8 : ∀ b0 b1 b2 b3 b4 b5 b6 b7 : Bool,
    runOk [b0, b1, b2, b3, b4, b5, b6, b7] = true ∧
    FbSocket.bestPosition (FbSocket.zeroRuns [b0, b1, b2, b3, b4, b5, b6, b7] 0 none 0 []) =
      (longestRun [b0, b1, b2, b3, b4, b5, b6, b7]).map (fun p => (p.2, p.1)) ∧
    (longestRun [b0, b1, b2, b3, b4, b5, b6, b7] == some (0, 6)) = (b0 && b1 && b2 && b3 && b4 && b5 && !b6) ∧
    (longestRun [b0, b1, b2, b3, b4, b5, b6, b7] == some (0, 5)) = (b0 && b1 && b2 && b3 && b4 && !b5) ∧
    ((longestRun [b0, b1, b2, b3, b4, b5, b6, b7] == some (0, 6) ||
        longestRun [b0, b1, b2, b3, b4, b5, b6, b7] == some (0, 5)) = true →
      FbSocket.bestPosition (FbSocket.zeroRuns [b0, b1, b2, b3, b4, b5, false] 0 none 0 []) =
        (longestRun [b0, b1, b2, b3, b4, b5, b6, b7]).map (fun p => (p.2, p.1))) := by
  decide +kernel

theorem zeros_of_flags (xs : List Nat) (l : Nat) (h : xs.map (· == 0) = List.replicate l true) :
    xs = List.replicate l 0 := by
  induction xs generalizing l with
  | nil =>
    cases l with
    | zero => rfl
    | succ l => simp [List.replicate_succ] at h
  | cons a t ih =>
    cases l with
    | zero => simp at h
    | succ l =>
      simp only [List.map_cons, List.replicate_succ, List.cons.injEq] at h
      obtain ⟨ha, ht⟩ := h
      have : a = 0 := by simpa using ha
      rw [this, ih l ht, List.replicate_succ]

theorem run_facts (ws : List Nat) (hl : ws.length = 8) (b l : Nat)
    (h : longestRun (ws.map (· == 0)) = some (b, l)) :
    2 ≤ l ∧ b + l ≤ 8 ∧ ws = ws.take b ++ List.replicate l 0 ++ ws.drop (b + l) := by
  match ws, hl with
  | [w0, w1, w2, w3, w4, w5, w6, w7], _ =>
    have hk := (scan8 (w0 == 0) (w1 == 0) (w2 == 0) (w3 == 0) (w4 == 0) (w5 == 0) (w6 == 0) (w7 == 0)).1
    have e : [w0 == 0, w1 == 0, w2 == 0, w3 == 0, w4 == 0, w5 == 0, w6 == 0, w7 == 0] =
        [w0, w1, w2, w3, w4, w5, w6, w7].map (· == 0) := rfl
    rw [e] at hk
    generalize [w0, w1, w2, w3, w4, w5, w6, w7] = ws at *
    unfold runOk at hk
    rw [h] at hk
    simp only [Bool.and_eq_true, decide_eq_true_eq, beq_iff_eq] at hk
    obtain ⟨⟨h2, h8⟩, hz⟩ := hk
    refine ⟨h2, h8, ?_⟩
    rw [← List.map_drop, ← List.map_take] at hz
    have hz' := zeros_of_flags _ _ hz
    have e1 : ws = ws.take b ++ ws.drop b := (List.take_append_drop b ws).symm
    have e2 : ws.drop b = (ws.drop b).take l ++ (ws.drop b).drop l := (List.take_append_drop l _).symm
    rw [hz', List.drop_drop] at e2
    rw [List.append_assoc, ← e2]
    exact e1

theorem words_v4 (v : Nat) : (v % 4294967296) / 65536 = (v >>> 16) % 65536 ∧ (v % 4294967296) % 65536 = v % 65536 :=
  ⟨by rw [Nat.shiftRight_eq_div_pow]; exact Nat.mod_mul_right_div_self v 65536 65536, Nat.mod_mod_of_dvd v ⟨65536, rfl⟩⟩

theorem v4Tail_some (ws : List Nat) (b l : Nat) :
    v4Tail ws (some (b, l)) = true ↔ b = 0 ∧ (l = 6 ∨ l = 5 ∧ ws.getD 5 0 = 0xffff) := by
  cases b <;> simp [v4Tail]

/-- the compact form with all groups in hex: the zero run `(b, l)` replaced by the gap -/
theorem pton6_compact (ws : List Nat) (hs : Small ws) (hl8 : ws.length = 8) (b l : Nat) (h1 : 1 ≤ l) (hbl : b + l ≤ 8)
    (hws : ws = ws.take b ++ List.replicate l 0 ++ ws.drop (b + l)) :
    pton6 ([':'].intercalate ((if b == 0 then [[]] else []) ++ (ws.map hex).take b ++ [[]] ++ (ws.map hex).drop (b + l)
      ++ (if b + l == 8 then [[]] else []))) = some (ofWords ws) := by
  have hA : (ws.take b).length = b := by rw [List.length_take]; omega
  have hB : (ws.drop (b + l)).length = 8 - (b + l) := by rw [List.length_drop]; omega
  have := pton6_gap (ws.take b) (ws.drop (b + l))
    (fun n hn => hs n (List.mem_of_mem_take hn)) (fun n hn => hs n (List.mem_of_mem_drop hn)) none
    (by intro x hx; cases hx) (by simp only [hA, hB]; simp; omega)
  simp only [hA, hB, List.append_nil, List.length_map, List.length_nil, Nat.add_zero] at this
  have c1 : (b + l == 8) = (8 - (b + l) == 0) := by
    rw [Bool.eq_iff_iff, beq_iff_eq, beq_iff_eq]; omega
  have c2 : 8 - (b + (8 - (b + l))) = l := by omega
  rw [← List.map_take, ← List.map_drop, c1, this, c2, ← hws]

/-- the compact form with a dotted-quad tail: a leading zero run of `l ≤ 6` groups replaced by the
    gap, the last two groups printed as the quad `x` -/
theorem pton6_compact_quad (ws : List Nat) (hs : Small ws) (hl8 : ws.length = 8) (l : Nat) (h1 : 1 ≤ l) (hl6 : l ≤ 6)
    (x : Nat) (hx : x < 2 ^ 32) (hdrop : ws.drop 6 = [x / 65536, x % 65536])
    (hws : ws = List.replicate l 0 ++ ws.drop l) :
    pton6 ([':'].intercalate ([[], []] ++ ((ws.map hex).take 6 ++ [ntoa x]).drop l)) = some (ofWords ws) := by
  have hB : ((ws.take 6).drop l).length = 6 - l := by rw [List.length_drop, List.length_take]; omega
  have := pton6_gap [] ((ws.take 6).drop l) (fun n hn => nomatch hn)
    (fun n hn => hs n (List.mem_of_mem_take (List.mem_of_mem_drop hn))) (some x)
    (by intro y hy; cases hy; exact hx) (by simp only [hB]; simp; omega)
  simp only [hB, List.map_nil, List.length_nil, List.nil_append, List.append_nil, List.length_append, List.length_map,
    List.length_cons, beq_self_eq_true, if_true] at this
  have hd : ((ws.map hex).take 6 ++ [ntoa x]).drop l = ((ws.take 6).drop l).map hex ++ [ntoa x] := by
    rw [List.drop_append_of_le_length (by rw [List.length_take, List.length_map]; omega), ← List.map_take, ← List.map_drop]
  have c1 : (6 - l + 1 == 0) = false := rfl
  have c2 : 8 - (0 + (6 - l) + 2) = l := by omega
  have hj : (ws.take 6).drop l ++ ws.drop 6 = ws.drop l := by
    conv => rhs; rw [← List.take_append_drop 6 ws]
    rw [List.drop_append_of_le_length (by rw [List.length_take]; omega)]
  rw [hd]
  rw [c1] at this
  simp only [Bool.false_eq_true, if_false, List.append_nil, c2] at this
  rw [← hdrop, hj, ← hws] at this
  exact this

theorem pton6_ntop6 (v : Nat) (hv : v < 2 ^ 128) : pton6 (ntop6 v) = some v := by
  have hsm := small_words v
  have how := ofWords_words v hv
  unfold ntop6
  generalize hbest : longestRun ((words v).map (· == 0)) = best
  unfold ntop6Toks
  cases best with
  | none =>
    simp only [v4Tail, Bool.false_eq_true, if_false]
    rw [pton6_nogap hex goodF_hex (words v) hsm rfl, how]
  | some bl =>
    obtain ⟨b, l⟩ := bl
    obtain ⟨h2, h8, hws⟩ := run_facts (words v) rfl b l hbest
    by_cases htail : v4Tail (words v) (some (b, l)) = true
    · obtain ⟨rfl, hl⟩ := (v4Tail_some _ _ _).mp htail
      have hl8 : (l == 8) = false := by rcases hl with rfl | ⟨rfl, _⟩ <;> rfl
      have := pton6_compact_quad (words v) hsm rfl l (by omega) (by omega) (v % 4294967296) (Nat.mod_lt _ (by decide))
        (by rw [(words_v4 v).1, (words_v4 v).2]; rfl) (by simpa using hws)
      simp only [htail, if_true, Nat.zero_add, List.take_zero, beq_self_eq_true, hl8, Bool.false_eq_true, if_false,
        List.append_nil]
      exact this.trans (congrArg some how)
    · simp only [htail, Bool.false_eq_true, if_false]
      exact (pton6_compact (words v) hsm rfl b l (by omega) h8 hws).trans (congrArg some how)
end NV.C01L
