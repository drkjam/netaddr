/-
Lemmas/C01LAton.lean — what the modelled `inet_aton` reads: `strtoul` on a C literal (decimal,
octal with leading 0, hex with 0x) up to a stopping point, one round of the part loop on such a
literal, `aton` with its inline `let`s named, and from these the one to four part readings, the
last part filling the remaining bytes and an optional whitespace tail following; `'%d'` numerals
are such literals (`Zf.isCLit_dec`, in the namespace of the ZEROFILL lemmas, which rest on it), so the
printed dotted quad is read back.
-/
import NetaddrVerif.Lemmas.C01L4
namespace NV.C01L
open NV NV.Text4

/-- a C integer literal as `strtoul(·, ·, 0)` reads it, with its value -/
inductive IsCLit : List Char → Nat → Prop
  | dec (c : Char) (r : List Char) (hc : isDec c = true) (h0 : c ≠ '0') (hr : ∀ x ∈ r, isDec x = true) :
      IsCLit (c :: r) (ofBase 10 (c :: r))
  | oct (r : List Char) (hr : ∀ x ∈ r, isOct x = true) : IsCLit ('0' :: r) (ofBase 8 ('0' :: r))
  | hex (x : Char) (r : List Char) (hx : x = 'x' ∨ x = 'X') (hne : r ≠ []) (hr : ∀ y ∈ r, isHexC y = true) :
      IsCLit ('0' :: x :: r) (ofBase 16 r)

theorem isOct_not_x (c : Char) (h : isOct c = true) : (c == 'x' || c == 'X') = false := by
  rw [Bool.or_eq_false_iff, beq_eq_false_iff_ne, beq_eq_false_iff_ne]
  constructor <;> rintro rfl <;> exact absurd h (by decide)

theorem lit_head (lit : List Char) (val : Nat) (h : IsCLit lit val) (rest : List Char) :
    ∃ c tl, lit ++ rest = c :: tl ∧ isDec c = true := by
  cases h with
  | dec c r hc _ _ => exact ⟨c, r ++ rest, rfl, hc⟩
  | oct r _ => exact ⟨'0', r ++ rest, rfl, by decide⟩
  | hex x r _ _ _ => exact ⟨'0', x :: r ++ rest, rfl, by decide⟩

theorem dot_no_nul (r : List Char) (hr : Char.ofNat 0 ∉ r) : Char.ofNat 0 ∉ '.' :: r :=
  fun h => (List.mem_cons.mp h).elim (by decide) hr

theorem or_low (hi x k : Nat) (hx : x < 2 ^ k) : (hi <<< k) ||| x = hi * 2 ^ k + x := by
  rw [← Nat.shiftLeft_add_eq_or_of_lt hx, Nat.shiftLeft_eq]

theorem shl_or (x y k j : Nat) (hy : y < 2 ^ k) : x <<< (k + j) ||| y <<< j = (x * 2 ^ k + y) <<< j := by
  rw [Nat.shiftLeft_add, ← Nat.shiftLeft_or_distrib, or_low x y k hy]

theorem or_halves (a b c : Nat) (hb : b < 256) (hc : c < 65536) :
    a <<< 24 ||| b <<< 16 ||| c = a * 16777216 + b * 65536 + c := by
  rw [shl_or a b 8 16 hb, or_low _ c 16 hc]
  omega

theorem or_bytes (a b c d : Nat) (hb : b < 256) (hc : c < 256) (hd : d < 256) :
    (a <<< 24 ||| b <<< 16 ||| c <<< 8) ||| d = a * 16777216 + b * 65536 + c * 256 + d := by
  rw [shl_or a b 8 16 hb, shl_or _ c 8 8 hc, or_low _ d 8 hd]
  omega

end NV.C01L

namespace NV.C01L.AtonG
open NV NV.Text4 NV.C01L

/-- what glibc tolerates after the last part: nothing, or one C-locale whitespace character
    followed by anything at all -/
def Tail (t : List Char) : Prop := t = [] ∨ ∃ c r, t = c :: r ∧ isCSpace c = true

theorem hex_of_dec (c : Char) (h : isDec c = true) : isHexC c = true := by
  simp only [isDec, Bool.and_eq_true, decide_eq_true_eq] at h
  simp [isHexC, h.1, h.2]

theorem hex_of_oct (c : Char) (h : isOct c = true) : isHexC c = true := by
  simp only [isOct, Bool.and_eq_true, decide_eq_true_eq] at h
  exact hex_of_dec c (by simp [isDec, h.1, Char.le_trans h.2 (by decide : '7' ≤ '9')])

/-- the characters of C literals and the dot between them -/
abbrev LitChar (c : Char) : Prop := isHexC c = true ∨ c = 'x' ∨ c = 'X' ∨ c = '.'

theorem lit_chars (l : List Char) (v : Nat) (h : IsCLit l v) : ∀ c ∈ l, LitChar c := by
  intro c hc
  cases h with
  | dec c0 r hc0 _ hr =>
    rcases List.mem_cons.mp hc with rfl | e
    · exact Or.inl (hex_of_dec _ hc0)
    · exact Or.inl (hex_of_dec _ (hr c e))
  | oct r hr =>
    rcases List.mem_cons.mp hc with rfl | e
    · exact Or.inl (by decide)
    · exact Or.inl (hex_of_oct _ (hr c e))
  | hex x r hx _ hr =>
    rcases List.mem_cons.mp hc with rfl | e
    · exact Or.inl (by decide)
    · rcases List.mem_cons.mp e with rfl | e2
      · exact Or.inr (hx.elim Or.inl fun e => Or.inr (Or.inl e))
      · exact Or.inl (hr c e2)

theorem space_facts (c : Char) (h : isCSpace c = true) :
    isHexC c = false ∧ c ≠ 'x' ∧ c ≠ 'X' ∧ c ≠ '.' ∧ c ≠ '/' := by
  simp only [isCSpace, Bool.or_eq_true, beq_iff_eq] at h
  rcases h with ((((e | e) | e) | e) | e) | e <;> subst e <;> decide

/-- where a literal may stop: end of string, or a character that is neither a hex digit nor x/X -/
def Stop (rest : List Char) : Prop :=
  rest = [] ∨ ∃ c r, rest = c :: r ∧ isHexC c = false ∧ c ≠ 'x' ∧ c ≠ 'X'

theorem stop_of_tail (t : List Char) (h : Tail t) : Stop t := by
  rcases h with e | ⟨c, r, e, hc⟩
  · exact Or.inl e
  · obtain ⟨h1, h2, h3, _⟩ := space_facts c hc
    exact Or.inr ⟨c, r, e, h1, h2, h3⟩

theorem stop_dot (r : List Char) : Stop ('.' :: r) := Or.inr ⟨'.', r, rfl, by decide, by decide, by decide⟩

theorem stop_not_x (rest : List Char) (h : Stop rest) (c : Char) (r : List Char) (e : rest = c :: r) :
    c ≠ 'x' ∧ c ≠ 'X' := by
  rcases h with rfl | ⟨c', r', rfl, _, h1, h2⟩
  · cases e
  · cases e; exact ⟨h1, h2⟩

theorem span_stop {p : Char → Bool} (hp : ∀ c, p c = true → isHexC c = true) (l rest : List Char)
    (hl : ∀ x ∈ l, p x = true) (hrest : Stop rest) :
    (l ++ rest).takeWhile p = l ∧ (l ++ rest).dropWhile p = rest := by
  rcases hrest with e | ⟨c, r, e, hc, _, _⟩ <;> subst e
  · simp only [List.append_nil]
    exact ⟨takeWhile_self p l hl, dropWhile_nil_of_all p l hl⟩
  · have hpc : p c = false := by
      cases hq : p c with
      | false => rfl
      | true => rw [hp c hq] at hc; cases hc
    exact ⟨takeWhile_all p l c r hl hpc, dropWhile_all p l c r hl hpc⟩

theorem strtoul_dec (c : Char) (t : List Char) (hc : isDec c = true) (h0 : c ≠ '0') :
    strtoul (c :: t) = (ofBase 10 (c :: t.takeWhile isDec), t.dropWhile isDec) := by
  unfold strtoul
  split
  · rename_i heq; injection heq with h1 _; exact absurd h1 h0
  · rename_i heq; injection heq with h1 _; exact absurd h1 h0
  · rw [List.takeWhile_cons_of_pos hc, List.dropWhile_cons_of_pos hc]

theorem strtoul_oct (t : List Char) (hx : ∀ x r, t = x :: r → (x == 'x' || x == 'X') = false) :
    strtoul ('0' :: t) = (ofBase 8 ('0' :: t.takeWhile isOct), t.dropWhile isOct) := by
  have h0 : isOct '0' = true := by decide
  cases t with
  | nil => rfl
  | cons x r => rw [strtoul, if_neg (by rw [hx x r rfl]; exact Bool.false_ne_true),
      List.takeWhile_cons_of_pos h0, List.dropWhile_cons_of_pos h0]

/-- a bare `0x` reads as `0` and stops at the `x` -/
theorem strtoul_hex (x : Char) (r : List Char) (hx : (x == 'x' || x == 'X') = true) :
    strtoul ('0' :: x :: r) =
      if (r.takeWhile isHexC).isEmpty then (0, x :: r) else (ofBase 16 (r.takeWhile isHexC), r.dropWhile isHexC) := by
  rw [strtoul, if_pos hx]

theorem strtoul_lit_stop (lit : List Char) (val : Nat) (h : IsCLit lit val) (rest : List Char) (hrest : Stop rest) :
    strtoul (lit ++ rest) = (val, rest) := by
  cases h with
  | dec c r hc h0 hr =>
    obtain ⟨e1, e2⟩ := span_stop (p := isDec) hex_of_dec r rest hr hrest
    rw [List.cons_append, strtoul_dec c _ hc h0, e1, e2]
  | oct r hr =>
    obtain ⟨e1, e2⟩ := span_stop (p := isOct) hex_of_oct r rest hr hrest
    rw [List.cons_append, strtoul_oct, e1, e2]
    -- what follows the `0` is an octal digit or the stopping character
    intro x r' e
    cases r with
    | nil =>
      obtain ⟨h1, h2⟩ := stop_not_x rest hrest x r' e
      rw [Bool.or_eq_false_iff, beq_eq_false_iff_ne, beq_eq_false_iff_ne]
      exact ⟨h1, h2⟩
    | cons y r2 =>
      cases e
      exact isOct_not_x _ (hr _ (List.mem_cons_self ..))
  | hex x r hx hne hr =>
    obtain ⟨e1, e2⟩ := span_stop (p := isHexC) (fun _ h => h) r rest hr hrest
    rw [List.cons_append, List.cons_append, strtoul_hex x _ (by rcases hx with rfl | rfl <;> rfl), e1, e2,
      if_neg (by rw [List.isEmpty_iff]; exact hne)]

/-- what the part loop does with the value `x` of a part and what follows it -/
def afterPart (f : Nat) (parts : List Nat) (x : Nat) (rest : List Char) : Option (List Nat × Nat) :=
  if x > 0xffffffff then none else
  match rest with
  | [] => some (parts, x)
  | c' :: rest' =>
    if c' == '.' then
      if parts.length ≥ 3 || x > 255 then none else atonLoop f rest' (parts ++ [x])
    else if isCSpace c' then some (parts, x) else none

theorem atonLoop_cons (f : Nat) (c : Char) (t : List Char) (parts : List Nat) (hc : isDec c = true) (x : Nat)
    (rest : List Char) (hst : strtoul (c :: t) = (x, rest)) :
    atonLoop (f + 1) (c :: t) parts = afterPart f parts x rest := by
  rw [atonLoop]
  simp only [hc, hst, Bool.not_true, Bool.false_eq_true, if_false]
  cases rest <;> rfl

theorem afterPart_dot (f : Nat) (parts : List Nat) (x : Nat) (r : List Char) :
    afterPart f parts x ('.' :: r) =
      if x > 0xffffffff then none else
      if parts.length ≥ 3 || x > 255 then none else atonLoop f r (parts ++ [x]) := rfl

theorem atonLoop_lit (f : Nat) (lit : List Char) (val : Nat) (h : IsCLit lit val) (rest : List Char)
    (hrest : Stop rest) (parts : List Nat) : atonLoop (f + 1) (lit ++ rest) parts = afterPart f parts val rest := by
  obtain ⟨c, tl, hs, hc⟩ := lit_head lit val h rest
  have hst := strtoul_lit_stop lit val h rest hrest
  rw [hs] at hst ⊢
  exact atonLoop_cons f c tl parts hc val rest hst

theorem atonLoop_part (f : Nat) (lit : List Char) (val : Nat) (h : IsCLit lit val) (hv : val ≤ 255)
    (r : List Char) (parts : List Nat) (hp : parts.length < 3) :
    atonLoop (f + 1) (lit ++ '.' :: r) parts = atonLoop f r (parts ++ [val]) := by
  rw [atonLoop_lit f lit val h _ (stop_dot r), afterPart_dot, if_neg (by omega),
    if_neg (by simp only [Bool.or_eq_true, decide_eq_true_eq]; omega)]

theorem atonLoop_last (f : Nat) (lit : List Char) (val : Nat) (h : IsCLit lit val) (tail : List Char) (ht : Tail tail)
    (parts : List Nat) :
    atonLoop (f + 1) (lit ++ tail) parts = if val ≤ 0xffffffff then some (parts, val) else none := by
  rw [atonLoop_lit f lit val h tail (stop_of_tail tail ht)]
  unfold afterPart
  by_cases hv : val ≤ 0xffffffff
  · rw [if_neg (Nat.not_lt.mpr hv), if_pos hv]
    rcases ht with rfl | ⟨c', r', rfl, hsp⟩
    · rfl
    · dsimp only
      rw [if_neg (by rw [beq_iff_eq]; exact (space_facts c' hsp).2.2.2.1), if_pos hsp]
  · rw [if_pos (Nat.lt_of_not_le hv), if_neg hv]

/-! ### `aton` with its inline `let`s named -/

def maxLast (n : Nat) : Nat :=
  match n with
  | 0 => 0xffffffff | 1 => 0xffffff | 2 => 0xffff | _ => 0xff

def hiOf (parts : List Nat) : Nat :=
  match parts with
  | [] => 0
  | [a] => a <<< 24
  | [a, b] => (a <<< 24) ||| (b <<< 16)
  | a :: b :: c :: _ => (a <<< 24) ||| (b <<< 16) ||| (c <<< 8)

theorem maxLast_0 : maxLast 0 = 4294967295 := rfl
theorem maxLast_1 : maxLast 1 = 16777215 := rfl
theorem maxLast_2 : maxLast 2 = 65535 := rfl
theorem maxLast_3 : maxLast 3 = 255 := rfl
theorem hiOf_0 : hiOf [] = 0 := rfl
theorem hiOf_1 (a : Nat) : hiOf [a] = a <<< 24 := rfl
theorem hiOf_2 (a b : Nat) : hiOf [a, b] = a <<< 24 ||| b <<< 16 := rfl
theorem hiOf_3 (a b c : Nat) : hiOf [a, b, c] = a <<< 24 ||| b <<< 16 ||| c <<< 8 := rfl

theorem maxLast_le (n : Nat) : maxLast n ≤ 0xffffffff := by
  unfold maxLast
  split <;> decide

theorem no_nul_iff (s : List Char) : s.any (fun c => c.toNat == 0) = false ↔ Char.ofNat 0 ∉ s := by
  rw [List.any_eq_false]
  constructor
  · intro h hm
    exact h _ hm (by decide)
  · intro h c hc hz
    rw [← beq_iff_eq.mp hz, Char.ofNat_toNat] at h
    exact h hc

theorem aton_eq (s : List Char) : Text4.aton s =
    if s.any (fun c => c.toNat == 0) then none else
    match atonLoop 4 s [] with
    | none => none
    | some (parts, val) => if val > maxLast parts.length then none else some (hiOf parts ||| val) := rfl

/-- if the part loop, on a NUL-free text, ends with the parts `parts` and the last value `val` (refusing only a
    `val` beyond 32 bits), then `aton` accepts iff `val` fits what `parts.length` earlier parts leave of the 32 bits,
    and packs the parts -/
theorem aton_parts (s : List Char) (parts : List Nat) (val v : Nat) (hnul : Char.ofNat 0 ∉ s)
    (hloop : atonLoop 4 s [] = if val ≤ 0xffffffff then some (parts, val) else none)
    (hv : val ≤ maxLast parts.length → hiOf parts ||| val = v) :
    Text4.aton s = if val ≤ maxLast parts.length then some v else none := by
  rw [aton_eq, (no_nul_iff s).mpr hnul, hloop, if_neg Bool.false_ne_true]
  by_cases hm : val ≤ maxLast parts.length
  · rw [if_pos (Nat.le_trans hm (maxLast_le _)), if_pos hm]
    show (if val > maxLast parts.length then none else some (hiOf parts ||| val)) = _
    rw [if_neg (Nat.not_lt.mpr hm), hv hm]
  · rw [if_neg hm]
    by_cases h32 : val ≤ 0xffffffff
    · rw [if_pos h32]
      exact if_pos (Nat.lt_of_not_le hm)
    · rw [if_neg h32]

end NV.C01L.AtonG

namespace NV.C01L
open NV NV.Text4 AtonG

theorem lit_no_nul (lit : List Char) (val : Nat) (h : IsCLit lit val) (r : List Char) (hr : Char.ofNat 0 ∉ r) :
    Char.ofNat 0 ∉ lit ++ r :=
  fun hm => (List.mem_append.mp hm).elim (fun hc => absurd (lit_chars lit val h _ hc) (by decide)) hr

def PartEnd (rest : List Char) : Prop := rest = [] ∨ ∃ r, rest = '.' :: r

theorem strtoul_lit (lit : List Char) (val : Nat) (h : IsCLit lit val) (rest : List Char) (hrest : PartEnd rest) :
    strtoul (lit ++ rest) = (val, rest) :=
  strtoul_lit_stop lit val h rest <| match hrest with
    | .inl e => .inl e
    | .inr ⟨r, e⟩ => e ▸ stop_dot r

/-! ### one to four parts

Non-last parts are bytes; the last part fills the remaining 32 / 24 / 16 / 8 bits and is refused
beyond them.  A tolerated tail may follow. -/

theorem aton_one (l0 : List Char) (a : Nat) (tail : List Char) (h0 : IsCLit l0 a) (ht : Tail tail)
    (hn : Char.ofNat 0 ∉ tail) : aton (l0 ++ tail) = if a ≤ 0xffffffff then some a else none :=
  aton_parts _ [] a a (lit_no_nul l0 a h0 _ hn) (atonLoop_last 3 l0 a h0 tail ht []) fun _ => Nat.zero_or a

theorem aton_two (l0 l1 : List Char) (a b : Nat) (tail : List Char) (h0 : IsCLit l0 a) (h1 : IsCLit l1 b) (ha : a ≤ 255)
    (ht : Tail tail) (hn : Char.ofNat 0 ∉ tail) :
    aton (l0 ++ '.' :: (l1 ++ tail)) = if b ≤ 0xffffff then some (a * 16777216 + b) else none := by
  refine aton_parts _ [a] b _ (lit_no_nul l0 a h0 _ (dot_no_nul _ (lit_no_nul l1 b h1 _ hn))) ?_
    fun (hb : b ≤ 0xffffff) => or_low a b 24 (by omega)
  rw [atonLoop_part 3 l0 a h0 ha _ [] (by simp), atonLoop_last 2 l1 b h1 tail ht]
  rfl

theorem aton_three (l0 l1 l2 : List Char) (a b c : Nat) (tail : List Char) (h0 : IsCLit l0 a) (h1 : IsCLit l1 b)
    (h2 : IsCLit l2 c) (ha : a ≤ 255) (hb : b ≤ 255) (ht : Tail tail) (hn : Char.ofNat 0 ∉ tail) :
    aton (l0 ++ '.' :: (l1 ++ '.' :: (l2 ++ tail))) =
      if c ≤ 0xffff then some (a * 16777216 + b * 65536 + c) else none := by
  refine aton_parts _ [a, b] c _
    (lit_no_nul l0 a h0 _ (dot_no_nul _ (lit_no_nul l1 b h1 _ (dot_no_nul _ (lit_no_nul l2 c h2 _ hn))))) ?_
    fun (hc : c ≤ 0xffff) => or_halves a b c (by omega) (by omega)
  rw [atonLoop_part 3 l0 a h0 ha _ [] (by simp), atonLoop_part 2 l1 b h1 hb _ _ (by simp),
    atonLoop_last 1 l2 c h2 tail ht]
  rfl

theorem aton_four (l0 l1 l2 l3 : List Char) (a b c d : Nat) (tail : List Char)
    (h0 : IsCLit l0 a) (h1 : IsCLit l1 b) (h2 : IsCLit l2 c) (h3 : IsCLit l3 d)
    (ha : a ≤ 255) (hb : b ≤ 255) (hc : c ≤ 255) (ht : Tail tail) (hn : Char.ofNat 0 ∉ tail) :
    aton (l0 ++ '.' :: (l1 ++ '.' :: (l2 ++ '.' :: (l3 ++ tail)))) =
      if d ≤ 255 then some (a * 16777216 + b * 65536 + c * 256 + d) else none := by
  refine aton_parts _ [a, b, c] d _
    (lit_no_nul l0 a h0 _ (dot_no_nul _ (lit_no_nul l1 b h1 _ (dot_no_nul _ (lit_no_nul l2 c h2 _
      (dot_no_nul _ (lit_no_nul l3 d h3 _ hn))))))) ?_
    fun (hd : d ≤ 255) => or_bytes a b c d (by omega) (by omega) (by omega)
  rw [atonLoop_part 3 l0 a h0 ha _ [] (by simp), atonLoop_part 2 l1 b h1 hb _ _ (by simp),
    atonLoop_part 1 l2 c h2 hc _ _ (by simp), atonLoop_last 0 l3 d h3 tail ht]
  rfl

theorem aton_big (l0 : List Char) (a : Nat) (h0 : IsCLit l0 a) (ha : a > 255) (r : List Char) :
    aton (l0 ++ '.' :: r) = none := by
  have hloop : atonLoop 4 (l0 ++ '.' :: r) [] = none := by
    rw [atonLoop_lit 3 l0 a h0 _ (stop_dot r), afterPart_dot]
    split
    · rfl
    · exact if_pos (by simp only [Bool.or_eq_true, decide_eq_true_eq]; exact Or.inr ha)
  rw [aton_eq, hloop]
  split <;> rfl

theorem Zf.isCLit_dec (n : Nat) : IsCLit (dec n) n := by
  by_cases hn : n = 0
  · subst hn; exact IsCLit.oct [] (fun x hx => nomatch hx)
  · have hhead := toDigits_head (b := 10) (by decide) n hn
    have hall := dec_all n
    have hval := ofBase_dec n
    cases hd : dec n with
    | nil => exact absurd hd Nat.toDigits_ne_nil
    | cons c r =>
      rw [show Nat.toDigits 10 n = c :: r from hd] at hhead
      rw [hd] at hall hval
      have := IsCLit.dec c r (hall c (by simp)) (fun e => hhead (by rw [e]; rfl)) (fun x hx => hall x (by simp [hx]))
      rwa [hval] at this

theorem aton_ntoa (v : Nat) (hv : v < 2 ^ 32) : Text4.aton (ntoa v) = some v := by
  obtain ⟨h0, h1, h2, h3⟩ := octs_lt v hv
  have h := aton_four _ _ _ _ _ _ _ _ [] (Zf.isCLit_dec _) (Zf.isCLit_dec _) (Zf.isCLit_dec _) (Zf.isCLit_dec (v % 256))
    (Nat.le_of_lt_succ h0) (Nat.le_of_lt_succ h1) (Nat.le_of_lt_succ h2) (Or.inl rfl) List.not_mem_nil
  rw [List.append_nil, if_pos (Nat.le_of_lt_succ h3), octs_sum] at h
  rw [ntoa_append, h]

end NV.C01L
