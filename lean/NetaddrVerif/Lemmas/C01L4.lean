/-
Lemmas/C01L4.lean — the dotted-quad printer `Text4.ntoa` (`strategy.ipv4.int_to_str`): its four
octet numerals, the characters it is made of, and the strict readers (`Text4.pton4`,
`FbSocket.pton4`), which accept exactly what it prints (`pton4_iff`).
-/
import NetaddrVerif.Model.AddrParse
import NetaddrVerif.Lemmas.C01LDigits
import NetaddrVerif.Lemmas.C01LFb
namespace NV.C01L
open NV NV.Text4 NV.AddrParse

theorem ntoa_eq (v : Nat) : ntoa v =
    ['.'].intercalate [dec (v / 16777216), dec (v / 65536 % 256), dec (v / 256 % 256), dec (v % 256)] := by
  unfold ntoa
  have h : (0xff : Nat) = 2 ^ 8 - 1 := by decide
  simp only [h, Nat.and_two_pow_sub_one_eq_mod, Nat.shiftRight_eq_div_pow]

theorem ntoa_append (v : Nat) : ntoa v =
    dec (v / 16777216) ++ '.' :: (dec (v / 65536 % 256) ++ '.' :: (dec (v / 256 % 256) ++ '.' :: dec (v % 256))) := by
  rw [ntoa_eq]
  simp [List.intercalate]

theorem fb_ntoa_eq (v : Nat) (hv : v < 2 ^ 32) : FbSocket.ntoa v = ntoa v := by
  rw [ntoa_eq]; unfold FbSocket.ntoa
  have : v / 16777216 % 256 = v / 16777216 := Nat.mod_eq_of_lt (by omega)
  rw [this]

theorem octs_lt (v : Nat) (hv : v < 2 ^ 32) :
    v / 16777216 < 256 ∧ v / 65536 % 256 < 256 ∧ v / 256 % 256 < 256 ∧ v % 256 < 256 := by
  refine ⟨by omega, Nat.mod_lt _ (by decide), Nat.mod_lt _ (by decide), Nat.mod_lt _ (by decide)⟩

theorem octs_sum (v : Nat) :
    v / 16777216 * 16777216 + v / 65536 % 256 * 65536 + v / 256 % 256 * 256 + v % 256 = v := by omega

theorem mem_ntoa (v : Nat) (c : Char) (h : c ∈ ntoa v) :
    c = '.' ∨ c ∈ dec (v / 16777216) ∨ c ∈ dec (v / 65536 % 256) ∨ c ∈ dec (v / 256 % 256) ∨ c ∈ dec (v % 256) := by
  rw [ntoa_append] at h
  simp only [List.mem_append, List.mem_cons] at h
  rcases h with h | h | h | h | h | h | h <;> simp [h]

theorem ntoa_chars (v : Nat) (c : Char) (h : c ∈ ntoa v) : c = '.' ∨ isDec c = true := by
  rcases mem_ntoa v c h with h | h | h | h | h
  · exact Or.inl h
  all_goals exact Or.inr (dec_all _ c h)

theorem dot_mem_ntoa (v : Nat) : '.' ∈ ntoa v := by rw [ntoa_append]; simp

theorem ntoa_ne_nil (v : Nat) : ntoa v ≠ [] := List.ne_nil_of_mem (dot_mem_ntoa v)

theorem ntoa_ne_zero (x : Nat) : (ntoa x == ['0']) = false :=
  beq_eq_false_iff_ne.mpr fun e => by simpa [e] using dot_mem_ntoa x

theorem slash_not_in_ntoa (v : Nat) : (ntoa v).contains '/' = false :=
  Bool.eq_false_iff.mpr fun hc => by
    rcases ntoa_chars v _ (List.contains_iff_mem.mp hc) with h | h <;> exact absurd h (by decide)

theorem colon_not_in_ntoa (v : Nat) : ':' ∉ ntoa v := fun hm => by
  rcases ntoa_chars v _ hm with h | h <;> exact absurd h (by decide)

theorem split_ntoa (v : Nat) :
    (ntoa v).splitOn '.' = [dec (v / 16777216), dec (v / 65536 % 256), dec (v / 256 % 256), dec (v % 256)] := by
  rw [ntoa_eq, List.splitOn_intercalate]
  · intro l hl
    simp only [List.mem_cons, List.not_mem_nil, or_false] at hl
    rcases hl with e | e | e | e <;> subst e <;> exact fun hc => absurd (dec_all _ _ hc) (by decide)
  · simp

theorem pton4_ntoa (v : Nat) (hv : v < 2 ^ 32) : Text4.pton4 (ntoa v) = some v := by
  obtain ⟨h0, h1, h2, h3⟩ := octs_lt v hv
  unfold Text4.pton4
  rw [split_ntoa v]
  simp only [octet_dec _ h0, octet_dec _ h1, octet_dec _ h2, octet_dec _ h3]
  exact congrArg some (octs_sum v)

theorem inetPton4_eq (be : Backend) (s : List Char) : inetPton4 be s = Text4.pton4 s := by
  cases be
  · rfl
  · exact fb_pton4_eq s

theorem pton4_pieces (s : List Char) (h : (s.splitOn '.').length ≠ 4) : Text4.pton4 s = none := by
  unfold Text4.pton4
  split
  · rename_i heq
    rw [heq] at h
    exact absurd rfl h
  · rfl

theorem inetPton4_pieces (be : Backend) (toks : List (List Char)) (hd : ∀ t ∈ toks, '.' ∉ t) (hne : toks ≠ [])
    (hlen : toks.length ≠ 4) : inetPton4 be (['.'].intercalate toks) = none := by
  rw [inetPton4_eq]
  exact pton4_pieces _ (by rw [List.splitOn_intercalate _ hd hne]; exact hlen)

theorem inetPton4_ntoa (be : Backend) (v : Nat) (hv : v < 2 ^ 32) : inetPton4 be (ntoa v) = some v :=
  (inetPton4_eq be _).trans (pton4_ntoa v hv)

theorem ntoa_of_octs (a b c d : Nat) (hb : b < 256) (hc : c < 256) (hd : d < 256) :
    ntoa (a * 16777216 + b * 65536 + c * 256 + d) = ['.'].intercalate [dec a, dec b, dec c, dec d] := by
  generalize hv : a * 16777216 + b * 65536 + c * 256 + d = v
  obtain ⟨e0, e1, e2, e3⟩ : v / 16777216 = a ∧ v / 65536 % 256 = b ∧ v / 256 % 256 = c ∧ v % 256 = d := by omega
  rw [ntoa_eq, e0, e1, e2, e3]

theorem pton4_iff (s : List Char) (v : Nat) : Text4.pton4 s = some v ↔ v < 2 ^ 32 ∧ s = ntoa v := by
  constructor
  · intro h
    have hjoin := List.intercalate_splitOn (xs := s) '.'
    unfold Text4.pton4 at h
    split at h
    · rename_i a b c d heq
      split at h
      · rename_i na nb nc nd ha hb hc hd
        cases h
        obtain ⟨la, rfl⟩ := octet_canon a na ha
        obtain ⟨lb, rfl⟩ := octet_canon b nb hb
        obtain ⟨lc, rfl⟩ := octet_canon c nc hc
        obtain ⟨ld, rfl⟩ := octet_canon d nd hd
        exact ⟨by omega, by rw [ntoa_of_octs _ _ _ _ lb lc ld, ← heq, hjoin]⟩
      · cases h
    · cases h
  · rintro ⟨hv, rfl⟩
    exact pton4_ntoa v hv

theorem inetPton4_iff (be : Backend) (s : List Char) (v : Nat) : inetPton4 be s = some v ↔ v < 2 ^ 32 ∧ s = ntoa v := by
  rw [inetPton4_eq]; exact pton4_iff s v

theorem inetPton4_bad (be : Backend) (s : List Char) (c : Char) (hc : c ∈ s) (h1 : c ≠ '.') (h2 : isDec c = false) :
    inetPton4 be s = none := by
  cases h : inetPton4 be s with
  | none => rfl
  | some v =>
    obtain ⟨_, rfl⟩ := (inetPton4_iff be s v).mp h
    rcases ntoa_chars v c hc with e | e
    · exact absurd e h1
    · rw [h2] at e; cases e

end NV.C01L
