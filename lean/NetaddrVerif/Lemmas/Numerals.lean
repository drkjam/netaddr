/-
Lemmas/Numerals.lean — numerals in a base.  What `Nat.toDigits b` prints (`'%d'`, `'%x'`), and what any
reader that evaluates a digit string by Horner's rule (`Text4.ofBase`, `Py.digitsVal`, `ofHexAux` of Lemmas/Digits, …)
makes of it: the printed numeral reads back as the number, and a digit string without a leading zero
is the numeral of its value.  The four octets of a 32-bit number.  Then CPython's `int(s, base)`
(`Py.pyInt`): its stages in one equation (`PyL.pyInt_eq`), and from it the value on a string of plain digits after
an optional sign.
-/
import NetaddrVerif.Model.PyRuntime
import NetaddrVerif.Lemmas.ListText
namespace NV

/-! ### the characters and the length of a printed numeral -/

theorem toDigits_all {b : Nat} (hb : 1 < b) (P : Char → Prop) (hP : ∀ d, d < b → P (Nat.digitChar d)) (n : Nat) :
    ∀ c ∈ Nat.toDigits b n, P c := by
  induction n using Nat.strongRecOn with
  | ind n ih =>
    rw [Nat.toDigits_eq_if hb]
    intro c hc
    split at hc
    · rw [List.mem_singleton.mp hc]; exact hP n ‹_›
    · rcases List.mem_append.mp hc with hc | hc
      · exact ih (n / b) (Nat.div_lt_self (by omega) hb) c hc
      · rw [List.mem_singleton.mp hc]; exact hP _ (Nat.mod_lt _ (by omega))

theorem toDigits_digitChar {b : Nat} (hb : 1 < b) (n : Nat) :
    ∀ c ∈ Nat.toDigits b n, ∃ d, d < b ∧ c = Nat.digitChar d :=
  toDigits_all hb _ (fun d hd => ⟨d, hd, rfl⟩) n

theorem toDigits_head {b : Nat} (hb : 1 < b) (n : Nat) (hn : n ≠ 0) : (Nat.toDigits b n).head? ≠ some '0' := by
  induction n using Nat.strongRecOn with
  | ind n ih =>
    rw [Nat.toDigits_eq_if hb]
    split
    · simpa using hn
    · have ih' := ih (n / b) (Nat.div_lt_self (by omega) hb) (Nat.div_ne_zero_iff.mpr ⟨by omega, by omega⟩)
      cases hq : Nat.toDigits b (n / b) with
      | nil => exact absurd hq Nat.toDigits_ne_nil
      | cons a t => rw [hq] at ih'; exact ih'

theorem toDigits_lead {b : Nat} (hb : 1 < b) (n : Nat) :
    (Nat.toDigits b n).length = 1 ∨ (Nat.toDigits b n).head? ≠ some '0' := by
  by_cases h0 : n = 0
  · subst h0; exact Or.inl (by rw [Nat.toDigits_zero]; rfl)
  · exact Or.inr (toDigits_head hb n h0)

theorem toDigits_length {b : Nat} (hb : 1 < b) (n : Nat) (hn : n ≠ 0) :
    b ^ ((Nat.toDigits b n).length - 1) ≤ n ∧ n < b ^ (Nat.toDigits b n).length := by
  have hpos : 0 < (Nat.toDigits b n).length := Nat.length_toDigits_pos
  refine ⟨?_, (Nat.length_toDigits_le_iff hb hpos).mp (Nat.le_refl _)⟩
  by_cases h1 : (Nat.toDigits b n).length - 1 = 0
  · rw [h1]; exact Nat.pos_of_ne_zero hn
  · apply Nat.le_of_not_lt
    intro h
    have := (Nat.length_toDigits_le_iff hb (Nat.pos_of_ne_zero h1)).mpr h
    omega

/-- `not_mem_toDigits_ten (by decide) n` for `'.'`, `':'`, `'/'`, `'-'`, …; every `dec` of the models unfolds to
    `Nat.toDigits 10` -/
theorem not_mem_toDigits_ten {c : Char} (h : c.isDigit = false) (n : Nat) : c ∉ Nat.toDigits 10 n :=
  fun hm => Bool.false_ne_true (h.symm.trans (Nat.isDigit_of_mem_toDigits (by decide) (by decide) hm))

/-! ### Horner's rule, with any reader `f` of single digits -/

/-- what an accumulator does to a Horner fold: it is shifted past the digits, which are read as from 0 -/
theorem foldl_horner_acc {α : Type} (b : Nat) (f : α → Nat) (t : List α) (acc : Nat) :
    t.foldl (fun a x => a * b + f x) acc = acc * b ^ t.length + t.foldl (fun a x => a * b + f x) 0 := by
  induction t generalizing acc with
  | nil => simp
  | cons x r ih =>
    rw [List.foldl_cons, List.foldl_cons, ih, ih (0 * b + f x), List.length_cons, Nat.pow_succ, Nat.zero_mul, Nat.zero_add,
      Nat.add_mul, Nat.mul_assoc, Nat.mul_comm b, Nat.add_assoc]

theorem foldl_base_lt {α} (b : Nat) (f : α → Nat) (t : List α) (h : ∀ c ∈ t, f c < b) (acc : Nat) :
    t.foldl (fun a c => a * b + f c) acc < (acc + 1) * b ^ t.length := by
  induction t generalizing acc with
  | nil => simp
  | cons c r ih =>
    have hc := h c (List.mem_cons_self ..)
    simp only [List.foldl_cons, List.length_cons, Nat.pow_succ]
    calc _ < (acc * b + f c + 1) * b ^ r.length := ih (fun x hx => h x (List.mem_cons_of_mem _ hx)) _
      _ ≤ ((acc + 1) * b) * b ^ r.length := Nat.mul_le_mul_right _ (by rw [Nat.succ_mul]; omega)
      _ = (acc + 1) * (b ^ r.length * b) := by rw [Nat.mul_assoc, Nat.mul_comm b]

/-- print, then read: the numeral of `n` reads back as `n` -/
theorem foldl_toDigits_zero {b : Nat} (hb : 1 < b) (f : Char → Nat) (hf : ∀ d, d < b → f (Nat.digitChar d) = d)
    (n : Nat) : (Nat.toDigits b n).foldl (fun a c => a * b + f c) 0 = n := by
  induction n using Nat.strongRecOn with
  | ind n ih =>
    rw [Nat.toDigits_eq_if hb]
    split
    · next h => simp [hf n h]
    · next h =>
      rw [List.foldl_append, ih _ (Nat.div_lt_self (by omega) hb), List.foldl_cons, List.foldl_nil,
        hf _ (Nat.mod_lt n (by omega : 0 < b)), Nat.mul_comm, Nat.div_add_mod]

/-- … after an accumulator -/
theorem foldl_toDigits {b : Nat} (hb : 1 < b) (f : Char → Nat) (hf : ∀ d, d < b → f (Nat.digitChar d) = d)
    (n acc : Nat) :
    (Nat.toDigits b n).foldl (fun a c => a * b + f c) acc = acc * b ^ (Nat.toDigits b n).length + n := by
  rw [foldl_horner_acc, foldl_toDigits_zero hb f hf]

theorem foldl_zeros (b : Nat) (f : Char → Nat) (hf : f '0' = 0) (k : Nat) (t : List Char) (acc : Nat) :
    (List.replicate k '0' ++ t).foldl (fun a c => a * b + f c) acc =
      t.foldl (fun a c => a * b + f c) (acc * b ^ k) := by
  induction k generalizing acc with
  | zero => rw [Nat.pow_zero, Nat.mul_one]; rfl
  | succ k ih =>
    rw [List.replicate_succ, List.cons_append, List.foldl_cons, ih, hf, Nat.add_zero, Nat.pow_succ', Nat.mul_assoc]

/-- read, then print: digits appended to the numeral of a positive number -/
theorem toDigits_foldl {b : Nat} (hb : 1 < b) (f : Char → Nat) (hf : ∀ d, d < b → f (Nat.digitChar d) = d)
    (t : List Char) (ht : ∀ c ∈ t, ∃ d, d < b ∧ c = Nat.digitChar d) (acc : Nat) (hacc : 0 < acc) :
    Nat.toDigits b (t.foldl (fun a c => a * b + f c) acc) = Nat.toDigits b acc ++ t := by
  induction t generalizing acc with
  | nil => simp
  | cons c r ih =>
    obtain ⟨d, hd, rfl⟩ := ht c (by simp)
    rw [List.foldl_cons, hf d hd, ih (fun x hx => ht x (by simp [hx])) _ (Nat.add_pos_left (Nat.mul_pos hacc (by omega)) _),
      Nat.mul_comm, ← Nat.toDigits_append_toDigits hb hacc hd, Nat.toDigits_of_lt_base hd, List.append_assoc]
    rfl

/-- a digit string that is a single digit or does not start with `'0'` is the numeral of its value -/
theorem toDigits_foldl_zero {b : Nat} (hb : 1 < b) (f : Char → Nat) (hf : ∀ d, d < b → f (Nat.digitChar d) = d)
    (c : Char) (r : List Char) (ht : ∀ x ∈ c :: r, ∃ d, d < b ∧ x = Nat.digitChar d) (h0 : r = [] ∨ c ≠ '0') :
    Nat.toDigits b ((c :: r).foldl (fun a c => a * b + f c) 0) = c :: r := by
  obtain ⟨d, hd, rfl⟩ := ht c (by simp)
  rw [List.foldl_cons, hf d hd, Nat.zero_mul, Nat.zero_add]
  by_cases hd0 : d = 0
  · rcases h0 with h | h
    · subst h; exact Nat.toDigits_of_lt_base hd
    · exact absurd (Nat.digitChar_eq_zero.mpr hd0) h
  · rw [toDigits_foldl hb f hf r (fun x hx => ht x (by simp [hx])) d (by omega), Nat.toDigits_of_lt_base hd]
    rfl

/-! ### base 256 -/

theorem quad_digits {w x y z : Nat} (hw : w < 256) (hx : x < 256) (hy : y < 256) (hz : z < 256) (a : Nat) :
    a = w * 2 ^ 24 + x * 2 ^ 16 + y * 2 ^ 8 + z ↔
      a < 2 ^ 32 ∧ a / 2 ^ 24 % 256 = w ∧ a / 2 ^ 16 % 256 = x ∧ a / 2 ^ 8 % 256 = y ∧ a % 256 = z := by
  omega

/-! ### whitespace stripping -/

theorem stripWs_id (s : List Char) (h : ∀ c ∈ s, Py.isWs c = false) : Py.stripWs s = s := by
  unfold Py.stripWs
  rw [dropWhile_none _ s h, dropWhile_none _ s.reverse (fun c hc => h c (List.mem_reverse.mp hc)), List.reverse_reverse]

theorem stripWs_decomp (s : List Char) : ∃ pre post, s = pre ++ Py.stripWs s ++ post ∧
    (∀ c ∈ pre, Py.isWs c = true) ∧ (∀ c ∈ post, Py.isWs c = true) := by
  refine ⟨s.takeWhile Py.isWs, (((s.dropWhile Py.isWs).reverse).takeWhile Py.isWs).reverse, ?_, ?_, ?_⟩
  · unfold Py.stripWs
    rw [List.append_assoc, ← List.reverse_append, List.takeWhile_append_dropWhile, List.reverse_reverse,
      List.takeWhile_append_dropWhile]
  · exact List.all_eq_true.1 List.all_takeWhile
  · intro c hc
    rw [List.mem_reverse] at hc
    exact List.all_eq_true.1 List.all_takeWhile c hc

theorem stripWs_mid (pre m post : List Char) (hpre : ∀ c ∈ pre, Py.isWs c = true)
    (hpost : ∀ c ∈ post, Py.isWs c = true) (hh : ∃ a m', m = a :: m' ∧ Py.isWs a = false)
    (hl : ∃ m' b, m = m' ++ [b] ∧ Py.isWs b = false) : Py.stripWs (pre ++ m ++ post) = m := by
  unfold Py.stripWs
  rw [List.append_assoc, List.dropWhile_append_of_pos hpre]
  have h1 : (m ++ post).dropWhile Py.isWs = m ++ post := by
    obtain ⟨a, m', rfl, ha⟩ := hh
    rw [List.cons_append, List.dropWhile_cons_of_neg (by simp [ha])]
  rw [h1, List.reverse_append,
    List.dropWhile_append_of_pos (fun c hc => hpost c (List.mem_reverse.mp hc))]
  obtain ⟨m', b, rfl, hb⟩ := hl
  rw [List.reverse_append, List.reverse_singleton, List.singleton_append,
    List.dropWhile_cons_of_neg (by simp [hb])]
  simp

end NV

/-! ### `int(s, base)` -/

namespace NV.PyL
open NV.Py

/-- positional value, most significant digit first (digits outside the base count 0) -/
def digitsNat (base : Nat) (s : List Char) (acc : Nat) : Nat :=
  s.foldl (fun a c => a * base + (digitVal base c).getD 0) acc

theorem ite_lt_some {b v d : Nat} (h : (if v < b then some v else none) = some d) : v = d ∧ d < b := by
  split at h
  · cases h; exact ⟨rfl, ‹_›⟩
  · cases h

theorem digitVal_dec {b : Nat} {c : Char} (h : '0' ≤ c ∧ c ≤ '9') (hb : c.toNat - 48 < b) :
    digitVal b c = some (c.toNat - 48) := by
  rw [digitVal, if_pos h]; exact if_pos hb

theorem digitVal_cases {b : Nat} {c : Char} {d : Nat} (h : digitVal b c = some d) :
    d < b ∧ (48 ≤ c.toNat ∧ c.toNat ≤ 57 ∧ d = c.toNat - 48 ∨ 97 ≤ c.toNat ∧ c.toNat ≤ 102 ∧ d = c.toNat - 97 + 10 ∨
      65 ≤ c.toNat ∧ c.toNat ≤ 70 ∧ d = c.toNat - 65 + 10) := by
  unfold digitVal at h
  by_cases h1 : '0' ≤ c ∧ c ≤ '9'
  · rw [if_pos h1] at h
    exact ⟨(ite_lt_some h).2, Or.inl ⟨h1.1, h1.2, (ite_lt_some h).1.symm⟩⟩
  · rw [if_neg h1] at h
    by_cases h2 : 'a' ≤ c ∧ c ≤ 'f'
    · rw [if_pos h2] at h
      exact ⟨(ite_lt_some h).2, Or.inr (Or.inl ⟨h2.1, h2.2, (ite_lt_some h).1.symm⟩)⟩
    · rw [if_neg h2] at h
      by_cases h3 : 'A' ≤ c ∧ c ≤ 'F'
      · rw [if_pos h3] at h
        exact ⟨(ite_lt_some h).2, Or.inr (Or.inr ⟨h3.1, h3.2, (ite_lt_some h).1.symm⟩)⟩
      · rw [if_neg h3] at h
        cases h

theorem digitVal_some {b : Nat} {c : Char} {d : Nat} (h : digitVal b c = some d) :
    d < b ∧ (48 ≤ c.toNat ∧ c.toNat ≤ 57 ∨ 97 ≤ c.toNat ∧ c.toNat ≤ 102 ∨ 65 ≤ c.toNat ∧ c.toNat ≤ 70) :=
  (digitVal_cases h).imp_right (Or.imp (fun h => ⟨h.1, h.2.1⟩) (Or.imp (fun h => ⟨h.1, h.2.1⟩) fun h => ⟨h.1, h.2.1⟩))

theorem digitChar_val : ∀ d, d < 16 → digitVal 16 (Nat.digitChar d) = some d ∧
    digitVal 16 (Nat.digitChar d).toUpper = some d := by decide +kernel

theorem digit_ne {b : Nat} {c : Char} {d : Nat} (h : digitVal b c = some d) (x : Char)
    (hx : ¬ (48 ≤ x.toNat ∧ x.toNat ≤ 57 ∨ 97 ≤ x.toNat ∧ x.toNat ≤ 102 ∨ 65 ≤ x.toNat ∧ x.toNat ≤ 70)) : c ≠ x :=
  fun e => hx (e ▸ (digitVal_some h).2)

theorem digit_ascii {b : Nat} {c : Char} {d : Nat} (h : digitVal b c = some d) : ¬ c.toNat > 127 := by
  obtain ⟨_, h⟩ | ⟨_, h⟩ | ⟨_, h⟩ := (digitVal_some h).2 <;> exact Nat.not_lt.mpr (Nat.le_trans h (by decide))

theorem digit_not_ws {b : Nat} {c : Char} {d : Nat} (h : digitVal b c = some d) : isWs c = false := by
  have hn := digit_ne h
  simp only [isWs, Bool.or_eq_false_iff, beq_eq_false_iff_ne]
  exact ⟨⟨⟨⟨⟨hn ' ' (by decide), hn '\t' (by decide)⟩, hn '\n' (by decide)⟩, hn '\r' (by decide)⟩,
    hn '\x0b' (by decide)⟩, hn '\x0c' (by decide)⟩

/-- what a digit cannot be, in any base (`digit_plain`) -/
def PlainChar (c : Char) : Prop :=
  isWs c = false ∧ c ≠ '+' ∧ c ≠ '-' ∧ c ≠ '_' ∧ c ≠ 'x' ∧ c ≠ 'X' ∧ ¬ (c.toNat > 127)

theorem digit_plain {b : Nat} {c : Char} {d : Nat} (h : digitVal b c = some d) : PlainChar c :=
  have hn := digit_ne h
  ⟨digit_not_ws h, hn '+' (by decide), hn '-' (by decide), hn '_' (by decide), hn 'x' (by decide), hn 'X' (by decide),
    digit_ascii h⟩

/-- a digit is not the letter of its base's prefix (`0b`, `0o`, `0x`): `b` is a digit, but not of base 2 -/
theorem digit_not_pref {b : Nat} {c : Char} {d : Nat} (h : digitVal b c = some d) :
    c ∉ (if b = 2 then ['b', 'B'] else if b = 8 then ['o', 'O'] else if b = 16 then ['x', 'X'] else []) := by
  have hn := digit_ne h
  have two : ∀ x y : Char, c ≠ x → c ≠ y → c ∉ [x, y] := fun x y hx hy hm => by
    rcases List.mem_cons.mp hm with e | hm
    · exact hx e
    · exact hy (List.mem_singleton.mp hm)
  split
  · next hb =>
    subst hb
    exact two _ _ (fun e => by rw [e, show digitVal 2 'b' = none by decide] at h; cases h)
      (fun e => by rw [e, show digitVal 2 'B' = none by decide] at h; cases h)
  · split
    · exact two _ _ (hn 'o' (by decide)) (hn 'O' (by decide))
    · split
      · exact two _ _ (hn 'x' (by decide)) (hn 'X' (by decide))
      · exact List.not_mem_nil

theorem digitsNat_append (base : Nat) (s t : List Char) (acc : Nat) :
    digitsNat base (s ++ t) acc = digitsNat base t (digitsNat base s acc) := by
  simp [digitsNat, List.foldl_append]

theorem digitsNat_lt {b : Nat} (hb : 0 < b) (s : List Char) (acc : Nat) :
    digitsNat b s acc < (acc + 1) * b ^ s.length :=
  foldl_base_lt b (fun c => (digitVal b c).getD 0) s (fun c _ => by
    cases h : digitVal b c with
    | none => exact hb
    | some d => exact (digitVal_some h).1) acc

theorem digitsNat_zero_lt {b : Nat} (hb : 0 < b) (s : List Char) {k : Nat} (h : s.length ≤ k) :
    digitsNat b s 0 < b ^ k :=
  Nat.lt_of_lt_of_le (by simpa using digitsNat_lt hb s 0) (Nat.pow_le_pow_right hb h)

/-- digits without underscores: the left fold -/
theorem digitsVal_plain (base : Nat) (s : List Char) (h : ∀ c ∈ s, ∃ d, digitVal base c = some d) :
    ∀ acc prev, digitsVal base s acc prev =
      if s = [] then (if prev then some acc else none) else some (digitsNat base s acc) := by
  induction s with
  | nil => intro acc prev; rfl
  | cons c t ih =>
    intro acc prev
    obtain ⟨d, hd⟩ := h c (List.mem_cons_self ..)
    rw [digitsVal, if_neg (by simpa using digit_ne hd '_' (by decide)), hd]
    dsimp only
    rw [ih (fun x hx => h x (List.mem_cons_of_mem _ hx)),
      if_neg (List.cons_ne_nil _ _), digitsNat, digitsNat, List.foldl_cons, hd]
    split
    · next ht => subst ht; rfl
    · rfl

/-- the sign step of `pyInt`: whether a `-` was taken off, and the rest -/
def signSplit : List Char → Bool × List Char
  | [] => (false, [])
  | c :: r => if c == '+' then (false, r) else if c == '-' then (true, r) else (false, c :: r)

/-- the prefix step of `pyInt`: `0b` / `0o` / `0x` (bases 2, 8, 16 only) and one `_` behind it are dropped -/
def dropPref (base : Nat) (t : List Char) : List Char :=
  match t with
  | '0' :: p :: r' =>
    if (if base = 2 then ['b', 'B'] else if base = 8 then ['o', 'O']
      else if base = 16 then ['x', 'X'] else []).contains p
    then (match r' with | '_' :: r'' => r'' | _ => r') else t
  | _ => t

theorem digitsVal_nil (base acc : Nat) : digitsVal base [] acc false = none := by
  simp [digitsVal]

/-- `int(s, base)` stage by stage: ASCII only, blanks stripped, sign, prefix, digits.  (The model's own test
    for an empty rest is absorbed by `digitsVal`, which refuses the empty string.) -/
theorem pyInt_eq (base : Nat) (s : List Char) : pyInt base s =
    if s.any (fun c => c.toNat > 127) then none else
    match digitsVal base (dropPref base (signSplit (stripWs s)).2) 0 false with
    | some v => some (if (signSplit (stripWs s)).1 then -(v : Int) else v)
    | none => none := by
  unfold pyInt
  by_cases ha : (s.any fun c => decide (c.toNat > 127)) = true
  · rw [if_pos ha, if_pos ha]
  · rw [if_neg ha, if_neg ha]
    generalize stripWs s = t
    have fin : ∀ (neg : Bool) (u : List Char),
        (match u with
          | [] => none
          | _ => match digitsVal base u 0 false with
            | some v => some (if neg then -(v : Int) else v)
            | none => none) =
        (match digitsVal base u 0 false with
          | some v => some (if neg then -(v : Int) else v)
          | none => none) := by
      intro neg u
      cases u with
      | nil => rw [digitsVal_nil]
      | cons a b => rfl
    cases t with
    | nil => exact (digitsVal_nil base 0).symm ▸ rfl
    | cons c r =>
      -- the outcome of the sign step stays a variable: no case split on the first character
      dsimp only
      rw [signSplit]
      generalize (if c == '+' then (false, r) else if c == '-' then (true, r) else (false, c :: r)) = p
      exact fin p.1 (dropPref base p.2)

/-- a digit is not the letter of the base's prefix, so digits pass the prefix step unchanged -/
theorem dropPref_digits {base : Nat} {t : List Char} (h : ∀ c ∈ t, ∃ d, digitVal base c = some d) :
    dropPref base t = t := by
  unfold dropPref
  split
  · next p r' =>
    obtain ⟨d, hd⟩ := h p (List.mem_cons_of_mem _ (List.mem_cons_self ..))
    rw [if_neg fun hp => digit_not_pref hd (List.contains_iff_mem.mp hp)]
  · rfl

/-- a sign in front of a digit is taken off, a digit is left in place -/
theorem signSplit_append {base : Nat} {sign : List Char} {neg : Bool}
    (hs : sign = [] ∧ neg = false ∨ sign = ['+'] ∧ neg = false ∨ sign = ['-'] ∧ neg = true)
    {c : Char} {d : Nat} (hd : digitVal base c = some d) (r : List Char) :
    signSplit (sign ++ c :: r) = (neg, c :: r) := by
  rcases hs with ⟨rfl, rfl⟩ | ⟨rfl, rfl⟩ | ⟨rfl, rfl⟩
  · rw [List.nil_append, signSplit, if_neg (by simpa using digit_ne hd '+' (by decide)),
      if_neg (by simpa using digit_ne hd '-' (by decide))]
  · rfl
  · rfl

/-- `int(sign + s, base)` on a non-empty string `s` of digits of the base, with no whitespace, underscore
    or prefix, after an optional sign: the positional value of the digits, negated after `-` -/
theorem pyInt_signed (base : Nat) (sign : List Char) (neg : Bool)
    (hs : sign = [] ∧ neg = false ∨ sign = ['+'] ∧ neg = false ∨ sign = ['-'] ∧ neg = true)
    (s : List Char) (hne : s ≠ []) (h : ∀ c ∈ s, ∃ d, digitVal base c = some d) :
    pyInt base (sign ++ s) =
      some (if neg then -(digitsNat base s 0 : Int) else (digitsNat base s 0 : Int)) := by
  have hsg : ∀ c ∈ sign, ¬ c.toNat > 127 ∧ isWs c = false := by
    rcases hs with ⟨rfl, _⟩ | ⟨rfl, _⟩ | ⟨rfl, _⟩ <;> decide
  have hasc : (sign ++ s).any (fun c => decide (c.toNat > 127)) = false := by
    rw [List.any_eq_false]
    intro c hc
    rcases List.mem_append.mp hc with hc | hc
    · exact fun hgt => (hsg c hc).1 (of_decide_eq_true hgt)
    · obtain ⟨d, hd⟩ := h c hc
      exact fun hgt => digit_ascii hd (of_decide_eq_true hgt)
  have hws : ∀ c ∈ sign ++ s, isWs c = false := fun c hc =>
    (List.mem_append.mp hc).elim (fun hc => (hsg c hc).2) (fun hc => (h c hc).elim fun d hd => digit_not_ws hd)
  have hsp : signSplit (sign ++ s) = (neg, s) := by
    match s, hne, h with
    | c :: r, _, h => exact (h c (List.mem_cons_self ..)).elim fun d hd => signSplit_append hs hd r
  rw [pyInt_eq, hasc, stripWs_id _ hws, hsp, dropPref_digits h, digitsVal_plain base s h, if_neg hne]
  rfl

theorem pyInt_digits (base : Nat) (s : List Char) (hne : s ≠ []) (h : ∀ c ∈ s, ∃ d, digitVal base c = some d) :
    pyInt base s = some (Int.ofNat (digitsNat base s 0)) :=
  pyInt_signed base [] false (Or.inl ⟨rfl, rfl⟩) s hne h

end NV.PyL
