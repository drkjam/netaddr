/-
Lemmas/NetworkL.lean — what the functions of `Model/Network` compute (C02 and its users): the masks and the mask predicates in
closed form, first and last address, `netmask_bits`, the generated prefix tables as graphs of the masks, the three setters.
The clauses of property C02 that lemma files of other properties use stand here, in the property's namespace (`C02.…`).
-/
import NetaddrVerif.Model.Network
import NetaddrVerif.Lemmas.Bitwise
namespace NV

/-! ### the masks in closed form -/

theorem hostmaskInt_eq (w p : Nat) : hostmaskInt w p = 2 ^ (w - p) - 1 := by
  rw [hostmaskInt, Nat.shiftLeft_eq, Nat.one_mul]

theorem pow_sub_le (w p : Nat) : 2 ^ (w - p) ≤ 2 ^ w := Nat.pow_le_pow_right (by decide) (Nat.sub_le w p)

theorem netmaskInt_eq (w p : Nat) : netmaskInt w p = 2 ^ w - 2 ^ (w - p) := by
  rw [netmaskInt, hostmaskInt_eq, Nat.xor_comm,
    xor_allones w _ (Nat.lt_of_lt_of_le (Nat.sub_one_lt (Nat.ne_of_gt (Nat.two_pow_pos _))) (pow_sub_le w p)),
    Nat.sub_sub_sub_cancel_right (Nat.two_pow_pos _)]

theorem netHostmask_eq (w p : Nat) : netHostmask w p = 2 ^ (w - p) - 1 := hostmaskInt_eq w p

theorem netNetmask_eq (w p : Nat) : netNetmask w p = 2 ^ w - 2 ^ (w - p) := netmaskInt_eq w p

theorem netNetmask_lt (w p : Nat) : netNetmask w p < 2 ^ w := by
  rw [netNetmask_eq]; exact Nat.sub_lt (Nat.two_pow_pos w) (Nat.two_pow_pos _)

theorem sub_left_cancel {n a b : Nat} (ha : a ≤ n) (hb : b ≤ n) (h : n - a = n - b) : a = b := by
  rw [← Nat.sub_sub_self ha, h, Nat.sub_sub_self hb]

theorem netHostmask_inj (w p q : Nat) (hp : p ≤ w) (hq : q ≤ w) (h : netHostmask w q = netHostmask w p) :
    q = p := by
  have h' : hostmaskInt w q = hostmaskInt w p := h
  rw [hostmaskInt_eq, hostmaskInt_eq] at h'
  have h2 : 2 ^ (w - q) = 2 ^ (w - p) := by
    rw [← Nat.sub_add_cancel (Nat.two_pow_pos (w - q)), h', Nat.sub_add_cancel (Nat.two_pow_pos _)]
  exact sub_left_cancel hq hp ((Nat.pow_right_inj (by decide)).1 h2)

theorem netNetmask_inj (w p q : Nat) (hp : p ≤ w) (hq : q ≤ w) (h : netNetmask w q = netNetmask w p) :
    q = p := by
  have h' : netmaskInt w q = netmaskInt w p := h
  rw [netmaskInt_eq, netmaskInt_eq] at h'
  exact sub_left_cancel hq hp ((Nat.pow_right_inj (by decide)).1
    (sub_left_cancel (pow_sub_le w q) (pow_sub_le w p) h'))

/-! ### the mask predicates (property C02 names the two iffs) -/

theorem C02.isHostmask_iff (v : Nat) : isHostmask v = true ↔ ∃ k, v = 2 ^ k - 1 :=
  beq_iff_eq.trans (hostmask_iff v)

/-- `is_netmask` holds exactly for the `w+1` contiguous netmasks -/
theorem C02.isNetmask_iff (w v : Nat) (hv : v < 2 ^ w) :
    isNetmask w v = true ↔ ∃ p, p ≤ w ∧ v = netNetmask w p := by
  refine beq_iff_eq.trans ((netmask_iff w v hv).trans ?_)
  have key : ∀ p, netNetmask w p = 2 ^ w - 1 - (2 ^ (w - p) - 1) := fun p => by
    rw [Nat.sub_sub_sub_cancel_right (Nat.two_pow_pos _)]; exact netNetmask_eq w p
  constructor
  · rintro ⟨k, hk, rfl⟩
    exact ⟨w - k, Nat.sub_le w k, by rw [key, Nat.sub_sub_self hk]⟩
  · rintro ⟨p, hp, rfl⟩
    exact ⟨w - p, Nat.sub_le w p, key p⟩

theorem isNetmask_netNetmask (w p : Nat) (hp : p ≤ w) : isNetmask w (netNetmask w p) = true :=
  (C02.isNetmask_iff w _ (netNetmask_lt w p)).2 ⟨p, hp, rfl⟩

/-! ### the hostmask of a prefix, beside its netmask -/

theorem netHostmask_lt (w p : Nat) : netHostmask w p < 2 ^ w := by
  rw [netHostmask_eq]
  exact Nat.lt_of_lt_of_le (Nat.sub_one_lt (Nat.ne_of_gt (Nat.two_pow_pos _))) (pow_sub_le w p)

theorem isHostmask_netHostmask (w p : Nat) : isHostmask (netHostmask w p) = true :=
  (C02.isHostmask_iff _).2 ⟨w - p, netHostmask_eq w p⟩

theorem hostmask_zero (w : Nat) : netHostmask w 0 = netNetmask w w := by
  rw [netHostmask_eq, netNetmask_eq, Nat.sub_self, Nat.sub_zero, Nat.pow_zero]

theorem hostmask_full (w : Nat) : netHostmask w w = netNetmask w 0 := by
  rw [netHostmask_eq, netNetmask_eq, Nat.sub_zero, Nat.sub_self (2 ^ w), Nat.sub_self w]

theorem hostmask_ends (w p : Nat) (h : p = 0 ∨ p = w) : netHostmask w p = netNetmask w (w - p) := by
  rcases h with h | h <;> subst h
  · rw [Nat.sub_zero]; exact hostmask_zero _
  · rw [Nat.sub_self]; exact hostmask_full _

/-- a hostmask is a netmask at the two ends only: strictly between `/0` and the full width it is odd, and the
    only odd netmask is all-ones -/
theorem isNetmask_netHostmask (w p : Nat) (hp : p ≤ w) : isNetmask w (netHostmask w p) = true ↔ p = 0 ∨ p = w := by
  refine ⟨fun h => ?_, fun h => by rw [hostmask_ends w p h]; exact isNetmask_netNetmask w _ (Nat.sub_le w p)⟩
  apply Decidable.byContradiction
  intro hne
  have h0 : 0 < p := by omega
  have hw : p < w := by omega
  clear hne hp
  obtain ⟨q, hq, e⟩ := (C02.isNetmask_iff w _ (netHostmask_lt w p)).1 h
  rw [netHostmask_eq, netNetmask_eq] at e
  have double : ∀ k, 0 < k → 2 ^ k = 2 * 2 ^ (k - 1) := by
    intro k hk
    rw [← Nat.pow_succ']
    congr 1
    omega
  have e1 := double (w - p) (by omega)
  have e2 := double w (by omega)
  have pos := Nat.two_pow_pos (w - p - 1)
  by_cases hk : w - q = 0
  · rw [hk, Nat.pow_zero] at e
    have := Nat.pow_lt_pow_right (a := 2) (by decide) (show w - p < w by omega)
    omega
  · have e3 := double (w - q) (by omega)
    omega

/-- `C02.isHostmask_iff` with the width: the twin of `C02.isNetmask_iff` -/
theorem isHostmask_iff_le (w m : Nat) (hm : m < 2 ^ w) :
    isHostmask m = true ↔ ∃ p, p ≤ w ∧ m = netHostmask w p := by
  refine ⟨fun h => ?_, fun ⟨p, _, e⟩ => e ▸ isHostmask_netHostmask w p⟩
  obtain ⟨k, rfl⟩ := (C02.isHostmask_iff m).mp h
  have hk : k ≤ w := by
    apply Nat.le_of_not_lt
    intro hlt
    have : 2 ^ (w + 1) ≤ 2 ^ k := Nat.pow_le_pow_right (by decide) hlt
    rw [Nat.pow_succ] at this
    omega
  refine ⟨w - k, Nat.sub_le w k, ?_⟩
  rw [netHostmask_eq, Nat.sub_sub_self hk]

/-! ### first and last address -/

theorem netFirst_eq (w v p : Nat) (hv : v < 2 ^ w) : netFirst w v p = v / 2 ^ (w - p) * 2 ^ (w - p) := by
  rw [netFirst, hostmaskInt_eq]; exact and_netmask w (w - p) v hv (Nat.sub_le w p)

theorem netLast_eq (w v p : Nat) : netLast w v p = v / 2 ^ (w - p) * 2 ^ (w - p) + (2 ^ (w - p) - 1) := by
  rw [netLast, Nat.shiftLeft_eq, Nat.one_mul]; exact or_hostmask (w - p) v

/-- `last = first + hostmask`: netaddr's two spellings of `last` agree (on raw bit expressions: `last_eq_first_add`) -/
theorem netLast_eq_add (w v p : Nat) (hv : v < 2 ^ w) : netLast w v p = netFirst w v p + (2 ^ (w - p) - 1) := by
  rw [netLast_eq, netFirst_eq w v p hv]

theorem netSize_eq (w v p : Nat) (hv : v < 2 ^ w) : netSize w v p = 2 ^ (w - p) := by
  rw [netSize, netLast_eq_add w v p hv, Nat.add_sub_cancel_left, Nat.sub_add_cancel (Nat.two_pow_pos _)]

theorem netFirst_le_netLast (w v p : Nat) : netFirst w v p ≤ netLast w v p :=
  Nat.le_trans Nat.and_le_left Nat.left_le_or

theorem netFirst_lt (w v p : Nat) (hv : v < 2 ^ w) : netFirst w v p < 2 ^ w :=
  Nat.lt_of_le_of_lt Nat.and_le_left hv

theorem netLast_lt (w v p : Nat) (hv : v < 2 ^ w) : netLast w v p < 2 ^ w := by
  -- `last` is `value | hostmask`, two numbers below `2^w`
  unfold netLast
  rw [Nat.shiftLeft_eq, Nat.one_mul]
  exact Nat.or_lt_two_pow hv
    (Nat.lt_of_lt_of_le (Nat.sub_one_lt (Nat.ne_of_gt (Nat.two_pow_pos _))) (pow_sub_le w p))

theorem netNetwork_eq_first (w v p : Nat) : netNetwork w v p = netFirst w v p := rfl

theorem block_lt (w v p : Nat) (hv : v < 2 ^ w) (hp : p ≤ w) :
    v / 2 ^ (w - p) * 2 ^ (w - p) + 2 ^ (w - p) ≤ 2 ^ w := by
  rw [← Nat.succ_mul, ← Nat.pow_sub_mul_pow 2 (Nat.sub_le w p)]
  apply Nat.mul_le_mul_right
  rw [← Nat.pow_sub_mul_pow 2 (Nat.sub_le w p)] at hv
  exact Nat.div_lt_of_lt_mul (by rwa [Nat.mul_comm])

/-! ### `netmask_bits`: its trailing-zero count, then the function (property C02 names the two results) -/

theorem tzAux_odd (f v : Nat) (hv : v % 2 = 1) : tzAux (f + 1) v = 0 := by
  rw [tzAux, if_pos hv, ite_self]

theorem tzAux_two_mul (f v : Nat) (hv : 0 < v) : tzAux (f + 1) (2 * v) = 1 + tzAux f v := by
  rw [tzAux, if_neg (Nat.ne_of_gt (Nat.mul_pos (by decide) hv)), Nat.mul_mod_right,
    if_neg (by decide), Nat.mul_div_cancel_left v (by decide)]

theorem tzAux_pow_mul (k j : Nat) : ∀ f, k < f → tzAux f (2 ^ k * (2 * j + 1)) = k := by
  induction k with
  | zero =>
    intro f hf
    match f, hf with
    | f + 1, _ => exact tzAux_odd f _ (by rw [Nat.pow_zero, Nat.one_mul, Nat.mul_add_mod])
  | succ k ih =>
    intro f hf
    match f, hf with
    | f + 1, hf =>
      rw [Nat.pow_succ, Nat.mul_comm (2 ^ k), Nat.mul_assoc,
        tzAux_two_mul f _ (Nat.mul_pos (Nat.two_pow_pos k) (Nat.succ_pos _)), ih f (Nat.lt_of_succ_lt_succ hf),
        Nat.add_comm]

/-- `v` halvings exhaust `v`: more fuel changes nothing -/
theorem tzAux_fuel (f : Nat) : ∀ v, v ≤ f → tzAux (f + 1) v = tzAux f v := by
  induction f with
  | zero =>
    intro v hv
    rw [Nat.le_zero.1 hv]
    rfl
  | succ f ih =>
    intro v hv
    rw [tzAux.eq_2 v (f + 1), tzAux.eq_2 v f, ih (v / 2) (by omega)]

theorem trailingZeros_pow_mul (k j : Nat) : trailingZeros (2 ^ k * (2 * j + 1)) = k :=
  tzAux_pow_mul k j _ (Nat.lt_of_lt_of_le Nat.lt_two_pow_self (Nat.le_mul_of_pos_right _ (Nat.succ_pos _)))

/-- `netmask_bits` inverts `prefix -> netmask` for every prefix -/
theorem C02.netmaskBits_netmask (w p : Nat) (hp : p ≤ w) : netmaskBits w (netNetmask w p) = .ok p := by
  unfold netmaskBits
  rw [isNetmask_netNetmask w p hp, netNetmask_eq]
  cases p with
  | zero => rw [Nat.sub_zero, Nat.sub_self]; rfl
  | succ p =>
    -- `2^w - 2^(w-p-1) = 2^(w-p-1) * (2^(p+1) - 1)` with an odd second factor `2 * (2^p - 1) + 1`
    have hfac : 2 ^ w - 2 ^ (w - (p + 1)) = 2 ^ (w - (p + 1)) * (2 * (2 ^ p - 1) + 1) := by
      have hodd : 2 * (2 ^ p - 1) + 1 = 2 ^ (p + 1) - 1 := by have := Nat.two_pow_pos p; rw [Nat.pow_succ]; omega
      rw [hodd, Nat.mul_sub, Nat.mul_one, Nat.pow_sub_mul_pow 2 hp]
    rw [hfac, trailingZeros_pow_mul,
      if_neg (Nat.ne_of_gt (Nat.mul_pos (Nat.two_pow_pos _) (Nat.succ_pos _))), if_pos (Nat.sub_le w _),
      Nat.sub_sub_self hp]
    rfl

/-- a value that is not a contiguous netmask reports the full width -/
theorem C02.netmaskBits_nonmask (w v : Nat) (h : isNetmask w v = false) : netmaskBits w v = .ok w := by
  unfold netmaskBits; rw [h]; rfl

/-! ### table lookup -/

/-- `lookup` (Model/Network) is `List.lookup` (which Model/NetParse uses); proofs work with `List.lookup`, `lookup` stands in the
    statements `C02.Inv4`, `Inv6`, `tables_invert` only -/
theorem lookup_eq (t : List (Nat × Nat)) (k : Nat) : lookup t k = t.lookup k := by
  induction t with
  | nil => rfl
  | cons r t ih =>
    unfold lookup at ih ⊢
    rw [List.find?_cons, List.lookup_cons]
    by_cases h : k = r.1
    · rw [h, beq_self_eq_true]
      rfl
    · rw [beq_false_of_ne h, beq_false_of_ne (Ne.symm h)]
      exact ih

theorem lookup_rows {α β} [BEq α] [LawfulBEq α] (key : Nat → α) (val : Nat → β) (l : List Nat) (p : Nat) (hp : p ∈ l)
    (hinj : ∀ i ∈ l, key i = key p → i = p) :
    (l.map (fun i => (key i, val i))).lookup (key p) = some (val p) := by
  induction l with
  | nil => cases hp
  | cons a t ih =>
    rw [List.map_cons, List.lookup_cons]
    by_cases ha : key a = key p
    · rw [hinj a (List.mem_cons_self ..) ha, beq_self_eq_true]
    · rw [beq_false_of_ne (Ne.symm ha)]
      rcases List.mem_cons.mp hp with e | e
      · exact absurd (congrArg key e.symm) ha
      · exact ih e (fun i hi => hinj i (List.mem_cons_of_mem _ hi))

namespace C02

/-! ### the generated prefix tables (regenerated from /repo on every run) -/
open NV.Gen in
/-- the four IPv4 dictionaries are exactly `p ↦ netmask p`, its inverse, `p ↦ hostmask p`, its inverse -/
theorem tables4 :
    prefixToNetmask4 = (List.range 33).map (fun p => (p, netNetmask 32 p)) ∧
    netmaskToPrefix4 = (List.range 33).map (fun p => (netNetmask 32 p, p)) ∧
    prefixToHostmask4 = (List.range 33).map (fun p => (p, netHostmask 32 p)) ∧
    hostmaskToPrefix4 = ((List.range 33).map (fun p => (netHostmask 32 p, p))).reverse ∧
    width4 = 32 ∧ maxInt4 = 2 ^ 32 - 1 := by
  decide +kernel

open NV.Gen in
theorem tables6 :
    prefixToNetmask6 = (List.range 129).map (fun p => (p, netNetmask 128 p)) ∧
    netmaskToPrefix6 = (List.range 129).map (fun p => (netNetmask 128 p, p)) ∧
    prefixToHostmask6 = (List.range 129).map (fun p => (p, netHostmask 128 p)) ∧
    hostmaskToPrefix6 = ((List.range 129).map (fun p => (netHostmask 128 p, p))).reverse ∧
    width6 = 128 ∧ maxInt6 = 2 ^ 128 - 1 := by
  decide +kernel

open NV.Gen in
/-- one row of the inversion statement, IPv4 -/
def Inv4 (p : Nat) : Prop :=
  lookup netmaskToPrefix4 (netNetmask 32 p) = some p ∧
  lookup hostmaskToPrefix4 (netHostmask 32 p) = some p ∧
  lookup prefixToNetmask4 p = some (netNetmask 32 p) ∧
  lookup prefixToHostmask4 p = some (netHostmask 32 p)

open NV.Gen in
def Inv6 (p : Nat) : Prop :=
  lookup netmaskToPrefix6 (netNetmask 128 p) = some p ∧
  lookup hostmaskToPrefix6 (netHostmask 128 p) = some p ∧
  lookup prefixToNetmask6 p = some (netNetmask 128 p) ∧
  lookup prefixToHostmask6 p = some (netHostmask 128 p)

/-- Dictionaries that are the graphs of `netNetmask w` and `netHostmask w` over the prefixes
    `0..w`, forwards and backwards, invert each other, because both masks are injective there. -/
theorem graphs_invert (w : Nat) {p2n n2p p2h h2p : List (Nat × Nat)}
    (h1 : p2n = (List.range (w + 1)).map fun p => (p, netNetmask w p))
    (h2 : n2p = (List.range (w + 1)).map fun p => (netNetmask w p, p))
    (h3 : p2h = (List.range (w + 1)).map fun p => (p, netHostmask w p))
    (h4 : h2p = ((List.range (w + 1)).map fun p => (netHostmask w p, p)).reverse)
    (p : Nat) (hp : p ≤ w) :
    lookup n2p (netNetmask w p) = some p ∧ lookup h2p (netHostmask w p) = some p ∧
    lookup p2n p = some (netNetmask w p) ∧ lookup p2h p = some (netHostmask w p) := by
  have hm := List.mem_range.2 (Nat.lt_succ_of_le hp)
  have hle : ∀ i ∈ List.range (w + 1), i ≤ w := fun i hi => Nat.le_of_lt_succ (List.mem_range.1 hi)
  subst h1 h2 h3 h4
  rw [lookup_eq, lookup_eq, lookup_eq, lookup_eq, ← List.map_reverse]
  exact ⟨lookup_rows _ (fun i => i) _ p hm (fun i hi => netNetmask_inj w p i hp (hle i hi)),
    lookup_rows _ (fun i => i) _ p (List.mem_reverse.2 hm)
      (fun i hi => netHostmask_inj w p i hp (hle i (List.mem_reverse.1 hi))),
    lookup_rows (fun i => i) _ _ p hm (fun _ _ h => h), lookup_rows (fun i => i) _ _ p hm (fun _ _ h => h)⟩

/-- table lookups invert each other on every prefix -/
theorem tables_invert : (∀ p, p ≤ 32 → Inv4 p) ∧ (∀ p, p ≤ 128 → Inv6 p) :=
  ⟨graphs_invert 32 tables4.1 tables4.2.1 tables4.2.2.1 tables4.2.2.2.1,
   graphs_invert 128 tables6.1 tables6.2.1 tables6.2.2.1 tables6.2.2.2.1⟩

end C02

/-! ### the setters -/

theorem lt_of_le_maxInt {ver v : Nat} (h : v ≤ maxInt ver) : v < 2 ^ width ver :=
  Nat.lt_of_le_sub_one (Nat.two_pow_pos _) h

/-- The shape shared by `_set_value` and `_set_prefixlen`: an int within `0..B` is stored,
    any other int is an AddrFormatError, a non-int a TypeError. -/
def storeBounded (B : Nat) (upd : Nat → Net) : SetArg → R Net
  | .int i => if 0 ≤ i ∧ i ≤ (B : Int) then .ok (upd i.toNat) else .error .addrFormat
  | _ => .error .type_

theorem setValue_eq (n : Net) : setValue n = storeBounded (maxInt n.ver) ({ n with val := · }) := by
  funext x; cases x <;> rfl

theorem setPrefixlen_eq (n : Net) : setPrefixlen n = storeBounded (width n.ver) ({ n with plen := · }) := by
  funext x; cases x <;> rfl

theorem storeBounded_ok_iff (B : Nat) (upd : Nat → Net) (x : SetArg) (n' : Net) :
    storeBounded B upd x = .ok n' ↔ ∃ v : Nat, x = .int v ∧ v ≤ B ∧ n' = upd v := by
  cases x with
  | int i =>
    constructor
    · intro h
      rw [storeBounded] at h
      split at h
      · rename_i hr
        exact ⟨i.toNat, by rw [Int.toNat_of_nonneg hr.1], Int.toNat_le.2 hr.2, (Except.ok.inj h).symm⟩
      · cases h
    · rintro ⟨v, hx, hv, rfl⟩
      cases hx
      exact if_pos ⟨Int.natCast_nonneg v, Int.ofNat_le.2 hv⟩
  | addr a => exact ⟨nofun, fun ⟨_, hx, _⟩ => nomatch hx⟩
  | junk => exact ⟨nofun, fun ⟨_, hx, _⟩ => nomatch hx⟩

theorem storeBounded_err {B : Nat} {upd : Nat → Net} {x : SetArg} {e : Err}
    (h : storeBounded B upd x = .error e) : e = .addrFormat ∨ e = .type_ := by
  cases x with
  | int i =>
    rw [storeBounded] at h
    split at h
    · cases h
    · exact Or.inl (Except.error.inj h).symm
  | addr a => exact Or.inr (Except.error.inj h).symm
  | junk => exact Or.inr (Except.error.inj h).symm

theorem addrOfSetArg_int4 (v : Nat) (h : v ≤ maxInt 4) : addrOfSetArg (.int v) = .ok ⟨4, v⟩ :=
  if_pos ⟨Int.natCast_nonneg v, Int.ofNat_le.2 h⟩

theorem addrOfSetArg_int6 (v : Nat) (h4 : maxInt 4 < v) (h6 : v ≤ maxInt 6) :
    addrOfSetArg (.int v) = .ok ⟨6, v⟩ := by
  rw [addrOfSetArg, if_neg (fun h => Nat.not_le_of_lt h4 (Int.ofNat_le.1 h.2)),
    if_pos ⟨Int.ofNat_lt.2 h4, Int.ofNat_le.2 h6⟩]
  rfl

theorem addrOfSetArg_err {x : SetArg} {e : Err} (h : addrOfSetArg x = .error e) : e = .addrFormat := by
  cases x with
  | int i =>
    rw [addrOfSetArg] at h
    split at h
    · cases h
    · split at h
      · cases h
      · exact (Except.error.inj h).symm
  | addr a => cases h
  | junk => exact (Except.error.inj h).symm

theorem netmaskBits_err {w v : Nat} {e : Err} (h : netmaskBits w v = .error e) : e = .value := by
  unfold netmaskBits at h
  split at h
  · cases h
  · split at h
    · cases h
    · dsimp only at h
      split at h
      · cases h
      · exact (Except.error.inj h).symm

theorem setNetmask_of_error {n : Net} {x : SetArg} {e : Err} (h : addrOfSetArg x = .error e) :
    setNetmask n x = .error e := by
  unfold setNetmask; rw [h]; rfl

/-- (`C02.setNetmaskOf_ok` of Props/C02Setters, for the files that do not import Model/NetworkMask) -/
theorem setNetmask_of_addr {n : Net} {x : SetArg} {a : Addr} (h : addrOfSetArg x = .ok a) :
    setNetmask n x =
      if a.ver ≠ n.ver then .error .value
      else if !isNetmask (width a.ver) a.val then .error .value
      else (netmaskBits (width a.ver) a.val).bind fun bits => setPrefixlen n (.int bits) := by
  unfold setNetmask; rw [h]; rfl

theorem setNetmask_cases (n : Net) (x : SetArg) :
    setNetmask n x = .error .addrFormat ∨ setNetmask n x = .error .value ∨
      ∃ bits : Nat, setNetmask n x = setPrefixlen n (.int bits) := by
  cases ha : addrOfSetArg x with
  | error e => exact .inl (by rw [setNetmask_of_error ha, addrOfSetArg_err ha])
  | ok a =>
    rw [setNetmask_of_addr ha]
    split
    · exact .inr (.inl rfl)
    · split
      · exact .inr (.inl rfl)
      · cases hb : netmaskBits (width a.ver) a.val with
        | error e => exact .inr (.inl (by rw [netmaskBits_err hb]; rfl))
        | ok bits => exact .inr (.inr ⟨bits, rfl⟩)

end NV
