/-
Lemmas/BlkCount.lean — counting addresses of a list of pairwise disjoint blocks without any
cardinality library: `cum l N` is the number of denoted points below `N`; it grows by one
exactly at denoted points.  Consequence: inclusion of denotations bounds the totals, and
equal totals under inclusion force equal denotations (C07 `<` / `>`).
-/
import NetaddrVerif.Lemmas.Canon
namespace NV
open Blk

/-- total number of points of a block list (with multiplicity) -/
def total : List Blk → Nat
  | [] => 0
  | b :: l => 2 ^ b.k + total l

/-- points below `N`, with multiplicity (`[b, b + p)` has `(N - b) - (N - (b + p))` of them,
    in truncated subtraction) -/
def cum : List Blk → Nat → Nat
  | [], _ => 0
  | b :: l, N => ((N - b.base) - (N - (b.base + 2 ^ b.k))) + cum l N

def hits : List Blk → Nat → Nat
  | [], _ => 0
  | b :: l, N => (if b.base ≤ N ∧ N < b.base + 2 ^ b.k then 1 else 0) + hits l N

theorem cum_zero (l : List Blk) : cum l 0 = 0 := by
  induction l with
  | nil => rfl
  | cons b l ih => simp [cum, ih]

/-- an interval `[b, b + p)` has one more point below `N + 1` than below `N` exactly when it contains `N` -/
theorem below_succ (b p N : Nat) (hp : 0 < p) :
    (N + 1 - b) - (N + 1 - (b + p)) = ((N - b) - (N - (b + p))) + (if b ≤ N ∧ N < b + p then 1 else 0) := by
  split <;> omega

theorem cum_succ (l : List Blk) (N : Nat) : cum l (N + 1) = cum l N + hits l N := by
  induction l with
  | nil => rfl
  | cons b l ih =>
    simp only [cum, hits, ih, below_succ _ _ _ (Nat.two_pow_pos b.k)]
    omega

theorem cum_top (l : List Blk) (M : Nat) (h : ∀ b ∈ l, b.base + 2 ^ b.k ≤ M) : cum l M = total l := by
  induction l with
  | nil => rfl
  | cons b l ih =>
    simp only [cum, total]
    rw [ih (fun c hc => h c (List.mem_cons_of_mem _ hc))]
    have := h b (List.mem_cons_self ..)
    generalize 2 ^ b.k = p at *
    omega

theorem hits_zero_of_not_den (l : List Blk) (N : Nat) (h : ¬ den l N) : hits l N = 0 := by
  induction l with
  | nil => rfl
  | cons b l ih =>
    simp only [hits]
    have h1 : ¬ (b.base ≤ N ∧ N < b.base + 2 ^ b.k) := fun hm => h ⟨b, List.mem_cons_self .., hm⟩
    have h2 : ¬ den l N := fun ⟨c, hc, hm⟩ => h ⟨c, List.mem_cons_of_mem _ hc, hm⟩
    rw [if_neg h1, ih h2]

theorem hits_one_of_den (l : List Blk) (hd : l.Pairwise Blk.disj) (N : Nat) (h : den l N) : hits l N = 1 := by
  induction l with
  | nil => obtain ⟨b, hb, _⟩ := h; simp at hb
  | cons b l ih =>
    have hd' := List.pairwise_cons.1 hd
    simp only [hits]
    by_cases hb : b.base ≤ N ∧ N < b.base + 2 ^ b.k
    · rw [if_pos hb, hits_zero_of_not_den l N]
      rintro ⟨c, hc, hm⟩
      exact hd'.1 c hc N ⟨hb, hm⟩
    · rw [if_neg hb]
      obtain ⟨c, hc, hm⟩ := h
      rcases List.mem_cons.1 hc with e | e
      · exact absurd (e ▸ hm) hb
      · rw [ih hd'.2 ⟨c, e, hm⟩]

/-- the surplus of the larger set never shrinks -/
theorem cum_diff_mono (A B : List Blk) (hA : A.Pairwise Blk.disj) (hB : B.Pairwise Blk.disj)
    (hsub : ∀ x, den A x → den B x) (N : Nat) : ∀ d, cum A (N + d) + cum B N ≤ cum B (N + d) + cum A N := by
  intro d
  induction d with
  | zero => simp; omega
  | succ d ih =>
    rw [← Nat.add_assoc, cum_succ, cum_succ]
    by_cases h : den A (N + d)
    · rw [hits_one_of_den A hA _ h, hits_one_of_den B hB _ (hsub _ h)]; omega
    · rw [hits_zero_of_not_den A _ h]; omega

theorem cum_le (A B : List Blk) (hA : A.Pairwise Blk.disj) (hB : B.Pairwise Blk.disj)
    (hsub : ∀ x, den A x → den B x) (N : Nat) : cum A N ≤ cum B N := by
  have := cum_diff_mono A B hA hB hsub 0 N
  simp only [Nat.zero_add, cum_zero] at this
  omega

theorem mem_le_top (l : List Blk) : ∃ M, ∀ b ∈ l, b.base + 2 ^ b.k ≤ M := by
  induction l with
  | nil => exact ⟨0, by simp⟩
  | cons b l ih =>
    obtain ⟨M, hM⟩ := ih
    refine ⟨max M (b.base + 2 ^ b.k), ?_⟩
    intro c hc
    rcases List.mem_cons.1 hc with e | e
    · subst e; omega
    · have := hM c e; omega

/-- far enough to the right every block of both lists has been counted -/
theorem cum_eventually (A B : List Blk) : ∃ M, ∀ d, cum A (d + M) = total A ∧ cum B (d + M) = total B := by
  obtain ⟨M1, h1⟩ := mem_le_top A
  obtain ⟨M2, h2⟩ := mem_le_top B
  exact ⟨max M1 M2, fun d => ⟨cum_top A _ fun b hb => by have := h1 b hb; omega,
    cum_top B _ fun b hb => by have := h2 b hb; omega⟩⟩

theorem total_le_of_sub (A B : List Blk) (hA : A.Pairwise Blk.disj) (hB : B.Pairwise Blk.disj)
    (hsub : ∀ x, den A x → den B x) : total A ≤ total B := by
  obtain ⟨M, hM⟩ := cum_eventually A B
  have := cum_le A B hA hB hsub (0 + M)
  rwa [(hM 0).1, (hM 0).2] at this

theorem den_eq_of_total_eq (A B : List Blk) (hA : A.Pairwise Blk.disj) (hB : B.Pairwise Blk.disj)
    (hsub : ∀ x, den A x → den B x) (ht : total A = total B) : ∀ x, den B x → den A x := by
  intro x hx
  apply Classical.byContradiction
  intro hn
  obtain ⟨M, hM⟩ := cum_eventually A B
  -- at x the surplus becomes positive and stays
  have s1 : cum A (x + 1) + 1 ≤ cum B (x + 1) := by
    rw [cum_succ, cum_succ, hits_zero_of_not_den A x hn, hits_one_of_den B hB x hx]
    have := cum_le A B hA hB hsub x
    omega
  have s2 := cum_diff_mono A B hA hB hsub (x + 1) M
  obtain ⟨e1, e2⟩ := hM (x + 1)
  omega

end NV
