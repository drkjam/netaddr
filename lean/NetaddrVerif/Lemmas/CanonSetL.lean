/-
Lemmas/CanonSetL.lean — uniqueness of canonical block sets: the members of an unordered
canonical set are exactly the maximal aligned blocks inside its address set, so two such sets with
the same address set have the same members (`canonset_ext`), and two sorted ones are the same list
(`canon_unique`); conversely a list of maximal blocks of its own address set is canonical
(`canonset_of_maximal`).
-/
import NetaddrVerif.Lemmas.Canon
import NetaddrVerif.Lemmas.MergeUp
namespace NV
open Blk

def Maximal (S : Nat → Prop) (b : Blk) : Prop :=
  b.aligned ∧ (∀ a, b.mem a → S a) ∧ ¬ (∀ a, b.parent.mem a → S a)

theorem Maximal.anti {S T : Nat → Prop} {b : Blk} (h : Maximal S b) (hTS : ∀ a, T a → S a)
    (hb : ∀ a, b.mem a → T a) : Maximal T b :=
  ⟨h.1, hb, fun hp => h.2.2 fun a ha => hTS a (hp a ha)⟩

/-- a maximal block of `S` contains every aligned block inside `S` that it meets:
    were that block larger, it would contain the parent -/
theorem Maximal.absorbs {S : Nat → Prop} {b c : Blk} (hm : Maximal S b) (hc : c.aligned)
    (hcS : ∀ a, c.mem a → S a) (x : Nat) (hbx : b.mem x) (hcx : c.mem x) : c.sub b := by
  rcases Nat.lt_or_ge b.k c.k with hlt | hge
  · exact absurd (fun a ha => hcS a (parent_sub b c hm.1 hc hlt x hbx hcx a ha)) hm.2.2
  · exact sub_of_share c b hc hm.1 hge x hcx hbx

theorem covered_imp_single (l : List Blk) (hc : CanonSet l) (q : Blk) (hq : q.aligned)
    (hcov : ∀ a, q.mem a → den l a) : ∃ c ∈ l, q.sub c := by
  -- either some member meeting q is at least as large as q (then it contains q) …
  by_cases hbig : ∃ d ∈ l, ∃ a, q.mem a ∧ d.mem a ∧ q.k ≤ d.k
  · obtain ⟨d, hd, a, hqa, hda, hk⟩ := hbig
    exact ⟨d, hd, sub_of_share q d hq (hc.al d hd) hk a hqa hda⟩
  · -- … or q is covered by strictly smaller members, which forces a sibling pair
    exfalso
    have : ∃ x ∈ l, ∃ y ∈ l, x.sib y := by
      apply covered_strict_imp_sib l hc.al q.k q rfl hq
      intro a ha
      obtain ⟨d, hd, hda⟩ := hcov a ha
      refine ⟨d, hd, hda, ?_⟩
      rcases Nat.lt_or_ge d.k q.k with h | h
      · exact h
      · exact absurd ⟨d, hd, a, ha, hda, h⟩ hbig
    obtain ⟨x, hx, y, hy, hxy⟩ := this
    exact hc.ns x hx y hy hxy

theorem canonset_mem_maximal (l : List Blk) (hc : CanonSet l) (b : Blk) (hb : b ∈ l) :
    Maximal (den l) b := by
  refine ⟨hc.al b hb, fun a ha => ⟨b, hb, ha⟩, fun hcov => ?_⟩
  -- were the parent covered it would lie in one member, a larger one that meets `b`
  obtain ⟨c, hcl, hpc⟩ := covered_imp_single l hc b.parent (parent_aligned b) hcov
  have hk : b.k + 1 ≤ c.k := sub_k_le hpc
  exact hc.dj b hb c hcl (fun e => by rw [e] at hk; omega) b.base
    ⟨mem_base b, hpc _ (sub_parent b (hc.al b hb) _ (mem_base b))⟩

theorem maximal_mem_canonset (l : List Blk) (hc : CanonSet l) (b : Blk) (hm : Maximal (den l) b) :
    b ∈ l := by
  obtain ⟨c, hcl, hbc⟩ := covered_imp_single l hc b hm.1 hm.2.1
  -- `c` contains `b`, and `b`, being maximal, contains `c`
  exact sub_antisymm (hc.al c hcl) hm.1
    (hm.absorbs (hc.al c hcl) (fun a ha => ⟨c, hcl, ha⟩) b.base (mem_base b) (hbc _ (mem_base b))) hbc ▸ hcl

theorem canon_mem_maximal (l : List Blk) (hc : Canon l) (b : Blk) (hb : b ∈ l) :
    Maximal (den l) b := canonset_mem_maximal l hc.toSet b hb

theorem maximal_mem_canon (l : List Blk) (hc : Canon l) (b : Blk) (hm : Maximal (den l) b) :
    b ∈ l := maximal_mem_canonset l hc.toSet b hm

theorem canonset_ext (l₁ l₂ : List Blk) (h1 : CanonSet l₁) (h2 : CanonSet l₂)
    (hd : ∀ a, den l₁ a ↔ den l₂ a) (b : Blk) : b ∈ l₁ ↔ b ∈ l₂ := by
  have hS : den l₁ = den l₂ := funext fun a => propext (hd a)
  constructor
  · intro hb; exact maximal_mem_canonset l₂ h2 b (hS ▸ canonset_mem_maximal l₁ h1 b hb)
  · intro hb; exact maximal_mem_canonset l₁ h1 b (hS ▸ canonset_mem_maximal l₂ h2 b hb)

theorem canon_unique (l₁ l₂ : List Blk) (h1 : Canon l₁) (h2 : Canon l₂)
    (hd : ∀ a, den l₁ a ↔ den l₂ a) : l₁ = l₂ :=
  sorted_ext l₁ l₂ h1.sorted h2.sorted (canonset_ext l₁ l₂ h1.toSet h2.toSet hd)

/-- Converse of `canonset_mem_maximal`: a list all of whose members are maximal aligned blocks of
    its own address set is canonical.  Canonicity of a derived list can so be checked one member
    at a time, and is inherited (`Maximal.anti`) whenever the address set only shrinks. -/
theorem canonset_of_maximal (l : List Blk) (h : ∀ b ∈ l, Maximal (den l) b) : CanonSet l := by
  refine ⟨fun b hb => (h b hb).1, fun b hb c hc hne x ⟨hx, hcx⟩ => ?_, fun b hb c hc hs => ?_⟩
  · -- two members sharing a point contain each other
    exact hne (sub_antisymm (h b hb).1 (h c hc).1
      ((h c hc).absorbs (h b hb).1 (fun a ha => ⟨b, hb, ha⟩) x hcx hx)
      ((h b hb).absorbs (h c hc).1 (fun a ha => ⟨c, hc, ha⟩) x hx hcx))
  · -- a sibling pair is the parent of its lower half
    obtain ⟨-, -, -, hpar, -⟩ := sibling_spec b (h b hb).1
    rw [← eq_sibling_of_sib (Or.inl hs)] at hpar
    exact (h b hb).2.2 fun a ha => ((hpar a).1 ha).elim (fun m => ⟨b, hb, m⟩) (fun m => ⟨c, hc, m⟩)

/-- Whole members `C` of a canonical set `S` next to a canonical set `K` of blocks inside `S` and
    apart from `C`: a member of `C` stays maximal because the address set shrinks; were the parent of
    a member of `K` covered, it would lie in one member of `S`, not one of `C`, hence be covered by
    `K` alone. -/
theorem canonset_union (S C K : List Blk) (hS : CanonSet S) (hC : ∀ b ∈ C, b ∈ S) (hK : CanonSet K)
    (hKS : ∀ x, den K x → den S x) (hdj : ∀ x, ¬ (den C x ∧ den K x)) : CanonSet (C ++ K) := by
  have hsub : ∀ x, den (C ++ K) x → den S x := fun x ⟨b, hb, h⟩ =>
    (List.mem_append.1 hb).elim (fun hbC => ⟨b, hC b hbC, h⟩) (fun hbK => hKS x ⟨b, hbK, h⟩)
  refine canonset_of_maximal _ fun b hb => ?_
  rcases List.mem_append.1 hb with h | h
  · exact (canonset_mem_maximal S hS b (hC b h)).anti hsub fun a ha => ⟨b, hb, ha⟩
  · refine ⟨hK.al b h, fun a ha => ⟨b, hb, ha⟩, fun hcov => (canonset_mem_maximal K hK b h).2.2 fun a ha => ?_⟩
    obtain ⟨d, hd, hpd⟩ := covered_imp_single S hS b.parent (parent_aligned b) fun a ha => hsub a (hcov a ha)
    obtain ⟨c, hc, hca⟩ := hcov a ha
    rcases List.mem_append.1 hc with hcC | hcK
    · have e : c = d := Classical.byContradiction fun hne => hS.dj c (hC c hcC) d hd hne a ⟨hca, hpd a ha⟩
      exact absurd ⟨⟨c, hcC, e ▸ hpd _ (sub_parent b (hK.al b h) _ (mem_base b))⟩, ⟨b, h, mem_base b⟩⟩ (hdj b.base)
    · exact ⟨c, hcK, hca⟩

end NV
