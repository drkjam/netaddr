import NetaddrVerif.Model.Cidr

namespace NV

/-! The backward sweep of `cidr_merge` for one family, on bare intervals: `sweep` is `mergeSweep`
    (Model/Cidr.lean) without the version and original-object fields, `IvNorm` is interval normal
    form, and `sweep_spec` says the sweep yields it and keeps the address set.  Nothing stands on
    this file: the C05 theorems use the version-tagged `MNorm` and `mergeSweep_spec` of
    Lemmas/C05LMerge.lean. -/
def sweep : List Iv → Iv → List Iv → List Iv
  | [], cur, done => cur :: done
  | p :: rest, cur, done =>
    if (cur.first : Int) - 1 ≤ p.last then sweep rest ⟨min p.first cur.first, cur.last⟩ done
    else sweep rest p (cur :: done)

def Iv.mem (r : Iv) (a : Nat) : Prop := r.first ≤ a ∧ a ≤ r.last
def ivden (l : List Iv) (a : Nat) : Prop := ∃ r ∈ l, r.mem a

/-- normal form: valid intervals, ascending, neither overlapping nor adjacent -/
def IvNorm : List Iv → Prop
  | [] => True
  | [r] => r.first ≤ r.last
  | r :: s :: t => r.first ≤ r.last ∧ r.last + 1 < s.first ∧ IvNorm (s :: t)

theorem ivnorm_cons {r s : Iv} {t : List Iv} :
    IvNorm (r :: s :: t) ↔ r.first ≤ r.last ∧ r.last + 1 < s.first ∧ IvNorm (s :: t) := Iff.rfl

theorem ivnorm_head_valid : ∀ {r : Iv} {t : List Iv}, IvNorm (r :: t) → r.first ≤ r.last
  | _, [], h => h
  | _, _ :: _, h => h.1

theorem ivden_cons (r : Iv) (l : List Iv) (a : Nat) : ivden (r :: l) a ↔ r.mem a ∨ ivden l a := by
  simp only [ivden, List.mem_cons, or_and_right, exists_or, exists_eq_left]

theorem sweep_spec : ∀ (rest : List Iv) (cur : Iv) (done : List Iv),
    -- rest is descending by last and bounded by cur.last; all intervals valid
    (∀ p ∈ rest, p.first ≤ p.last ∧ p.last ≤ cur.last) →
    rest.Pairwise (fun p q => q.last ≤ p.last) →
    IvNorm (cur :: done) →
    IvNorm (sweep rest cur done) ∧
    (∀ a, ivden (sweep rest cur done) a ↔ ivden rest a ∨ ivden (cur :: done) a)
  | [], cur, done, _, _, hn => ⟨hn, fun a => (or_iff_right (fun ⟨_, h, _⟩ => nomatch h)).symm⟩
  | p :: rest, cur, done, hb, hs, hn => by
    have hp := hb p (List.mem_cons_self ..)
    have hs' := List.pairwise_cons.1 hs
    have hcv := ivnorm_head_valid hn
    simp only [sweep]
    by_cases hc : (cur.first : Int) - 1 ≤ p.last
    · -- `p` touches `cur`: the two become one interval
      rw [if_pos hc]
      have hn' : IvNorm (⟨min p.first cur.first, cur.last⟩ :: done) := by
        cases done with
        | nil => simp only [IvNorm]; omega
        | cons s t =>
          rw [ivnorm_cons] at hn ⊢
          exact ⟨by simp only; omega, hn.2.1, hn.2.2⟩
      obtain ⟨r1, r2⟩ := sweep_spec rest ⟨min p.first cur.first, cur.last⟩ done
        (fun q hq => ⟨(hb q (List.mem_cons_of_mem _ hq)).1, Nat.le_trans (hs'.1 q hq) hp.2⟩) hs'.2 hn'
      refine ⟨r1, fun a => ?_⟩
      have hm : Iv.mem ⟨min p.first cur.first, cur.last⟩ a ↔ p.mem a ∨ cur.mem a := by
        simp only [Iv.mem]; omega
      rw [r2 a, ivden_cons, ivden_cons, ivden_cons, hm]
      simp only [or_assoc, or_left_comm]
    · rw [if_neg hc]
      have hn' : IvNorm (p :: cur :: done) := by
        rw [ivnorm_cons]; exact ⟨hp.1, by omega, hn⟩
      obtain ⟨r1, r2⟩ := sweep_spec rest p (cur :: done)
        (fun q hq => ⟨(hb q (List.mem_cons_of_mem _ hq)).1, hs'.1 q hq⟩) hs'.2 hn'
      refine ⟨r1, fun a => ?_⟩
      rw [r2 a, ivden_cons p, ivden_cons p]
      simp only [or_assoc, or_left_comm]

end NV
