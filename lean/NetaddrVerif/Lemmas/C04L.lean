/-
Lemmas/C04L.lean — each hand-written comparison of Model/Contains.lean is interval inclusion.
The domain predicates of the C04 statements (`RngWF`, `Obj.WF`, `Cont.WF`) are defined here.
-/
import NetaddrVerif.Lemmas.NetBlock
import NetaddrVerif.Model.Contains
namespace NV.Contains
open NV

/-- well-formed `IPRange`: known family, `start <= end`, inside the address space -/
def RngWF (r : Rng) : Prop := (r.ver = 4 ∨ r.ver = 6) ∧ r.lo ≤ r.hi ∧ r.hi < 2 ^ width r.ver

def Obj.WF : Obj → Prop
  | .addr a => a.WF
  | .net n => n.WF
  | .rng r => RngWF r

def Cont.WF : Cont → Prop
  | .net n => n.WF
  | .rng r => RngWF r

theorem div_eq_block (B a v : Nat) (hB : 0 < B) :
    a / B = v / B ↔ v / B * B ≤ a ∧ a ≤ v / B * B + (B - 1) := by
  rw [Nat.div_eq_iff hB]; omega

theorem shr_eq_iff (w v p a : Nat) (hv : v < 2 ^ w) :
    (a >>> (w - p) = v >>> (w - p)) ↔ netFirst w v p ≤ a ∧ a ≤ netLast w v p := by
  rw [Nat.shiftRight_eq_div_pow, Nat.shiftRight_eq_div_pow, netFirst_eq w v p hv, netLast_eq,
    div_eq_block _ _ _ (Nat.two_pow_pos _)]

theorem net_in_net_iff (w v p u q : Nat) (hv : v < 2 ^ w) (hu : u < 2 ^ w) (hp : p ≤ w) (hq : q ≤ w) :
    (v >>> (w - p) = u >>> (w - p) ∧ p ≤ q) ↔
      (netFirst w v p ≤ netFirst w u q ∧ netLast w u q ≤ netLast w v p) := by
  have hfu := val_between w u q hu
  constructor
  · rintro ⟨hs, hpq⟩
    exact nested_of_share w v p u q u hv hu hpq ((shr_eq_iff w v p u hv).1 hs.symm) hfu
  · rintro ⟨h1, h2⟩
    refine ⟨((shr_eq_iff w v p u hv).2 ⟨by omega, by omega⟩).symm, ?_⟩
    rw [netLast_eq_add w v p hv, netLast_eq_add w u q hu] at h2
    have hle : 2 ^ (w - q) ≤ 2 ^ (w - p) := by
      have := Nat.two_pow_pos (w - q); have := Nat.two_pow_pos (w - p); omega
    have hk : w - q ≤ w - p := (Nat.pow_le_pow_iff_right (by decide : 1 < 2)).1 hle
    omega

/-- the version test that opens each `__contains__`: false on a mismatch, else the comparison -/
theorem ver_guard {a b : Nat} {g : Bool} {P : Prop} (h : a = b → (g = true ↔ P)) :
    (if a != b then false else g) = true ↔ b = a ∧ P := by
  by_cases hv : a = b
  · rw [if_neg (by simpa using hv), h hv]
    exact ⟨fun hp => ⟨hv.symm, hp⟩, fun hp => hp.2⟩
  · rw [if_pos (by simpa using hv)]
    exact ⟨fun hf => (by cases hf), fun hp => absurd hp.1.symm hv⟩

/-- `IPNetwork.__contains__` (shift-compare; IPRange special case) is interval inclusion for
    every kind of operand. -/
theorem netContains_iff (y : Net) (x : Obj) (hy : y.WF) (hx : x.WF) :
    netContains y x = true ↔ (x.ver = y.ver ∧ y.first ≤ x.first ∧ x.last ≤ y.last) := by
  obtain ⟨_, hyv, hyp⟩ := hy
  unfold netContains
  refine ver_guard (fun hver => ?_)
  cases x with
  | addr a =>
    simp only [Obj.first, Obj.last]
    rw [beq_iff_eq, shr_eq_iff _ _ _ _ hyv]
    rfl
  | rng r =>
    simp only [Obj.first, Obj.last]
    rw [Bool.and_eq_true, decide_eq_true_iff, decide_eq_true_iff, shr_shl, Nat.shiftRight_eq_div_pow,
      Nat.shiftLeft_eq]
    unfold Net.first Net.last
    rw [netFirst_eq _ _ _ hyv, netLast_eq]
    have hB := Nat.two_pow_pos (width y.ver - y.plen)
    rw [Nat.add_mul, Nat.one_mul]
    omega
  | net n =>
    simp only [Obj.ver, Obj.first, Obj.last] at hver ⊢
    obtain ⟨_, hnv, hnp⟩ := hx
    rw [← hver] at hnv hnp
    rw [Bool.and_eq_true, beq_iff_eq, decide_eq_true_iff,
      net_in_net_iff _ _ _ _ _ hyv hnv hyp hnp]
    unfold Net.first Net.last
    rw [hver]

/-- `IPRange.__contains__` (and `IPGlob`, which inherits it) is interval inclusion for every
    kind of operand. -/
theorem rngContains_iff (y : Rng) (x : Obj) (hx : x.WF) :
    rngContains y x = true ↔ (x.ver = y.ver ∧ y.lo ≤ x.first ∧ x.last ≤ y.hi) := by
  unfold rngContains
  refine ver_guard (fun _ => ?_)
  cases x with
  | addr a => simp only [Obj.first, Obj.last, Bool.and_eq_true, decide_eq_true_eq, ge_iff_le]
  | rng r => simp only [Obj.first, Obj.last, Bool.and_eq_true, decide_eq_true_eq, ge_iff_le]
  | net n =>
    simp only [Obj.first, Obj.last]
    obtain ⟨_, hnv, hnp⟩ := hx
    rw [Bool.and_eq_true, decide_eq_true_iff, decide_eq_true_iff, shr_shl, Nat.shiftLeft_eq, Nat.one_mul]
    unfold Net.first Net.last
    rw [netFirst_eq _ _ _ hnv, netLast_eq]
    have hB := Nat.two_pow_pos (width n.ver - n.plen)
    omega

/-- the class's own `__contains__`, for either container class -/
theorem contains_own_iff (y : Cont) (x : Obj) (hy : y.WF) (hx : x.WF) :
    contains y x = true ↔ (x.ver = y.ver ∧ y.first ≤ x.first ∧ x.last ≤ y.last) := by
  cases y with
  | net n => exact netContains_iff n x hy hx
  | rng r => exact rngContains_iff r x hx

end NV.Contains
