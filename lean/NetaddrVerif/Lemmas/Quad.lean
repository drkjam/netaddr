/-
Lemmas/Quad.lean — a strict dotted-quad printer and parser over definitions of their own (`NV.ntoa`, `NV.octet`,
`NV.pton4`), not the model's; `NV.pton4_ntoa`: parsing what is printed gives the value back.
`dec`, `ntoa`, `octet`, `pton4` stand in plain `NV`: a file that imports this one and opens `NV.Text4` or `NV.Glob`
(which have a `dec` / `ntoa` of their own) has to qualify them.
-/
import NetaddrVerif.Lemmas.Numerals
namespace NV

def dec (n : Nat) : List Char := Nat.toDigits 10 n

def ntoa (v : Nat) : List Char :=
  ['.'].intercalate [dec (v / 16777216), dec (v / 65536 % 256), dec (v / 256 % 256), dec (v % 256)]

/-- glibc inet_pton4 octet rule: 1-3 decimal digits, no leading zero unless "0", value ≤ 255 -/
def octet (t : List Char) : Option Nat :=
  if 1 ≤ t.length ∧ t.length ≤ 3 ∧ t.all Char.isDigit ∧ (t.length = 1 ∨ t.head? ≠ some '0') then
    let v := Nat.ofDigitChars 10 t 0
    if v ≤ 255 then some v else none
  else none

def pton4 (s : List Char) : Option Nat :=
  match s.splitOn '.' with
  | [a, b, c, d] =>
    match octet a, octet b, octet c, octet d with
    | some a, some b, some c, some d => some (a * 16777216 + b * 65536 + c * 256 + d)
    | _, _, _, _ => none
  | _ => none

theorem dec_isDigit (n : Nat) : ∀ c ∈ dec n, c.isDigit = true :=
  fun _ hc => Nat.isDigit_of_mem_toDigits (by decide) (by decide) hc

theorem octet_dec (n : Nat) (hn : n < 256) : octet (dec n) = some n := by
  have hlen : (dec n).length ≤ 3 := (Nat.length_toDigits_le_iff (by decide) (by decide)).mpr (by omega)
  have hpos : 1 ≤ (dec n).length := Nat.length_toDigits_pos
  have hall : (dec n).all Char.isDigit = true := List.all_eq_true.mpr (dec_isDigit n)
  have hhead : (dec n).length = 1 ∨ (dec n).head? ≠ some '0' := toDigits_lead (by decide) n
  have hval : Nat.ofDigitChars 10 (dec n) 0 = n := Nat.ofDigitChars_ten_toDigits
  rw [octet, if_pos ⟨hpos, hlen, hall, hhead⟩, hval]
  exact if_pos (Nat.le_of_lt_succ hn)

theorem pton4_ntoa (v : Nat) (hv : v < 2 ^ 32) : pton4 (ntoa v) = some v := by
  have b0 : v / 16777216 < 256 := Nat.div_lt_of_lt_mul hv
  have bm (n : Nat) : n % 256 < 256 := Nat.mod_lt _ (by decide)
  unfold pton4 ntoa
  rw [List.splitOn_intercalate]
  · simp only [octet_dec _ b0, octet_dec _ (bm _)]
    exact congrArg some ((quad_digits b0 (bm _) (bm _) (bm _) v).2 ⟨hv, Nat.mod_eq_of_lt b0, rfl, rfl, rfl⟩).symm
  · intro l hl
    simp only [List.mem_cons, List.not_mem_nil, or_false] at hl
    rcases hl with rfl | rfl | rfl | rfl <;> exact not_mem_toDigits_ten (by decide) _
  · exact List.cons_ne_nil _ _

end NV
