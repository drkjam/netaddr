/-
Lemmas/IPSetInter.lean — `IPSet.intersection`: the two-cursor sweep stores keys whose blocks on
the line are those of the block-level sweep `inter`; the result is canonical and denotes the
common addresses (C07).
-/
import NetaddrVerif.Lemmas.IPSetLine
namespace NV.IPSet
open NV NV.Blk

theorem interSweep_cons (fuel : Nat) (a b : Net) (as bs : List Net) (acc : St) :
    interSweep (fuel + 1) (a :: as) (b :: bs) acc =
      if keyEq a b then interSweep fuel as bs (dInsert acc a)
      else if netIn a b then interSweep fuel as (b :: bs) (dInsert acc a)
      else if netIn b a then interSweep fuel (a :: as) bs (dInsert acc b)
      else if netLt a b then interSweep fuel as (b :: bs) acc
      else interSweep fuel (a :: as) bs acc := rfl

/-- The sweep stores, one after the other, keys whose blocks on the line are those of the
    block-level sweep `inter`; which keys does not depend on what has been stored so far, so
    everything about the result follows from `foldl_dInsert`. -/
theorem interSweep_eq : ∀ (fuel : Nat) (as bs : List Net), (∀ n ∈ as, Good n) → (∀ n ∈ bs, Good n) →
    as.length + bs.length < fuel →
    ∃ r : List Net, (∀ n ∈ r, Good n) ∧ r.map lin = inter (as.map lin) (bs.map lin) ∧
      ∀ acc, interSweep fuel as bs acc = r.foldl dInsert acc := by
  intro fuel
  induction fuel with
  | zero => intro as bs _ _ h; omega
  | succ fuel ih =>
    intro as bs hga hgb hlen
    match as, bs with
    | [], bs => exact ⟨[], by simp, by simp [inter], fun _ => rfl⟩
    | a :: as, [] => exact ⟨[], by simp, by simp [inter], fun _ => rfl⟩
    | a :: as, b :: bs =>
      obtain ⟨hag, hga'⟩ := List.forall_mem_cons.1 hga
      obtain ⟨hbg, hgb'⟩ := List.forall_mem_cons.1 hgb
      simp only [List.length_cons] at hlen
      rw [List.map_cons, List.map_cons, inter]
      have t1 := keyEq_lin a b hag.1 hbg.1
      have t2 := netIn_lin a b hag.1 hbg.1
      have t3 := netIn_lin b a hbg.1 hag.1
      by_cases h1 : lin a = lin b
      · obtain ⟨r, hr, hm, he⟩ := ih as bs hga' hgb' (by omega)
        refine ⟨a :: r, List.forall_mem_cons.2 ⟨hag, hr⟩, by rw [if_pos h1, List.map_cons, hm], fun acc => ?_⟩
        rw [interSweep_cons, if_pos (t1.2 h1)]; exact he _
      rw [if_neg h1]
      by_cases h2 : subB (lin a) (lin b) = true
      · obtain ⟨r, hr, hm, he⟩ := ih as (b :: bs) hga' hgb (by simp only [List.length_cons]; omega)
        refine ⟨a :: r, List.forall_mem_cons.2 ⟨hag, hr⟩, by rw [if_pos h2, List.map_cons, hm, List.map_cons],
          fun acc => ?_⟩
        rw [interSweep_cons, if_neg (mt t1.1 h1), if_pos (t2.2 h2)]; exact he _
      rw [if_neg h2]
      by_cases h3 : subB (lin b) (lin a) = true
      · obtain ⟨r, hr, hm, he⟩ := ih (a :: as) bs hga hgb' (by simp only [List.length_cons]; omega)
        refine ⟨b :: r, List.forall_mem_cons.2 ⟨hbg, hr⟩, by rw [if_pos h3, List.map_cons, hm, List.map_cons],
          fun acc => ?_⟩
        rw [interSweep_cons, if_neg (mt t1.1 h1), if_neg (mt t2.1 h2), if_pos (t3.2 h3)]; exact he _
      rw [if_neg h3]
      -- neither equal nor nested: the sort keys compare like the positions on the line
      have t4 := netLt_lin a b hag.1 hbg.1 (mt (subB_iff _ _).2 h2) (mt (subB_iff _ _).2 h3)
      by_cases h4 : (lin a).base < (lin b).base
      · obtain ⟨r, hr, hm, he⟩ := ih as (b :: bs) hga' hgb (by simp only [List.length_cons]; omega)
        refine ⟨r, hr, by rw [if_pos h4, hm, List.map_cons], fun acc => ?_⟩
        rw [interSweep_cons, if_neg (mt t1.1 h1), if_neg (mt t2.1 h2), if_neg (mt t3.1 h3), if_pos (t4.2 h4)]
        exact he _
      · obtain ⟨r, hr, hm, he⟩ := ih (a :: as) bs hga hgb' (by simp only [List.length_cons]; omega)
        refine ⟨r, hr, by rw [if_neg h4, hm, List.map_cons], fun acc => ?_⟩
        rw [interSweep_cons, if_neg (mt t1.1 h1), if_neg (mt t2.1 h2), if_neg (mt t3.1 h3), if_neg (mt t4.1 h4)]
        exact he _

theorem interSweep_map : ∀ (fuel : Nat) (as bs : List Net) (acc : St),
    (∀ n ∈ as, Good n) → (∀ n ∈ bs, Good n) → (∀ n ∈ acc, Good n) → acc.Nodup →
    as.length + bs.length < fuel →
    (∀ n ∈ interSweep fuel as bs acc, Good n) ∧ (interSweep fuel as bs acc).Nodup ∧
    ∀ x, x ∈ (interSweep fuel as bs acc).map lin ↔ x ∈ acc.map lin ∨ x ∈ inter (as.map lin) (bs.map lin) := by
  intro fuel as bs acc hga hgb hgc hnd hlen
  obtain ⟨r, hr, hm, he⟩ := interSweep_eq fuel as bs hga hgb hlen
  obtain ⟨g1, g2, g3⟩ := foldl_dInsert r hr acc hgc
  rw [he, ← hm]
  exact ⟨g1, g2 hnd, fun x => by simp only [List.mem_map, g3, or_and_right, exists_or]⟩

/-- `intersection` / `&`: a stored key is a key of one operand and the result lies inside both,
    so it is canonical (`inv_of_shrink`) -/
theorem intersection_spec (s t : St) (hs : Inv s) (ht : Inv t) :
    Holds (intersection s t) fun ver a => denS s ver a ∧ denS t ver a := by
  have hps := sortNets_perm s; have hpt := sortNets_perm t
  have hgs := hs.good_sorted; have hgt := ht.good_sorted
  obtain ⟨r1, r2, r3⟩ := interSweep_map (s.length + t.length + 1) (sortNets s) (sortNets t) []
    hgs hgt (by simp) List.nodup_nil (by rw [hps.length_eq, hpt.length_eq]; omega)
  have hmem : ∀ x, x ∈ (intersection s t).map lin ↔ x ∈ inter ((sortNets s).map lin) ((sortNets t).map lin) := by
    intro x; have := r3 x; simpa [intersection] using this
  have hline : ∀ x, den ((intersection s t).map lin) x ↔ den (s.map lin) x ∧ den (t.map lin) x := fun x => by
    rw [den_congr hmem x]
    exact (inter_den _ _ (canon_shown s hs) (canon_shown t ht) x).trans (and_congr (den_shown s x) (den_shown t x))
  refine ⟨inv_of_shrink _ r1 r2 fun n hn => ?_, denS_of_line r1
    hs.wf ht.wf And (fun h => h.1) hline⟩
  rcases inter_subset _ _ _ ((hmem _).1 (List.mem_map_of_mem hn)) with h | h
  · obtain ⟨m, hm, e⟩ := List.mem_map.1 h
    exact ⟨s, hs, lin_inj m n (hgs m hm) (r1 n hn) e ▸ hps.mem_iff.1 hm, fun x hx => ((hline x).1 hx).1⟩
  · obtain ⟨m, hm, e⟩ := List.mem_map.1 h
    exact ⟨t, ht, lin_inj m n (hgt m hm) (r1 n hn) e ▸ hpt.mem_iff.1 hm, fun x hx => ((hline x).1 hx).2⟩

end NV.IPSet
