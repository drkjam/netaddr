/-
Lemmas/StrLit.lean — evaluating decidable facts about string literals (test vectors and examples).
-/

/-- Kernel evaluation of a decidable fact about string literals.  `"…".toList` is first rewritten
    to the list of its characters (a literal unifies with `String.ofList [..]`): evaluating
    `String.toList` itself decodes UTF-8, at a cost per character far above everything else. -/
macro "decide_lit" : tactic => `(tactic| ((repeat rw [String.toList_ofList]); decide +kernel))
