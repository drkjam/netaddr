/-
Lemmas/TupleOrder.lean — Python tuple comparison (`tupleCmp`) is a total order: one symmetry fact
(`tupleCmp_swap`), transitivity, `= .eq` exactly on equal tuples; its lexicographic reading (`LexLe`); and
`sorted()` on networks (`sortNets`): a sorted permutation that does not depend on the input order.
-/
import NetaddrVerif.Model.Compare
namespace NV

theorem tupleCmp_cons (x y : Int) (xs ys : List Int) :
    tupleCmp (x :: xs) (y :: ys) = if x < y then .lt else if x > y then .gt else tupleCmp xs ys := by
  rw [tupleCmp]

theorem tupleCmp_head_lt (x y : Int) (a b : List Int) (h : x < y) : tupleCmp (x :: a) (y :: b) = .lt := by
  rw [tupleCmp_cons, if_pos h]

theorem tupleCmp_head_eq (x : Int) (a b : List Int) : tupleCmp (x :: a) (x :: b) = tupleCmp a b := by
  rw [tupleCmp_cons, if_neg (Int.lt_irrefl x), if_neg (Int.lt_irrefl x)]

theorem tupleCmp_swap : ∀ (a b : List Int), tupleCmp b a = (tupleCmp a b).swap
  | [], [] => rfl
  | [], _ :: _ => rfl
  | _ :: _, [] => rfl
  | x :: xs, y :: ys => by
    rw [tupleCmp_cons, tupleCmp_cons, tupleCmp_swap xs ys]
    rcases Int.lt_trichotomy x y with h | rfl | h
    · simp only [gt_iff_lt, h, Int.lt_asymm h, if_true, if_false]; rfl
    · simp only [gt_iff_lt, Int.lt_irrefl, if_false]
    · simp only [gt_iff_lt, h, Int.lt_asymm h, if_true, if_false]; rfl

theorem tupleCmp_eq_iff : ∀ a b : List Int, tupleCmp a b = .eq ↔ a = b
  | [], [] => ⟨fun _ => rfl, fun _ => rfl⟩
  | [], _ :: _ => ⟨nofun, nofun⟩
  | _ :: _, [] => ⟨nofun, nofun⟩
  | x :: a, y :: b => by
    rw [tupleCmp_cons, List.cons.injEq]
    rcases Int.lt_trichotomy x y with h | rfl | h
    · rw [if_pos h]; exact ⟨nofun, fun e => absurd e.1 (Int.ne_of_lt h)⟩
    · rw [if_neg (Int.lt_irrefl x), if_neg (Int.lt_irrefl x), tupleCmp_eq_iff a b]
      exact ⟨fun e => ⟨rfl, e⟩, fun e => e.2⟩
    · rw [if_neg (Int.lt_asymm h), if_pos h]; exact ⟨nofun, fun e => absurd e.1.symm (Int.ne_of_lt h)⟩

theorem tupleCmp_refl (a : List Int) : tupleCmp a a = .eq := (tupleCmp_eq_iff a a).2 rfl

/-- lexicographic `<=` on int tuples, as a proposition -/
def LexLe : List Int → List Int → Prop
  | [], _ => True
  | _ :: _, [] => False
  | a :: as, b :: bs => a < b ∨ (a = b ∧ LexLe as bs)

theorem tupleLe_iff : ∀ (a b : List Int), tupleLe a b = true ↔ LexLe a b
  | [], [] => ⟨fun _ => trivial, fun _ => rfl⟩
  | [], _ :: _ => ⟨fun _ => trivial, fun _ => rfl⟩
  | _ :: _, [] => ⟨nofun, nofun⟩
  | x :: xs, y :: ys => by
    have ih := tupleLe_iff xs ys
    rw [tupleLe] at ih ⊢
    rw [tupleCmp_cons]
    show _ ↔ x < y ∨ (x = y ∧ LexLe xs ys)
    rcases Int.lt_trichotomy x y with h | rfl | h
    · rw [if_pos h]; exact ⟨fun _ => Or.inl h, fun _ => rfl⟩
    · rw [if_neg (Int.lt_irrefl x), if_neg (Int.lt_irrefl x)]
      exact ih.trans ⟨fun h => Or.inr ⟨rfl, h⟩, fun h => h.elim (fun h => absurd h (Int.lt_irrefl x)) (·.2)⟩
    · rw [if_neg (Int.lt_asymm h), if_pos h]
      exact ⟨nofun, fun h' => h'.elim (fun h' => absurd h' (Int.lt_asymm h)) (fun h' => absurd h'.1 (Int.ne_of_gt h))⟩

theorem lexLe_trans : ∀ (a b c : List Int), LexLe a b → LexLe b c → LexLe a c
  | [], _, _, _, _ => trivial
  | _ :: _, [], _, h, _ => h.elim
  | _ :: _, _ :: _, [], _, h => h.elim
  | x :: xs, y :: ys, z :: zs, h1, h2 => by
    rcases h1 with h1 | ⟨rfl, h1⟩ <;> rcases h2 with h2 | ⟨rfl, h2⟩
    · exact Or.inl (Int.lt_trans h1 h2)
    · exact Or.inl h1
    · exact Or.inl h2
    · exact Or.inr ⟨rfl, lexLe_trans xs ys zs h1 h2⟩

theorem tupleLe_trans (a b c : List Int) (h1 : tupleLe a b = true) (h2 : tupleLe b c = true) :
    tupleLe a c = true :=
  (tupleLe_iff a c).2 (lexLe_trans a b c ((tupleLe_iff a b).1 h1) ((tupleLe_iff b c).1 h2))

theorem tupleCmp_trans (a b c : List Int) (h1 : tupleCmp a b ≠ .gt) (h2 : tupleCmp b c ≠ .gt) :
    tupleCmp a c ≠ .gt :=
  bne_iff_ne.1 (tupleLe_trans a b c (bne_iff_ne.2 h1) (bne_iff_ne.2 h2))

theorem tupleCmp_total (a b : List Int) : tupleCmp a b ≠ .gt ∨ tupleCmp b a ≠ .gt := by
  rw [tupleCmp_swap a b]; cases tupleCmp a b <;> decide

theorem tupleCmp_antisymm (a b : List Int) (h1 : tupleCmp a b ≠ .gt) (h2 : tupleCmp b a ≠ .gt) : a = b := by
  rw [tupleCmp_swap a b] at h2
  apply (tupleCmp_eq_iff a b).1
  revert h1 h2; cases tupleCmp a b <;> decide

/-! ### `<=` and `<` of tuples -/

theorem tupleLe_total (a b : List Int) : (tupleLe a b || tupleLe b a) = true := by
  rw [tupleLe, tupleLe, tupleCmp_swap a b]
  cases tupleCmp a b <;> rfl

theorem tupleLe_antisymm (a b : List Int) (h1 : tupleLe a b = true) (h2 : tupleLe b a = true) : a = b := by
  rw [tupleLe, bne_iff_ne] at h1 h2
  exact tupleCmp_antisymm a b h1 h2

theorem tupleLt_eq (a b : List Int) : tupleLt a b = !tupleLe b a := by
  rw [tupleLt, tupleLe, tupleCmp_swap a b]
  cases tupleCmp a b <;> rfl

theorem tupleCmp_lt_iff (a b : List Int) : tupleCmp a b = .lt ↔ ¬ LexLe b a := by
  rw [← beq_iff_eq, ← tupleLt, tupleLt_eq, Bool.not_eq_true', ← Bool.not_eq_true, tupleLe_iff]

/-! ### `sorted()` on networks -/

/-- the comparison `sorted()` uses on networks -/
def netLe (a b : Net) : Bool := tupleLe a.sortKey b.sortKey

theorem netLe_trans (a b c : Net) : netLe a b = true → netLe b c = true → netLe a c = true :=
  tupleLe_trans _ _ _

theorem netLe_total (a b : Net) : (netLe a b || netLe b a) = true :=
  tupleLe_total _ _

theorem Net.sortKey_inj (a b : Net) (h : a.sortKey = b.sortKey) : a = b := by
  obtain ⟨av, aval, ap⟩ := a
  obtain ⟨bv, bval, bp⟩ := b
  simp only [Net.sortKey, List.cons.injEq, and_true] at h
  obtain ⟨e1, e2, e3, e4⟩ := h
  obtain rfl : av = bv := Int.ofNat_inj.1 e1
  obtain rfl : ap = bp := by omega
  obtain rfl : aval = bval := by omega
  rfl

theorem netLe_antisymm (a b : Net) (h1 : netLe a b = true) (h2 : netLe b a = true) : a = b :=
  Net.sortKey_inj a b (tupleLe_antisymm _ _ h1 h2)

theorem sortNets_pairwise (l : List Net) : (sortNets l).Pairwise (fun a b => netLe a b = true) :=
  List.pairwise_mergeSort netLe_trans netLe_total l

theorem sortNets_perm (l : List Net) : (sortNets l).Perm l := List.mergeSort_perm _ _

theorem sortNets_perm_eq (l l' : List Net) (h : l.Perm l') : sortNets l = sortNets l' :=
  List.Perm.eq_of_pairwise (fun a b _ _ => netLe_antisymm a b) (sortNets_pairwise l) (sortNets_pairwise l')
    (((sortNets_perm l).trans h).trans (sortNets_perm l').symm)

end NV
