/-
Lemmas/IPSetAddRemove.lean — add(x) for every argument form; remove(x): add, locate the containing
block, replace it by cidr_exclude — via the C09 theorem (C06).
-/
import NetaddrVerif.Lemmas.IPSetMergeOps
import NetaddrVerif.Props.C09
namespace NV.IPSet
open NV NV.Blk NV.C05L

theorem add_spec (s : St) (hs : Inv s) (x : Arg) (hx : ArgOK x) :
    Holds (add s x) fun u a => denS s u a ∨ argDen x u a := by
  cases x with
  | net n =>
    obtain ⟨hg, _, hv, _⟩ := netCidr_good n hx
    obtain ⟨hf, hl⟩ := netCidr_first_last n hx
    exact Holds.congr (compactSingle_spec s hs (netCidr n) hg) fun u a => by rw [argDen_net, ← hf, ← hl, ← hv]
  | rng r => exact addRange_spec s hs.good r hx

/-- Replacing a stored key `c` by good keys of its family whose blocks form a canonical set inside
    `c`'s block keeps the state canonical: the other keys are whole keys of the old state, apart
    from `c` and so from the new blocks (`canonset_union`). -/
theorem replace_spec (s : St) (hs : Inv s) (c : Net) (hc : c ∈ s) (R : List Net)
    (hR : ∀ n ∈ R, Good n ∧ n.ver = c.ver ∧ (blk n).sub (blk c))
    (hcan : CanonSet (R.map blk)) :
    Holds (R.foldl dInsert (dDel s c)) fun u a => (denS s u a ∧ ¬ argDen (.net c) u a) ∨ denS R u a := by
  have hcg := hs.good c hc
  obtain ⟨hi0, hd0⟩ := dDel_spec s hs c hc
  obtain ⟨g1, g2, g3⟩ := foldl_dInsert R (fun n hn => (hR n hn).1) (dDel s c) hi0.good
  have hmd := mem_dDel s hs.good c hcg
  refine ⟨inv_of_lin _ g1 (g2 hi0.nodup) ?_, fun u a => by rw [denS_of_mem_or g3 u a, hd0 u a]⟩
  have hRw : ∀ n ∈ R, n.WF := fun n hn => (hR n hn).1.1
  have hKc : CanonSet (R.map lin) := canonset_lin R hRw fun ver =>
    canonset_subset hcan fun b hb => by
      obtain ⟨n, hn, _, rfl⟩ := mem_fam.1 hb
      exact List.mem_map_of_mem hn
  -- a new block lies inside `c` on the line as well
  have hin : ∀ x, den (R.map lin) x → (lin c).mem x := by
    rintro x ⟨b, hb, hx⟩
    obtain ⟨n, hn, rfl⟩ := List.mem_map.1 hb
    exact (lin_sub n c (hRw n hn) hcg.1).2 ⟨(hR n hn).2.1, (hR n hn).2.2⟩ x hx
  refine canonset_congr (canonset_union (s.map lin) ((dDel s c).map lin) (R.map lin) hs.lin
    (fun b hb => ?_) hKc (fun x hx => ⟨lin c, List.mem_map_of_mem hc, hin x hx⟩)
    fun x ⟨⟨b, hb, hx⟩, hk⟩ => ?_) fun b => ?_
  · obtain ⟨n, hn, rfl⟩ := List.mem_map.1 hb
    exact List.mem_map_of_mem ((hmd n).1 hn).1
  · -- another key of `s` does not meet `c`
    obtain ⟨n, hn, rfl⟩ := List.mem_map.1 hb
    obtain ⟨hns, hne⟩ := (hmd n).1 hn
    exact hs.lin.dj _ (List.mem_map_of_mem hns) _ (List.mem_map_of_mem hc)
      (fun e => hne (lin_inj n c (hs.good n hns) hcg e)) x ⟨hx, hin x hk⟩
  · rw [← List.map_append]
    simp only [List.mem_map, g3, List.mem_append]

theorem diff_through {S S1 C A : Prop} (h1 : S1 ↔ S ∨ A) (hAC : A → C) (hCS : C → S1) :
    (S1 ∧ ¬ C) ∨ (C ∧ ¬ A) ↔ S ∧ ¬ A := by
  constructor
  · rintro (⟨h, hnc⟩ | ⟨hc, hna⟩)
    · exact ⟨(h1.1 h).resolve_right fun ha => hnc (hAC ha), fun ha => hnc (hAC ha)⟩
    · exact ⟨(h1.1 (hCS hc)).resolve_right hna, hna⟩
  · rintro ⟨hs, hna⟩
    by_cases hc : C
    · exact Or.inr ⟨hc, hna⟩
    · exact Or.inl ⟨h1.2 (Or.inl hs), hc⟩

/-- `remove(addr)` for a network / address / int argument: add, find the containing block,
    replace it by `cidr_exclude(block, addr)` — canonical again, denoting the old addresses
    minus the argument's block. -/
theorem removeNet_spec (s : St) (hs : Inv s) (addr : Net) (hw : addr.WF) :
    Holds (removeNet s addr) fun u a => denS s u a ∧ ¬ argDen (.net addr) u a := by
  obtain ⟨hs1, hden1⟩ := add_spec s hs (.net addr) hw
  change Inv (addNet s addr) at hs1
  change ∀ u a, denS (addNet s addr) u a ↔ _ at hden1
  -- some stored block contains the argument
  obtain ⟨c0, hc0, hv0, hsubc⟩ := hs1.covered addr hw fun a h1 h2 => (hden1 _ a).2 (Or.inr ⟨rfl, h1, h2⟩)
  have hin0 : netIn addr c0 = true :=
    (netIn_iff addr c0).2 ⟨hv0.symm, (sub_iff addr c0 hw (hs1.wf c0 hc0)).1 hsubc⟩
  cases hf : (addNet s addr).find? (fun c => netIn addr c) with
  | none => exact absurd hin0 (by simpa using List.find?_eq_none.1 hf c0 hc0)
  | some c =>
    have hres : removeNet s addr =
        ((cidrExclude (width c.ver) (toPfx c) (toPfx addr)).map (ofPfx c.ver)).foldl dInsert
          (dDel (addNet s addr) c) := by
      unfold removeNet; simp only [hf]
    rw [hres]
    have hc : c ∈ addNet s addr := List.mem_of_find?_eq_some hf
    have hcg := hs1.good c hc
    obtain ⟨hcv, hcf, hcl⟩ := (netIn_iff addr c).1 (List.find?_some hf)
    -- cidr_exclude on the containing block, read on keys
    obtain ⟨xd, xc, xw⟩ := C09.exclude_spec (width c.ver) (toPfx c) (toPfx addr) ⟨hcg.1.2.1, hcg.1.2.2⟩
      ⟨hcv ▸ hw.2.1, hcv ▸ hw.2.2⟩
    generalize cidrExclude (width c.ver) (toPfx c) (toPfx addr) = rem0 at xd xc xw
    obtain ⟨hrg, hmap, hrd⟩ := ofPfx_keys c.ver hcg.1.1 rem0
      fun b hb => ⟨(xw b hb).1.val_lt, (xw b hb).1.plen_le, (xw b hb).2.2⟩
    have emem : ∀ a, (toPfx addr).mem (width c.ver) a ↔ addr.first ≤ a ∧ a ≤ addr.last := by
      intro a; unfold Pfx.mem Pfx.first Pfx.last Net.first Net.last toPfx; rw [hcv]
    have hremden : ∀ u a, denS (rem0.map (ofPfx c.ver)) u a ↔ argDen (.net c) u a ∧ ¬ argDen (.net addr) u a :=
      fun u a => by
        rw [hrd u a, xd a, emem]
        exact ⟨fun ⟨hv, h1, h2⟩ => ⟨⟨hv, h1⟩, fun hA => h2 hA.2⟩, fun ⟨⟨hv, h1⟩, h2⟩ => ⟨hv, h1, fun hx => h2 ⟨hcv.trans hv, hx⟩⟩⟩
    refine (replace_spec _ hs1 c hc (rem0.map (ofPfx c.ver)) (fun n hn => by
      obtain ⟨b, hb, rfl⟩ := List.mem_map.1 hn
      exact ⟨hrg b hb, rfl, fun a ha => (blk_mem c hcg.1 a).2
        ((hremden c.ver a).1 ⟨_, hn, rfl, (blk_mem _ (hrg b hb).1 a).1 ha⟩).1.2⟩) (hmap ▸ xc.toSet)).congr fun u a => ?_
    rw [hremden u a]
    exact diff_through (hden1 u a)
      (fun h => ⟨hcv.symm.trans h.1, Nat.le_trans hcf h.2.1, Nat.le_trans h.2.2 hcl⟩) fun h => ⟨c, hc, h⟩

theorem foldl_removeNet_spec (l : List Net) (hl : ∀ n ∈ l, n.WF) : ∀ (s : St), Inv s →
    Holds (l.foldl removeNet s) fun u a => denS s u a ∧ ¬ denS l u a := by
  induction l with
  | nil => intro s hs; exact ⟨hs, fun u a => by simp [denS_nil]⟩
  | cons x xs ih =>
    intro s hs
    obtain ⟨h1, h2⟩ := removeNet_spec s hs x (hl x (List.mem_cons_self ..))
    refine (ih (fun n h => hl n (List.mem_cons_of_mem _ h)) _ h1).congr fun u a => ?_
    rw [h2 u a, and_assoc, ← not_or, denS_cons]

/-- `remove(x)`; an `IPRange` is removed cidr by cidr -/
theorem remove_spec (s : St) (hs : Inv s) (x : Arg) (hx : ArgOK x) :
    Holds (remove s x) fun u a => denS s u a ∧ ¬ argDen x u a := by
  cases x with
  | net n => exact removeNet_spec s hs n hx
  | rng r =>
    obtain ⟨g, d⟩ := rangeCidrs_arg r hx
    exact (foldl_removeNet_spec _ (fun n hn => (g n hn).1) s hs).congr fun u a => by rw [d u a]

end NV.IPSet
