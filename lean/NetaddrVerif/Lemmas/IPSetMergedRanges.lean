/-
Lemmas/IPSetMergedRanges.lean — `_iter_merged_ranges` on a sorted list of pairwise separated
`(version, first, last)` tuples: the output is the interval normal form of the input
(valid, ascending, a gap between ranges of one family), denotes the same addresses, and
keeps the number of addresses (C07 iter_ipranges / size).
-/
import NetaddrVerif.Model.IPSet
import NetaddrVerif.Lemmas.ListText
namespace NV.IPSet
open NV

def denVR (l : List VR) (ver a : Nat) : Prop := ∃ r ∈ l, r.1 = ver ∧ r.2.1 ≤ a ∧ a ≤ r.2.2

theorem denVR_cons (r : VR) (l : List VR) (ver a : Nat) :
    denVR (r :: l) ver a ↔ (r.1 = ver ∧ r.2.1 ≤ a ∧ a ≤ r.2.2) ∨ denVR l ver a := by
  simp only [denVR, List.mem_cons, exists_eq_or_imp]

/-- ascending, possibly adjacent: lower family first, inside a family strictly to the right.  On the line it is
    `x.H < y.L` (`vr_lt_iff`, `d = 0`), the relation of the list predicate `AscR` (IPSetIntervals) -/
def SepR (x y : VR) : Prop := x.1 < y.1 ∨ (x.1 = y.1 ∧ x.2.2 < y.2.1)

/-- ascending with a gap: lower family first, inside a family at least one address between.  On the line it is
    `x.H + 1 < y.L` (`vr_lt_iff`, `d = 1`), the relation of the list predicate `GapR` (IPSetDifference) -/
def GapR_q (x y : VR) : Prop := x.1 < y.1 ∨ (x.1 = y.1 ∧ x.2.2 + 1 < y.2.1)

def vrSum : List VR → Nat
  | [] => 0
  | r :: l => (r.2.2 - r.2.1 + 1) + vrSum l

theorem mergedRangesAux_nil (cur : VR) : mergedRangesAux cur [] = [cur] := rfl

theorem mergedRangesAux_cons (cv cs ce nv ns ne : Nat) (rest : List VR) :
    mergedRangesAux (cv, cs, ce) ((nv, ns, ne) :: rest) =
      if ns = ce + 1 ∧ nv = cv then mergedRangesAux (cv, cs, ne) rest
      else (cv, cs, ce) :: mergedRangesAux (nv, ns, ne) rest := by
  rw [mergedRangesAux]
  simp only [Bool.and_eq_true, beq_iff_eq]

/-- every emitted range starts where an input tuple starts, in its family; so a relation that reads only the family and the start
    of its right argument (`GapR_q c ·`, `SepR n ·`) carries over from the input to the output -/
theorem mergedRangesAux_starts (cur : VR) (rest : List VR) :
    (∃ e t, mergedRangesAux cur rest = (cur.1, cur.2.1, e) :: t ∧
      ∀ y ∈ t, ∃ x ∈ rest, y.1 = x.1 ∧ y.2.1 = x.2.1) := by
  induction rest generalizing cur with
  | nil => exact ⟨cur.2.2, [], by rw [mergedRangesAux_nil], by simp⟩
  | cons n rest ih =>
    obtain ⟨cv, cs, ce⟩ := cur; obtain ⟨nv, ns, ne⟩ := n
    rw [mergedRangesAux_cons]
    split
    · obtain ⟨e, t, h1, h2⟩ := ih (cv, cs, ne)
      refine ⟨e, t, h1, fun y hy => ?_⟩
      obtain ⟨x, hx, h⟩ := h2 y hy
      exact ⟨x, List.mem_cons_of_mem _ hx, h⟩
    · obtain ⟨e, t, h1, h2⟩ := ih (nv, ns, ne)
      refine ⟨ce, _, rfl, fun y hy => ?_⟩
      rw [h1] at hy
      rcases List.mem_cons.1 hy with e1 | e1
      · exact ⟨(nv, ns, ne), List.mem_cons_self .., by rw [e1], by rw [e1]⟩
      · obtain ⟨x, hx, h⟩ := h2 y e1
        exact ⟨x, List.mem_cons_of_mem _ hx, h⟩

theorem mergedRanges_eq_nil (l : List VR) : mergedRanges l = [] ↔ l = [] := by
  cases l with
  | nil => exact ⟨fun _ => rfl, fun _ => rfl⟩
  | cons r t =>
    obtain ⟨e, t', h, -⟩ := mergedRangesAux_starts r t
    constructor
    · intro h'; rw [mergedRanges, h] at h'; cases h'
    · intro h'; cases h'

theorem gap_trans_sep {c n x : VR} (h1 : GapR_q c n) (h2 : SepR n x) (hn : n.2.1 ≤ n.2.2) : GapR_q c x := by
  unfold GapR_q SepR at *
  omega

/-- Induction over the input with `cur` general.  Either the next tuple continues `cur` (same family, starts at
    `ce + 1`) and `cur` grows; or `cur` is emitted, and it has a gap to everything emitted later: to the next tuple
    because the test failed, to the rest because they start where later input tuples start (`mergedRangesAux_starts`,
    `gap_trans_sep`). -/
theorem mergedRangesAux_spec (cur : VR) (rest : List VR)
    (hv : ∀ r ∈ cur :: rest, r.2.1 ≤ r.2.2) (hs : (cur :: rest).Pairwise SepR) :
    (∀ r ∈ mergedRangesAux cur rest, r.2.1 ≤ r.2.2) ∧
    (mergedRangesAux cur rest).Pairwise GapR_q ∧
    (∀ ver a, denVR (mergedRangesAux cur rest) ver a ↔ denVR (cur :: rest) ver a) ∧
    vrSum (mergedRangesAux cur rest) = vrSum (cur :: rest) := by
  induction rest generalizing cur with
  | nil =>
    rw [mergedRangesAux_nil]
    exact ⟨hv, List.pairwise_singleton _ _, fun _ _ => Iff.rfl, rfl⟩
  | cons n rest ih =>
    obtain ⟨cv, cs, ce⟩ := cur; obtain ⟨nv, ns, ne⟩ := n
    have hcv : cs ≤ ce := hv (cv, cs, ce) (List.mem_cons_self ..)
    have hnv : ns ≤ ne := hv (nv, ns, ne) (List.mem_cons_of_mem _ (List.mem_cons_self ..))
    have hs1 := List.pairwise_cons.1 hs
    have hs2 := List.pairwise_cons.1 hs1.2
    have hcn : SepR (cv, cs, ce) (nv, ns, ne) := hs1.1 _ (List.mem_cons_self ..)
    rw [mergedRangesAux_cons]
    by_cases hm : ns = ce + 1 ∧ nv = cv
    · rw [if_pos hm]
      obtain ⟨hm1, hm2⟩ := hm
      subst hm1; subst hm2
      have hv' : ∀ r ∈ (nv, cs, ne) :: rest, r.2.1 ≤ r.2.2 := by
        intro r hr
        rcases List.mem_cons.1 hr with e | e
        · subst e; show cs ≤ ne; omega
        · exact hv r (List.mem_cons_of_mem _ (List.mem_cons_of_mem _ e))
      have hs' : ((nv, cs, ne) :: rest).Pairwise SepR := by
        refine List.pairwise_cons.2 ⟨fun y hy => ?_, hs2.2⟩
        exact hs2.1 y hy
      obtain ⟨i1, i2, i3, i4⟩ := ih (nv, cs, ne) hv' hs'
      refine ⟨i1, i2, fun ver a => ?_, ?_⟩
      · simp only [i3, denVR_cons]
        constructor
        · rintro (⟨h1, h2, h3⟩ | h)
          · by_cases h4 : a ≤ ce
            · exact Or.inl ⟨h1, h2, h4⟩
            · exact Or.inr (Or.inl ⟨h1, by show ce + 1 ≤ a; omega, h3⟩)
          · exact Or.inr (Or.inr h)
        · rintro (⟨h1, h2, h3⟩ | ⟨h1, h2, h3⟩ | h)
          · exact Or.inl ⟨h1, h2, by show a ≤ ne; omega⟩
          · exact Or.inl ⟨h1, by show cs ≤ a; omega, h3⟩
          · exact Or.inr h
      · rw [i4]; simp only [vrSum]; omega
    · rw [if_neg hm]
      have hv' : ∀ r ∈ (nv, ns, ne) :: rest, r.2.1 ≤ r.2.2 := fun r hr => hv r (List.mem_cons_of_mem _ hr)
      obtain ⟨i1, i2, i3, i4⟩ := ih (nv, ns, ne) hv' hs1.2
      refine ⟨?_, ?_, fun ver a => ?_, ?_⟩
      · intro r hr
        rcases List.mem_cons.1 hr with e | e
        · subst e; exact hcv
        · exact i1 r e
      · refine List.pairwise_cons.2 ⟨fun y hy => ?_, i2⟩
        -- y starts where some input range right of `cur` starts
        obtain ⟨e, t, h1, h2⟩ := mergedRangesAux_starts (nv, ns, ne) rest
        rw [h1] at hy
        have gapn : GapR_q (cv, cs, ce) (nv, ns, ne) := by
          rcases hcn with h | ⟨h, h'⟩
          · exact Or.inl h
          · refine Or.inr ⟨h, ?_⟩
            simp only at h h' ⊢
            have : ns ≠ ce + 1 := fun e => hm ⟨e, h.symm⟩
            omega
        rcases List.mem_cons.1 hy with e1 | e1
        · subst e1
          exact gapn
        · obtain ⟨x, hx, hx1, hx2⟩ := h2 y e1
          have := gap_trans_sep gapn (hs2.1 x hx) hnv
          unfold GapR_q at this ⊢
          rw [hx1, hx2]; exact this
      · rw [denVR_cons, i3, denVR_cons (cv, cs, ce)]
      · simp only [vrSum] at i4 ⊢; rw [i4]

theorem mergedRanges_normal (l : List VR) (hv : ∀ r ∈ l, r.2.1 ≤ r.2.2) (hs : l.Pairwise SepR) :
    (∀ r ∈ mergedRanges l, r.2.1 ≤ r.2.2) ∧ (mergedRanges l).Pairwise GapR_q ∧
    (∀ ver a, denVR (mergedRanges l) ver a ↔ denVR l ver a) ∧ vrSum (mergedRanges l) = vrSum l := by
  cases l with
  | nil => exact ⟨by simp [mergedRanges], by simp [mergedRanges], fun _ _ => Iff.rfl, rfl⟩
  | cons r rest => exact mergedRangesAux_spec r rest hv hs

theorem gap_not_den (l : List VR) (hv : ∀ r ∈ l, r.2.1 ≤ r.2.2) (hg : l.Pairwise GapR_q)
    (r : VR) (hr : r ∈ l) : ¬ denVR l r.1 (r.2.2 + 1) := by
  rintro ⟨x, hx, h1, h2, h3⟩
  have hvx := hv x hx
  have hvr := hv r hr
  by_cases e : x = r
  · subst e; omega
  · rcases pairwise_or l hg x hx r hr e with key | key <;> unfold GapR_q at key <;> omega

end NV.IPSet
