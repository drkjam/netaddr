/-
Lemmas/C03LAcc.lean — what the pieces of `parse_ip_network` accept, stated without the generated
tables and without the try/except plumbing: `expand_partial_address` over `t.split('.')` and `int()`; the address
part (strict, else for IPv4 the partial expansion) as one function of the text (`addr4Spec`, `addrVal`) and as the
relation `AddrPart`; the prefix part (`PrefixPart`), the dictionary lookups replaced by the mask equations; the
string branch after the split put together (`core_eval`).
-/
import NetaddrVerif.Lemmas.C03L
namespace NV.C03L.Acc
open NV NV.Text4 NV.AddrParse NV.NetParse NV.C01L NV.C03L

/-! ### what `int()` accepts has no '.', ':' or '/' ; strict addresses are no numerals -/

theorem pyInt_nil : Py.pyInt 10 [] = none := by decide

theorem pyInt_some_clean (s : List Char) (i : Int) (h : Py.pyInt 10 s = some i) :
    '.' ∉ s ∧ ':' ∉ s ∧ '/' ∉ s := by
  refine ⟨?_, ?_, ?_⟩ <;> intro hm
  · rw [pyInt_dot s hm] at h; cases h
  · rw [pyInt_colon s hm] at h; cases h
  · rw [Zf.pyInt_slash s hm] at h; cases h

theorem showInt_noslash (i : Int) : '/' ∉ showInt i := fun h =>
  (Zf.showInt_chars i _ h).elim (fun e => absurd e (by decide)) fun e => absurd e (by decide)

theorem showInt_nodot (i : Int) : '.' ∉ showInt i := fun h =>
  (Zf.showInt_chars i _ h).elim (fun e => absurd e (by decide)) fun e => absurd e (by decide)

theorem ipAddress4_ok_iff (be : Backend) (x : List Char) (hx : x.contains '/' = false) (a : Addr) :
    ipAddress be x (some 4) INET_PTON = .ok a ↔ a.ver = 4 ∧ a.val < 2 ^ 32 ∧ x = ntoa a.val := by
  rw [Raw.ipAddress4_ok, Raw.body4_strict be x INET_PTON ⟨rfl, rfl⟩, inetPton4_iff,
    and_iff_right (not_mem_of_contains_false hx)]

theorem strict6_ok_iff (be : Backend) (x : List Char) (hx : x.contains '/' = false) (a : Nat) :
    ipAddress be x (some 6) INET_PTON = .ok ⟨6, a⟩ ↔ inetPton6 be x = some a := by
  rw [ipAddress6_strict be x hx]
  cases inetPton6 be x <;> simp

theorem colon_of_strict6 (be : Backend) (x : List Char) (a : Addr)
    (h : ipAddress be x (some 6) INET_PTON = .ok a) : ':' ∈ x := by
  obtain ⟨pre, r, e, _⟩ := inetPton6_shape ((Raw.ipAddress6_ok ..).1 h).2.2
  exact e ▸ List.mem_append_right pre (List.mem_cons_self ..)

/-- … and what the strict IPv4 reader accepts has none: one family per text -/
theorem nocolon_of_strict4 (be : Backend) (x : List Char) (a : Addr)
    (h : ipAddress be x (some 4) INET_PTON = .ok a) : ':' ∉ x := by
  obtain ⟨_, _, hx⟩ := (ipAddress4_ok_iff be x (strict_noslash be 4 x a h) a).mp h
  rw [hx]; exact colon_not_in_ntoa _

theorem strict_pyInt_none (be : Backend) (ver : Nat) (hver : VerOK ver) (t : List Char) (a : Addr)
    (h : ipAddress be t (some ver) INET_PTON = .ok a) : Py.pyInt 10 t = none := by
  have hns := strict_noslash be ver t a h
  rcases hver with e | e <;> subst e
  · obtain ⟨_, _, hx⟩ := (ipAddress4_ok_iff be t hns a).mp h
    rw [hx]; exact pyInt_dot _ (addr4_dot _)
  · exact pyInt_colon _ (colon_of_strict6 be t a h)

/-! ### `expand_partial_address` over `split('.')` and `int()` -/

/-- `expand_partial_address(x)`: no ':' ; every piece of `x.split('.')` is read by `int()`; at
    most four pieces; printed back with `'%d'` and padded with "0" octets. -/
theorem expand_eq (x : List Char) :
    expandPartialAddress x =
      if x.contains ':' then .error .addrFormat else
      match (x.splitOn '.').mapM (Py.pyInt 10) with
      | none => .error .addrFormat
      | some ns =>
        if ns.length ≤ 4 then .ok (['.'].intercalate (ns.map showInt ++ List.replicate (4 - ns.length) ['0']))
        else .error .addrFormat := by
  unfold expandPartialAddress
  by_cases hc : x.contains ':' = true
  · simp only [hc, if_true]
  · simp only [hc, Bool.false_eq_true, if_false]
    have htok : (if x.contains '.' = true then (x.splitOn '.').mapM (fun o => (Py.pyInt 10 o).map showInt)
        else (Py.pyInt 10 x).map (fun i => [showInt i])) = ((x.splitOn '.').mapM (Py.pyInt 10)).map (List.map showInt) := by
      by_cases hd : x.contains '.' = true
      · simp only [hd, if_true]; exact mapM_map _ _ _
      · have hd' : '.' ∉ x := by
          intro hm; exact hd (List.contains_iff_mem.mpr hm)
        simp only [hd, Bool.false_eq_true, if_false, List.splitOn_eq_singleton hd', List.mapM_cons, List.mapM_nil]
        cases Py.pyInt 10 x <;> simp
    rw [htok]
    cases hm : (x.splitOn '.').mapM (Py.pyInt 10) with
    | none => rfl
    | some ns =>
      have hl := mapM_length hm
      have hpos : 1 ≤ (x.splitOn '.').length := by
        have := List.splitOn_ne_nil '.' x
        cases hh : x.splitOn '.' with
        | nil => exact absurd hh this
        | cons _ _ => simp
      simp only [Option.map_some, List.length_map]
      by_cases h4 : ns.length ≤ 4
      · have : 1 ≤ ns.length ∧ ns.length ≤ 4 := ⟨by omega, h4⟩
        rw [if_pos this, if_pos h4]
      · have : ¬ (1 ≤ ns.length ∧ ns.length ≤ 4) := fun h => h4 h.2
        rw [if_neg this, if_neg h4]

def quadVal (ns : List Int) : Nat :=
  (ns.getD 0 0).toNat * 16777216 + (ns.getD 1 0).toNat * 65536 + (ns.getD 2 0).toNat * 256 + (ns.getD 3 0).toNat

def InRange (ns : List Int) : Prop := ∀ n ∈ ns, 0 ≤ n ∧ n ≤ 255

instance (ns : List Int) : Decidable (InRange ns) := by unfold InRange; infer_instance

theorem showInt_of_range (n : Int) (h : 0 ≤ n ∧ n ≤ 255) : showInt n = dec n.toNat ∧ n.toNat < 256 := by
  have : n = (n.toNat : Int) := by omega
  constructor
  · conv => lhs; rw [this]
    exact showInt_nat _
  · omega

theorem getD_inRange (ns : List Int) (hr : InRange ns) (i : Nat) : 0 ≤ ns.getD i 0 ∧ ns.getD i 0 ≤ 255 := by
  rw [List.getD_eq_getElem?_getD]
  cases h : ns[i]? with
  | none => exact ⟨Int.le_refl 0, by decide⟩
  | some n => exact hr n (List.mem_of_getElem? h)

theorem quadVal_lt (ns : List Int) (hr : InRange ns) : quadVal ns < 2 ^ 32 := by
  have hb : ∀ i, (ns.getD i 0).toNat < 256 := fun i => (showInt_of_range _ (getD_inRange ns hr i)).2
  have h0 := hb 0
  have h1 := hb 1
  have h2 := hb 2
  have h3 := hb 3
  unfold quadVal
  generalize (ns.getD 0 0).toNat = o0 at *
  generalize (ns.getD 1 0).toNat = o1 at *
  generalize (ns.getD 2 0).toNat = o2 at *
  generalize (ns.getD 3 0).toNat = o3 at *
  omega

/-- `quadVal` on one to four natural octets (in `NV.C03L`: C17's grammar file uses it as well) -/
theorem _root_.NV.C03L.quadVal_octs (a b c d : Nat) :
    quadVal [↑a] = a * 16777216 ∧ quadVal [↑a, ↑b] = a * 16777216 + b * 65536 ∧
    quadVal [↑a, ↑b, ↑c] = a * 16777216 + b * 65536 + c * 256 ∧
    quadVal [↑a, ↑b, ↑c, ↑d] = a * 16777216 + b * 65536 + c * 256 + d := by
  simp only [quadVal, List.getD_cons_zero, List.getD_cons_succ, List.getD_nil, Int.toNat_natCast, Int.toNat_zero]
  exact ⟨by omega, by omega, by omega, trivial⟩

/-- (kept apart from its one user: with the octets abstract, `omega` sees four variables and not the quotients) -/
theorem inRange_octs (a b c d : Nat) (ha : a < 256) (hb : b < 256) (hc : c < 256) (hd : d < 256) :
    InRange [(a : Int), b, c, d] := by
  intro n hn
  simp only [List.mem_cons, List.not_mem_nil, or_false] at hn
  rcases hn with e | e | e | e <;> subst e <;> omega

theorem join_in_range (ns : List Int) (hne : ns ≠ []) (hlen : ns.length ≤ 4) (hr : InRange ns) :
    ['.'].intercalate (ns.map showInt ++ List.replicate (4 - ns.length) ['0']) = ntoa (quadVal ns) ∧
      quadVal ns < 2 ^ 32 := by
  refine ⟨?_, quadVal_lt ns hr⟩
  have hs : ∀ i, dec (ns.getD i 0).toNat = showInt (ns.getD i 0) :=
    fun i => (showInt_of_range _ (getD_inRange ns hr i)).1.symm
  have hb : ∀ i, (ns.getD i 0).toNat < 256 := fun i => (showInt_of_range _ (getD_inRange ns hr i)).2
  have z : showInt 0 = ['0'] := by decide
  unfold quadVal
  rw [ntoa_of_octs _ _ _ _ (hb 1) (hb 2) (hb 3), hs, hs, hs, hs]
  -- a missing octet is padded with "0" on the left and reads as `getD _ 0 = 0` on the right
  match ns, hne, hlen with
  | [a], _, _ => simp only [List.getD_cons_zero, List.getD_cons_succ, List.getD_nil, z]; rfl
  | [a, b], _, _ => simp only [List.getD_cons_zero, List.getD_cons_succ, List.getD_nil, z]; rfl
  | [a, b, c], _, _ => simp only [List.getD_cons_zero, List.getD_cons_succ, List.getD_nil, z]; rfl
  | [a, b, c, d], _, _ => rfl
  | _ :: _ :: _ :: _ :: _ :: _, _, hlen => simp at hlen

theorem showInt_eq_dec (n : Int) (o : Nat) (h : showInt n = dec o) : n = (o : Int) := by
  unfold showInt at h
  split at h
  · exfalso
    have hm : '-' ∈ dec o := by rw [← h]; simp
    exact not_mem_toDigits_ten (by decide) o hm
  · rename_i hn
    have e : Nat.ofDigitChars 10 (dec n.toNat) 0 = Nat.ofDigitChars 10 (dec o) 0 := by rw [h]
    rw [ofDigitChars_dec, ofDigitChars_dec] at e
    omega

theorem join_out_of_range (be : Backend) (ns : List Int) (hne : ns ≠ []) (hlen : ns.length ≤ 4) (hr : ¬ InRange ns) :
    inetPton4 be (['.'].intercalate (ns.map showInt ++ List.replicate (4 - ns.length) ['0'])) = none := by
  cases hp : inetPton4 be (['.'].intercalate (ns.map showInt ++ List.replicate (4 - ns.length) ['0'])) with
  | none => rfl
  | some a =>
    exfalso
    obtain ⟨ha, htxt⟩ := (inetPton4_iff be _ a).mp hp
    have hsp : List.splitOn '.' (['.'].intercalate (ns.map showInt ++ List.replicate (4 - ns.length) ['0'])) =
        List.splitOn '.' (ntoa a) := by rw [← htxt]
    rw [split_ntoa a, List.splitOn_intercalate] at hsp
    · apply hr
      intro n hn
      obtain ⟨h0, h1, h2, h3⟩ := octs_lt a ha
      have hmem : showInt n ∈ ns.map showInt ++ List.replicate (4 - ns.length) ['0'] :=
        List.mem_append_left _ (List.mem_map_of_mem hn)
      rw [hsp] at hmem
      simp only [List.mem_cons, List.not_mem_nil, or_false] at hmem
      rcases hmem with e | e | e | e <;> have := showInt_eq_dec n _ e <;> omega
    · intro l hl
      rcases List.mem_append.mp hl with e | e
      · obtain ⟨n, _, rfl⟩ := List.mem_map.mp e
        exact showInt_nodot n
      · rw [(List.mem_replicate.mp e).2]; decide
    · cases ns with
      | nil => exact absurd rfl hne
      | cons _ _ => simp

/-! ### the address part of a network string -/

/-- the address of `parse_ip_network`'s string branch: strict parse, else (IPv4 only) the partial
    expansion parsed strictly -/
def addrOf (be : Backend) (ver : Nat) (val1 : List Char) : R Addr :=
  match ipAddress be val1 (some ver) INET_PTON with
  | .ok a => .ok a
  | .error .addrFormat =>
    if ver = 4 then
      match expandPartialAddress val1 with
      | .ok expanded => ipAddress be expanded (some ver) INET_PTON
      | .error e => .error e
    else .error .addrFormat
  | .error e => .error e

theorem parseStrCore_eq (be : Backend) (ver : Nat) (val1 : List Char) (val2 : Option (List Char)) (flags : Nat) :
    parseStrCore be ver val1 val2 flags =
      match addrOf be ver val1 with
      | .error e => .error e
      | .ok a =>
        match resolvePrefix be ver val2 with
        | .error e => .error e
        | .ok prefixlen =>
          if ¬ (0 ≤ prefixlen ∧ prefixlen ≤ (width ver : Int)) then .error .addrFormat
          else applyNohost ver flags a.val prefixlen.toNat := rfl

/-- the IPv4 address part as one function of the text: `None` = AddrFormatError.
    No ':' ; the pieces of `split('.')` all readable by `int()`; at most four of them; every
    value in 0..255; missing octets are zero. -/
def addr4Spec (x : List Char) : Option Nat :=
  if x.contains ':' then none else
  match (x.splitOn '.').mapM (Py.pyInt 10) with
  | none => none
  | some ns => if ns.length ≤ 4 ∧ InRange ns then some (quadVal ns) else none

theorem addr4Spec_ntoa (v : Nat) (hv : v < 2 ^ 32) : addr4Spec (ntoa v) = some v := by
  obtain ⟨h0, h1, h2, h3⟩ := octs_lt v hv
  have hc : (ntoa v).contains ':' = false := contains_false_of_not_mem (colon_not_in_ntoa v)
  unfold addr4Spec
  rw [hc, split_ntoa v]
  simp only [Bool.false_eq_true, if_false, List.mapM_cons, List.mapM_nil, pyInt_dec, Option.bind_eq_bind, Option.bind_some,
    Option.pure_def]
  rw [if_pos ⟨Nat.le_refl 4, inRange_octs _ _ _ _ h0 h1 h2 h3⟩, (quadVal_octs _ _ _ _).2.2.2, octs_sum]

/-- `expand_partial_address` and `addr4Spec` read the text alike: refused by both, or `int()`
    reads one to four '.'-pieces `ns`, which the one prints back padded and the other checks
    for range and sums -/
theorem expand_spec (x : List Char) :
    (expandPartialAddress x = .error .addrFormat ∧ addr4Spec x = none) ∨
    ∃ ns : List Int, ns ≠ [] ∧ ns.length ≤ 4 ∧
      expandPartialAddress x = .ok (['.'].intercalate (ns.map showInt ++ List.replicate (4 - ns.length) ['0'])) ∧
      addr4Spec x = if InRange ns then some (quadVal ns) else none := by
  rw [expand_eq]
  unfold addr4Spec
  by_cases hc : x.contains ':' = true
  · rw [if_pos hc, if_pos hc]; exact Or.inl ⟨rfl, rfl⟩
  · rw [if_neg hc, if_neg hc]
    cases hm : (x.splitOn '.').mapM (Py.pyInt 10) with
    | none => exact Or.inl ⟨rfl, rfl⟩
    | some ns =>
      have hne : ns ≠ [] := by
        intro e
        have hl := mapM_length hm
        rw [e] at hl
        exact List.splitOn_ne_nil '.' x (List.eq_nil_of_length_eq_zero hl.symm)
      by_cases h4 : ns.length ≤ 4
      · refine Or.inr ⟨ns, hne, h4, ?_, ?_⟩
        · simp only [if_pos h4]
        · simp only [h4, true_and]
      · refine Or.inl ⟨?_, ?_⟩
        · simp only [if_neg h4]
        · simp only [h4, false_and, if_false]

theorem addr4Spec_lt (x : List Char) (a : Nat) (h : addr4Spec x = some a) : a < 2 ^ 32 := by
  rcases expand_spec x with ⟨_, hs⟩ | ⟨ns, _, _, _, hs⟩ <;> rw [hs] at h
  · cases h
  · split at h
    · cases h
      exact quadVal_lt ns ‹_›
    · cases h

theorem strict_join (be : Backend) (ns : List Int) (hne : ns ≠ []) (hlen : ns.length ≤ 4) :
    inetPton4 be (['.'].intercalate (ns.map showInt ++ List.replicate (4 - ns.length) ['0'])) =
      if InRange ns then some (quadVal ns) else none := by
  by_cases hr : InRange ns
  · obtain ⟨hj, hq⟩ := join_in_range ns hne hlen hr
    rw [if_pos hr, hj, (inetPton4_iff be _ _).mpr ⟨hq, rfl⟩]
  · rw [if_neg hr, join_out_of_range be ns hne hlen hr]

theorem clean_join (os : List (List Char)) (hne : os ≠ []) (hclean : ∀ o ∈ os, '.' ∉ o ∧ ':' ∉ o ∧ '/' ∉ o) :
    (['.'].intercalate os).splitOn '.' = os ∧ ':' ∉ ['.'].intercalate os ∧ '/' ∉ ['.'].intercalate os :=
  ⟨List.splitOn_intercalate _ (fun l hl => (hclean l hl).1) hne,
    not_mem_intercalate (by decide) (fun t ht => (hclean t ht).2.1),
    not_mem_intercalate (by decide) (fun t ht => (hclean t ht).2.2)⟩

/-- (in `NV.C03L`, beside `addr_noslash` and `strict_noslash`) -/
theorem _root_.NV.C03L.expand_noslash (s t : List Char) (h : expandPartialAddress s = .ok t) : t.contains '/' = false := by
  rcases expand_spec s with ⟨he, _⟩ | ⟨ns, _, _, he, _⟩ <;> rw [he] at h
  · cases h
  · cases h
    apply contains_false_of_not_mem
    apply not_mem_intercalate (by decide)
    intro t ht
    rcases List.mem_append.mp ht with e | e
    · obtain ⟨n, _, rfl⟩ := List.mem_map.mp e
      exact showInt_noslash n
    · rw [(List.mem_replicate.mp e).2]; decide

theorem expand_strict (be : Backend) (x e : List Char) (hex : expandPartialAddress x = .ok e) :
    ipAddress be e (some 4) INET_PTON =
      match addr4Spec x with | some a => .ok ⟨4, a⟩ | none => .error .addrFormat := by
  rw [ipAddress4_strict be e (expand_noslash x e hex)]
  rcases expand_spec x with ⟨he, _⟩ | ⟨ns, hne, hlen, he, hs⟩ <;> rw [he] at hex
  · cases hex
  · cases hex
    rw [strict_join be ns hne hlen, hs]
    cases (if InRange ns then some (quadVal ns) else none) <;> rfl

/-- **The IPv4 address part.**  `IPAddress(x, 4, INET_PTON)`, and on failure
    `IPAddress(expand_partial_address(x), 4, INET_PTON)`, is `addr4Spec x`. -/
theorem addr4_eq (be : Backend) (x : List Char) (hx : x.contains '/' = false) :
    addrOf be 4 x = match addr4Spec x with | some a => .ok ⟨4, a⟩ | none => .error .addrFormat := by
  unfold addrOf
  rw [ipAddress4_strict be x hx]
  cases hp : inetPton4 be x with
  | some v =>
    obtain ⟨hv, hxe⟩ := (inetPton4_iff be x v).mp hp
    rw [hxe, addr4Spec_ntoa v hv]
  | none =>
    simp only [if_true]
    cases hex : expandPartialAddress x with
    | ok e => exact expand_strict be x e hex
    | error er =>
      rcases expand_spec x with ⟨he, hs⟩ | ⟨_, _, _, he, _⟩ <;> rw [he] at hex
      · cases hex
        rw [hs]
      · cases hex

/-- **The IPv6 address part** is what `inet_pton(AF_INET6, ·)` accepts: there is no expansion. -/
theorem addr6_eq (be : Backend) (x : List Char) (hx : x.contains '/' = false) :
    addrOf be 6 x = match inetPton6 be x with | some v => .ok ⟨6, v⟩ | none => .error .addrFormat := by
  unfold addrOf
  rw [ipAddress6_strict be x hx]
  cases inetPton6 be x <;> rfl

/-- the value of an address part: `addr4Spec` for IPv4, `inet_pton(AF_INET6, ·)` for IPv6; `none` = AddrFormatError -/
def addrVal (be : Backend) (ver : Nat) (x : List Char) : Option Nat :=
  if ver = 4 then addr4Spec x else inetPton6 be x

theorem addrOf_eq (be : Backend) (ver : Nat) (hver : VerOK ver) (x : List Char) (hx : x.contains '/' = false) :
    addrOf be ver x = match addrVal be ver x with | some a => .ok ⟨ver, a⟩ | none => .error .addrFormat := by
  rcases hver with rfl | rfl
  · exact addr4_eq be x hx
  · exact addr6_eq be x hx

theorem addrVal4_colon (be : Backend) {x : List Char} (h : ':' ∈ x) : addrVal be 4 x = none :=
  if_pos (List.contains_iff_mem.mpr h)

theorem addrVal6_nocolon (be : Backend) {x : List Char} (h : ':' ∉ x) : addrVal be 6 x = none :=
  C01L.inetPton6_no_colon be x h

/-! ### the prefix part -/

/-- what the prefix part of a network string may be and the prefix length it denotes:
    absent (full width); a numeral `int()` reads; the strict-mode text of the netmask of `p`;
    the strict-mode text of the hostmask of `p` for `0 < p < width` (the all-ones and all-zeros
    masks are netmasks first). -/
def PrefixPart (be : Backend) (ver : Nat) (val2 : Option (List Char)) (q : Int) : Prop :=
  match val2 with
  | none => q = (width ver : Int)
  | some t => Py.pyInt 10 t = some q ∨
      ∃ m p : Nat, ipAddress be t (some ver) INET_PTON = .ok ⟨ver, m⟩ ∧ p ≤ width ver ∧ q = (p : Int) ∧
        (m = netNetmask (width ver) p ∨ (m = netHostmask (width ver) p ∧ 0 < p ∧ p < width ver))

/-- **What the prefix part can do.**  `int(val2)`, else netmask / hostmask dictionary lookup, yields
    some `q` that `PrefixPart` allows, or raises — on a '/'-free text only AddrFormatError: the
    tables answer for every mask the predicates accept, so the `KeyError` branches are dead. -/
theorem resolvePrefix_outcome (be : Backend) (ver : Nat) (hver : VerOK ver) (val2 : Option (List Char)) :
    (∃ q, resolvePrefix be ver val2 = .ok q ∧ PrefixPart be ver val2 q) ∨
    (∃ e, resolvePrefix be ver val2 = .error e ∧
      ((∀ t, val2 = some t → t.contains '/' = false) → e = .addrFormat)) := by
  cases val2 with
  | none => exact Or.inl ⟨_, rfl, rfl⟩
  | some t =>
    cases hpi : Py.pyInt 10 t with
    | some i => exact Or.inl ⟨i, resolve_int be ver t i hpi, Or.inl hpi⟩
    | none =>
      cases hip : ipAddress be t (some ver) INET_PTON with
      | error e =>
        exact Or.inr ⟨e, resolve_neither be ver t e hpi hip, fun hno =>
          Raw.error_addrFormat (pver_some ver hver) (hno t rfl) hip⟩
      | ok mask =>
        obtain ⟨hmv, hlt⟩ := ipAddress_ok_lt be t ver hver mask hip
        obtain ⟨mv, m⟩ := mask
        simp only at hmv hlt
        subst hmv
        rw [resolve_strict be mv t m hpi hip]
        cases hn : isNetmask (width mv) m with
        | true =>
          obtain ⟨p, hp, rfl⟩ := (C02.isNetmask_iff (width mv) m hlt).mp hn
          rw [if_pos rfl, lookup_netmaskToPrefix mv hver p hp]
          exact Or.inl ⟨p, rfl, Or.inr ⟨_, p, hip, hp, rfl, Or.inl rfl⟩⟩
        | false =>
          rw [if_neg Bool.false_ne_true]
          cases hh : isHostmask m with
          | true =>
            obtain ⟨p, hp, rfl⟩ := (isHostmask_iff_le (width mv) m hlt).mp hh
            rw [if_pos rfl, lookup_hostmaskToPrefix mv hver p hp]
            have := mt (isNetmask_netHostmask _ p hp).mpr (by rw [hn]; exact Bool.false_ne_true)
            exact Or.inl ⟨p, rfl, Or.inr ⟨_, p, hip, hp, rfl, Or.inr ⟨rfl, by omega, by omega⟩⟩⟩
          | false => exact Or.inr ⟨.addrFormat, if_neg Bool.false_ne_true, fun _ => rfl⟩

/-- every failure of the prefix part is AddrFormatError (a clause of property C03, hence its namespace) -/
theorem _root_.NV.C03.resolvePrefix_err (be : Backend) (ver : Nat) (hver : VerOK ver) (val2 : Option (List Char)) (e : Err)
    (hno : ∀ t, val2 = some t → t.contains '/' = false) (h : resolvePrefix be ver val2 = .error e) : e = .addrFormat := by
  rcases resolvePrefix_outcome be ver hver val2 with ⟨q, hq, _⟩ | ⟨e', he, hc⟩
  · rw [hq] at h; cases h
  · rw [he] at h; cases h; exact hc hno

/-- **The prefix part.**  `int(val2)`, else netmask / hostmask dictionary lookup, yields `q`
    exactly when `PrefixPart` says so. -/
theorem resolvePrefix_iff (be : Backend) (ver : Nat) (hver : VerOK ver) (val2 : Option (List Char)) (q : Int) :
    resolvePrefix be ver val2 = .ok q ↔ PrefixPart be ver val2 q := by
  constructor
  · intro h
    rcases resolvePrefix_outcome be ver hver val2 with ⟨q', hq, hp⟩ | ⟨e, he, _⟩
    · rw [hq] at h; cases h; exact hp
    · rw [he] at h; cases h
  · cases val2 with
    | none => exact fun h => congrArg Except.ok h.symm
    | some t =>
      intro h
      rcases h with h | ⟨m, p, hip, hp, hq, hm⟩
      · exact resolve_int be ver t q h
      · rw [resolve_strict be ver t m (strict_pyInt_none be ver hver t _ hip) hip, hq]
        rcases hm with e | ⟨e, h0, hw⟩ <;> subst e
        · rw [isNetmask_netNetmask _ p hp, if_pos rfl, lookup_netmaskToPrefix ver hver p hp]
        · rw [Bool.eq_false_iff.mpr (mt (isNetmask_netHostmask _ p hp).mp (by omega)), isHostmask_netHostmask,
            lookup_hostmaskToPrefix ver hver p hp]
          rfl

theorem resolvePrefix_not_ok (be : Backend) (ver : Nat) (hver : VerOK ver) (val2 : Option (List Char))
    (hno : ∀ t, val2 = some t → t.contains '/' = false) (h : ∀ q, ¬ PrefixPart be ver val2 q) :
    resolvePrefix be ver val2 = .error .addrFormat := by
  cases hr : resolvePrefix be ver val2 with
  | ok q => exact absurd ((resolvePrefix_iff be ver hver val2 q).mp hr) (h q)
  | error e => rw [C03.resolvePrefix_err be ver hver val2 e hno hr]

/-! ### address part, as a relation -/

/-- what the address part of a network string may be, and its value: a text the strict-mode
    `IPAddress(·, version, INET_PTON)` accepts, or (IPv4 only) a text whose
    `expand_partial_address` expansion it accepts (for IPv4 the second covers the first, `addrPart4_of_spec`:
    netaddr's strict attempt is a shortcut, not a second source of accepted texts). -/
def AddrPart (be : Backend) (ver : Nat) (val1 : List Char) (a : Nat) : Prop :=
  ipAddress be val1 (some ver) INET_PTON = .ok ⟨ver, a⟩ ∨
  (ver = 4 ∧ ∃ e, expandPartialAddress val1 = .ok e ∧ ipAddress be e (some 4) INET_PTON = .ok ⟨4, a⟩)

theorem spec_of_expand (be : Backend) (x e : List Char) (a : Nat) (hex : expandPartialAddress x = .ok e)
    (hip : ipAddress be e (some 4) INET_PTON = .ok ⟨4, a⟩) : addr4Spec x = some a := by
  rw [expand_strict be x e hex] at hip
  cases hs : addr4Spec x with
  | none => rw [hs] at hip; cases hip
  | some a' => rw [hs] at hip; cases hip; rfl

/-- whenever `addr4Spec` answers, the expansion disjunct holds (a strict dotted quad expands to itself) -/
theorem addrPart4_of_spec (be : Backend) (x : List Char) (a : Nat) (h : addr4Spec x = some a) : AddrPart be 4 x a := by
  rcases expand_spec x with ⟨_, hs⟩ | ⟨ns, _, _, he, _⟩
  · rw [hs] at h; cases h
  · exact Or.inr ⟨rfl, _, he, by rw [expand_strict be x _ he, h]⟩

theorem addrPart4_iff (be : Backend) (x : List Char) (hx : x.contains '/' = false) (a : Nat) :
    AddrPart be 4 x a ↔ addr4Spec x = some a := by
  constructor
  · rintro (h | ⟨_, e, hex, hip⟩)
    · obtain ⟨_, hlt, hxe⟩ := (ipAddress4_ok_iff be x hx _).mp h
      simp only at hlt hxe
      rw [hxe]; exact addr4Spec_ntoa a hlt
    · exact spec_of_expand be x e a hex hip
  · exact addrPart4_of_spec be x a

theorem addrPart6_iff (be : Backend) (x : List Char) (a : Nat) :
    AddrPart be 6 x a ↔ ipAddress be x (some 6) INET_PTON = .ok ⟨6, a⟩ := by
  constructor
  · rintro (h | ⟨h, _⟩)
    · exact h
    · cases h
  · exact Or.inl

theorem addrVal_iff (be : Backend) (ver : Nat) (hver : VerOK ver) (x : List Char) (hx : x.contains '/' = false) (a : Nat) :
    addrVal be ver x = some a ↔ AddrPart be ver x a := by
  rcases hver with rfl | rfl
  · exact (addrPart4_iff be x hx a).symm
  · exact ((addrPart6_iff be x a).trans (strict6_ok_iff be x hx a)).symm

theorem addrOf_iff (be : Backend) (ver : Nat) (hver : VerOK ver) (val1 : List Char) (h1 : val1.contains '/' = false)
    (x : Addr) : addrOf be ver val1 = .ok x ↔ x.ver = ver ∧ AddrPart be ver val1 x.val := by
  obtain ⟨xv, xa⟩ := x
  rw [addrOf_eq be ver hver val1 h1, ← addrVal_iff be ver hver val1 h1]
  cases addrVal be ver val1 <;> simp [eq_comm]

theorem addrOf_err (be : Backend) (ver : Nat) (hver : VerOK ver) (val1 : List Char) (h1 : val1.contains '/' = false)
    (e : Err) (h : addrOf be ver val1 = .error e) : e = .addrFormat := by
  rw [addrOf_eq be ver hver val1 h1] at h
  split at h <;> cases h
  rfl

/-- the string branch after the split with the address part read, the NOHOST lookup done and the range
    test the right way round; what is left open is the prefix part -/
theorem core_eval (be : Backend) (ver : Nat) (hver : VerOK ver) (val1 : List Char) (val2 : Option (List Char))
    (fl : Nat) (h1 : val1.contains '/' = false) :
    parseStrCore be ver val1 val2 fl =
      match addrVal be ver val1 with
      | none => .error .addrFormat
      | some a =>
        match resolvePrefix be ver val2 with
        | .error e => .error e
        | .ok q =>
          if 0 ≤ q ∧ q ≤ (width ver : Int) then
            .ok (if hasFlag fl NOHOST then a &&& netNetmask (width ver) q.toNat else a, q.toNat)
          else .error .addrFormat := by
  rw [parseStrCore_eq, addrOf_eq be ver hver val1 h1]
  cases addrVal be ver val1 with
  | none => rfl
  | some a =>
    cases resolvePrefix be ver val2 with
    | error e => rfl
    | ok q =>
      by_cases hq : 0 ≤ q ∧ q ≤ (width ver : Int)
      · simp only [if_neg (not_not_intro hq), if_pos hq, applyNohost_ok ver hver fl a q.toNat (by omega)]
      · simp only [if_pos hq, if_neg hq]

/-- **The string branch after the split.**  It yields `(v, p)` exactly when the address part is
    accepted with some value `a`, the prefix part denotes some `q` in `0..width`, `p = q`, and
    `v` is `a` with the host bits cleared under NOHOST. -/
theorem parseStrCore_iff (be : Backend) (ver : Nat) (hver : VerOK ver) (val1 : List Char) (val2 : Option (List Char))
    (fl : Nat) (h1 : val1.contains '/' = false) (v p : Nat) :
    parseStrCore be ver val1 val2 fl = .ok (v, p) ↔
      ∃ a q : Nat, AddrPart be ver val1 a ∧ PrefixPart be ver val2 (q : Int) ∧ q ≤ width ver ∧ p = q ∧
        v = if hasFlag fl NOHOST then a &&& netNetmask (width ver) q else a := by
  rw [core_eval be ver hver val1 val2 fl h1]
  simp only [← addrVal_iff be ver hver val1 h1, ← resolvePrefix_iff be ver hver]
  cases addrVal be ver val1 with
  | none => exact ⟨nofun, fun ⟨_, _, h, _⟩ => nomatch h⟩
  | some a =>
    cases hr : resolvePrefix be ver val2 with
    | error e => exact ⟨nofun, fun ⟨_, _, _, h, _⟩ => nomatch h⟩
    | ok q' =>
      by_cases hq : 0 ≤ q' ∧ q' ≤ (width ver : Int)
      · simp only [if_pos hq, Except.ok.injEq, Prod.mk.injEq, Option.some.injEq]
        constructor
        · rintro ⟨rfl, rfl⟩
          exact ⟨a, q'.toNat, rfl, by rw [Int.toNat_of_nonneg hq.1], by omega, rfl, rfl⟩
        · rintro ⟨a', q, rfl, hqq, _, rfl, rfl⟩
          cases hqq
          exact ⟨rfl, rfl⟩
      · simp only [if_neg hq]
        exact ⟨nofun, fun ⟨_, q, _, hqq, hle, _⟩ => (hq (by cases hqq; omega)).elim⟩

end NV.C03L.Acc
