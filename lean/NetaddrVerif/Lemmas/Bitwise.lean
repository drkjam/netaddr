/-
Lemmas/Bitwise.lean — bit-level facts about masks `2^k - 1`: clearing and setting the low bits,
complement within a width, and the `is_hostmask` / `is_netmask` tricks.
-/
namespace NV

theorem shr_shl (k v : Nat) : (v >>> k) <<< k = v / 2 ^ k * 2 ^ k := by
  rw [Nat.shiftRight_eq_div_pow, Nat.shiftLeft_eq]

theorem xor_mod_two_pow_self (v k : Nat) : v ^^^ v % 2 ^ k = v / 2 ^ k * 2 ^ k := by
  apply Nat.eq_of_testBit_eq
  intro i
  rw [Nat.testBit_xor, Nat.testBit_mod_two_pow, Nat.testBit_mul_two_pow, Nat.testBit_div_two_pow]
  by_cases h : i < k
  · rw [decide_eq_true h, decide_eq_false (Nat.not_le_of_lt h)]
    cases v.testBit i <;> rfl
  · rw [decide_eq_false h, decide_eq_true (Nat.le_of_not_lt h), Nat.sub_add_cancel (Nat.le_of_not_lt h)]
    cases v.testBit i <;> rfl

/-- `a & ~(2^k - 1)`, written with `^^^` as Python's `&` on a non-negative and a negative int comes out (`Py.iand`) -/
theorem clear_low (a k : Nat) : a ^^^ (a &&& (2 ^ k - 1)) = (a >>> k) <<< k := by
  rw [Nat.and_two_pow_sub_one_eq_mod, xor_mod_two_pow_self, shr_shl]

theorem and_netmask (w k v : Nat) (hv : v < 2 ^ w) (hk : k ≤ w) :
    v &&& ((2 ^ w - 1) ^^^ (2 ^ k - 1)) = v / 2 ^ k * 2 ^ k := by
  rw [Nat.and_xor_distrib_left, Nat.and_two_pow_sub_one_of_lt_two_pow hv,
    Nat.and_two_pow_sub_one_eq_mod, xor_mod_two_pow_self]

theorem or_hostmask (k v : Nat) :
    v ||| (2 ^ k - 1) = v / 2 ^ k * 2 ^ k + (2 ^ k - 1) := by
  have hm : 2 ^ k - 1 < 2 ^ k := Nat.sub_one_lt (Nat.ne_of_gt (Nat.two_pow_pos k))
  have hr : v % 2 ^ k < 2 ^ k := Nat.mod_lt v (Nat.two_pow_pos k)
  have habs : v % 2 ^ k ||| (2 ^ k - 1) = 2 ^ k - 1 :=
    Nat.le_antisymm (Nat.le_sub_one_of_lt (Nat.or_lt_two_pow hr hm)) Nat.right_le_or
  calc v ||| (2 ^ k - 1)
      = 2 ^ k * (v / 2 ^ k) ||| (v % 2 ^ k ||| (2 ^ k - 1)) := by
        rw [← Nat.or_assoc, ← Nat.two_pow_add_eq_or_of_lt hr, Nat.div_add_mod]
    _ = v / 2 ^ k * 2 ^ k + (2 ^ k - 1) := by
        rw [habs, ← Nat.two_pow_add_eq_or_of_lt hm, Nat.mul_comm]

/-- netaddr's two spellings of `last`, `value | hostmask` and `first + hostmask`, agree -/
theorem last_eq_first_add (w p v : Nat) (hv : v < 2 ^ w) (hp : p ≤ w) :
    (v ||| ((1 <<< (w - p)) - 1)) =
      (v &&& ((2 ^ w - 1) ^^^ ((1 <<< (w - p)) - 1))) + (2 ^ (w - p) - 1) := by
  rw [Nat.shiftLeft_eq, Nat.one_mul, or_hostmask, and_netmask w (w - p) v hv (Nat.sub_le w p)]

theorem xor_allones (w v : Nat) (hv : v < 2 ^ w) : v ^^^ (2 ^ w - 1) = 2 ^ w - 1 - v := by
  apply Nat.eq_of_testBit_eq
  intro i
  rw [Nat.sub_sub, Nat.add_comm, Nat.testBit_two_pow_sub_succ hv, Nat.testBit_xor,
    Nat.testBit_two_pow_sub_one]
  by_cases h : i < w
  · rw [decide_eq_true h]
    cases v.testBit i <;> rfl
  · rw [decide_eq_false h,
      Nat.testBit_lt_two_pow (Nat.lt_of_lt_of_le hv (Nat.pow_le_pow_right (by decide) (Nat.le_of_not_lt h)))]
    rfl

/-- `(v+1) & v == 0` (netaddr's is_hostmask) holds exactly for v = 2^k - 1 -/
theorem hostmask_iff (v : Nat) : (v + 1) &&& v = 0 ↔ ∃ k, v = 2 ^ k - 1 := by
  constructor
  · intro h
    refine ⟨(v + 1).log2, Classical.byContradiction fun hne => ?_⟩
    have h1 := Nat.log2_self_le (Nat.succ_ne_zero v)
    have h2 : v + 1 < 2 ^ ((v + 1).log2 + 1) := Nat.lt_log2_self
    generalize (v + 1).log2 = k at *
    -- otherwise `v` and `v + 1` both lie in `[2^k, 2^(k+1))` and share bit `k`
    have b1 := Nat.testBit_of_two_pow_le_and_two_pow_add_one_gt h1 h2
    have b0 := Nat.testBit_of_two_pow_le_and_two_pow_add_one_gt (n := v) (i := k) (by omega) (by omega)
    have := Nat.testBit_and (v + 1) v k
    rw [h, b1, b0, Nat.zero_testBit] at this
    cases this
  · rintro ⟨k, rfl⟩
    rw [Nat.sub_add_cancel (Nat.two_pow_pos k), Nat.and_two_pow_sub_one_eq_mod, Nat.mod_self]

/-- is_netmask: `((v ^ max) + 1) & (v ^ max) == 0` for v ≤ max = 2^w - 1 ↔ v = max - (2^k - 1), k ≤ w -/
theorem netmask_iff (w v : Nat) (hv : v < 2 ^ w) :
    ((v ^^^ (2 ^ w - 1)) + 1) &&& (v ^^^ (2 ^ w - 1)) = 0 ↔ ∃ k, k ≤ w ∧ v = (2 ^ w - 1) - (2 ^ k - 1) := by
  rw [xor_allones w v hv, hostmask_iff]
  constructor
  · rintro ⟨k, hk⟩
    have := Nat.two_pow_pos k
    exact ⟨k, (Nat.pow_le_pow_iff_right (by decide)).1 (by omega : 2 ^ k ≤ 2 ^ w),
      by rw [← hk, Nat.sub_sub_self (Nat.le_sub_one_of_lt hv)]⟩
  · rintro ⟨k, hkw, rfl⟩
    exact ⟨k, Nat.sub_sub_self (Nat.sub_le_sub_right (Nat.pow_le_pow_right (by decide) hkw) 1)⟩

end NV
