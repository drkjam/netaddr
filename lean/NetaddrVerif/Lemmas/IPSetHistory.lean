/-
Lemmas/IPSetHistory.lean — histories: abstract (set-theoretic) meaning of every operation, the
step relation, and the every-reachable-state theorem (C06/C07).
-/
import NetaddrVerif.Lemmas.IPSetInter
import NetaddrVerif.Lemmas.IPSetAddRemove
import NetaddrVerif.Lemmas.IPSetDifference
import NetaddrVerif.Lemmas.IPSetStore
namespace NV.IPSet
open NV NV.Blk

/-- abstract state of a history: for every set index, the (version, address) pairs it holds -/
abbrev Abs := Nat → Nat → Nat → Prop

def Abs.upd (σ : Abs) (i : Nat) (S : Nat → Nat → Prop) : Abs := fun j => if j = i then S else σ j

/-- plain set theory for the binary operators -/
def combine : BinOp → (Nat → Nat → Prop) → (Nat → Nat → Prop) → (Nat → Nat → Prop)
  | .or, A, B => fun u a => A u a ∨ B u a
  | .and, A, B => fun u a => A u a ∧ B u a
  | .sub, A, B => fun u a => A u a ∧ ¬ B u a
  | .xor, A, B => fun u a => (A u a ∧ ¬ B u a) ∨ (B u a ∧ ¬ A u a)

/-- what each operation means on the abstract sets.  `pop` removes the block the
    implementation returned when it is stored (the choice itself is left open). -/
def specStep (sets : List St) (σ : Abs) : Op → Abs
  | .newNone i => σ.upd i (fun _ _ => False)
  | .newNet i n => σ.upd i (argDen (.net n))
  | .newRng i r => σ.upd i (argDen (.rng r))
  | .newSet i j => σ.upd i (σ j)
  | .newList i xs => σ.upd i (argsDen xs)
  | .add i x => σ.upd i (fun u a => σ i u a ∨ argDen x u a)
  | .rem i x => σ.upd i (fun u a => σ i u a ∧ ¬ argDen x u a)
  | .updSet i j => σ.upd i (fun u a => σ i u a ∨ σ j u a)
  | .updArg i x => σ.upd i (fun u a => σ i u a ∨ argDen x u a)
  | .updList i xs => σ.upd i (fun u a => σ i u a ∨ argsDen xs u a)
  | .clear i => σ.upd i (fun _ _ => False)
  | .pop _ none => σ
  | .pop i (some b) =>
    if dMem (getSet sets i) b then σ.upd i (fun u a => σ i u a ∧ ¬ argDen (.net b) u a) else σ
  | .compact _ => σ
  | .copy j i => σ.upd j (σ i)
  | .bin k i j o => σ.upd k (combine o (σ i) (σ j))

/-- the argument conditions of the operations of a history: every argument well-formed
    (all four binary operators `|`, `&`, `-`, `^` are covered without condition) -/
def Op.OK : Op → Prop
  | .newNet _ n => n.WF
  | .newRng _ r => ArgOK (.rng r)
  | .newList _ xs => ∀ x ∈ xs, ArgOK x
  | .add _ x => ArgOK x
  | .updArg _ x => ArgOK x
  | .updList _ xs => ∀ x ∈ xs, ArgOK x
  | .pop _ (some b) => Good b
  | .rem _ x => ArgOK x
  | _ => True

def Rel (sets : List St) (σ : Abs) : Prop :=
  ∀ i, Inv (getSet sets i) ∧ ∀ u a, denS (getSet sets i) u a ↔ σ i u a

theorem rel_upd {sets : List St} {σ : Abs} (h : Rel sets σ) (i : Nat) {s : St} {S : Nat → Nat → Prop}
    (hp : Holds s S) : Rel (setSet sets i s) (σ.upd i S) := by
  intro j
  rw [getSet_setSet]
  unfold Abs.upd
  by_cases e : j = i
  · simp only [e, if_true]; exact hp
  · simp only [e, if_false]; exact h j

theorem Rel.abs_eq {sets : List St} {σ : Abs} (h : Rel sets σ) : σ = fun j => denS (getSet sets j) :=
  funext fun j => funext fun u => funext fun a => propext ((h j).2 u a).symm

theorem Abs.upd_self (σ : Abs) (i : Nat) : σ.upd i (σ i) = σ := by
  funext j; unfold Abs.upd; split
  · rename_i e; rw [e]
  · rfl

theorem binOp_spec (o : BinOp) (s t : St) (hs : Inv s) (ht : Inv t) :
    Holds (binOp o s t) (combine o (denS s) (denS t)) := by
  cases o with
  | or => exact union_spec s t hs ht
  | and => exact intersection_spec s t hs ht
  | sub => exact difference_spec s t hs ht
  | xor => exact symmetricDifference_spec s t hs ht

theorem step_rel (sets : List St) (σ : Abs) (op : Op) (h : Rel sets σ) (hop : op.OK) :
    Rel (stepOp sets op).1 (specStep sets σ op) := by
  -- the abstract store is the denotation of the concrete one, so each case is the operation's own specification
  obtain rfl := h.abs_eq
  cases op with
  | newNone i => exact rel_upd h i holds_nil
  | newNet i n => exact rel_upd h i (newOfNet_spec n hop)
  | newRng i r => exact rel_upd h i (newOfRange_spec r hop)
  | newSet i j =>
    have := newOfSet_spec (getSet sets j) (h j).1
    exact rel_upd h i ⟨this.1, denS_of_mem this.2⟩
  | newList i xs => exact rel_upd h i (newOfList_spec xs hop)
  | add i x => exact rel_upd h i (add_spec (getSet sets i) (h i).1 x hop)
  | rem i x => exact rel_upd h i (remove_spec (getSet sets i) (h i).1 x hop)
  | updSet i j => exact rel_upd h i (updateSet_spec (getSet sets i) (getSet sets j) (h i).1.wf (h j).1.wf)
  | updArg i x => exact rel_upd h i (add_spec (getSet sets i) (h i).1 x hop)
  | updList i xs => exact rel_upd h i (updateList_spec (getSet sets i) (h i).1.good xs hop)
  | clear i => exact rel_upd h i holds_nil
  | pop i b =>
    cases b with
    | none => exact h
    | some b =>
      have hbg : Good b := hop
      by_cases hm : dMem (getSet sets i) b = true
      · obtain ⟨s', h1, h2⟩ := pop_spec (getSet sets i) (h i).1 b ((dMem_good _ (h i).1.good b hbg).1 hm)
        have e1 : (stepOp sets (.pop i (some b))).1 = setSet sets i s' := by simp [stepOp, h1]
        have e2 : specStep sets (fun j => denS (getSet sets j)) (.pop i (some b)) = Abs.upd _ i _ := if_pos hm
        rw [e1, e2]
        exact rel_upd h i h2
      · have e1 : (stepOp sets (.pop i (some b))).1 = sets := by simp [stepOp, pop, hm]
        have e2 : specStep sets (fun j => denS (getSet sets j)) (.pop i (some b)) = _ := if_neg hm
        rw [e1, e2]; exact h
  | compact i =>
    have hr := rel_upd h i (compact_spec (getSet sets i) (h i).1.wf)
    rwa [Abs.upd_self (fun j => denS (getSet sets j)) i] at hr
  | copy j i =>
    have := copy_spec (getSet sets i) (h i).1
    exact rel_upd h j ⟨this.1, denS_of_mem this.2⟩
  | bin k i j o => exact rel_upd h k (binOp_spec o (getSet sets i) (getSet sets j) (h i).1 (h j).1)

/-- abstract run of a history (alongside the concrete one, whose `pop` outcomes it reads) -/
def runBoth (ops : List Op) : List St × Abs :=
  ops.foldl (fun p op => ((stepOp p.1 op).1, specStep p.1 p.2 op)) ([], fun _ _ _ => False)

theorem runBoth_fst (ops : List Op) : (runBoth ops).1 = runOps ops := by
  unfold runBoth runOps
  suffices h : ∀ (p : List St × Abs), (ops.foldl (fun p op => ((stepOp p.1 op).1, specStep p.1 p.2 op)) p).1 =
      ops.foldl (fun sets op => (stepOp sets op).1) p.1 from h _
  induction ops with
  | nil => intro p; rfl
  | cons o os ih => intro p; simp only [List.foldl_cons]; exact ih _

/-- Every reachable state: after ANY history of the covered operations, every live set is
    canonical and denotes exactly what plain set theory says the history denotes. -/
theorem history_rel (ops : List Op) (hok : ∀ op ∈ ops, op.OK) : Rel (runBoth ops).1 (runBoth ops).2 := by
  unfold runBoth
  suffices h : ∀ (p : List St × Abs), Rel p.1 p.2 →
      Rel (ops.foldl (fun p op => ((stepOp p.1 op).1, specStep p.1 p.2 op)) p).1
          (ops.foldl (fun p op => ((stepOp p.1 op).1, specStep p.1 p.2 op)) p).2 by
    apply h
    intro i
    have : getSet ([] : List St) i = [] := by simp [getSet]
    rw [this]
    exact holds_nil
  induction ops with
  | nil => intro p hp; exact hp
  | cons o os ih =>
    intro p hp
    simp only [List.foldl_cons]
    exact ih (fun op h => hok op (List.mem_cons_of_mem _ h)) _
      (step_rel p.1 p.2 o hp (hok o (List.mem_cons_self ..)))

end NV.IPSet
