/-
Lemmas/C12L.lean — spec vocabulary of C12 (what identifies an IP object, first/last address of
an object), `tle_trans`, `tle_total`, `tle_antisymm` (= `tupleCmp_trans`, `tupleCmp_total`, `tupleCmp_antisymm` of
Lemmas/TupleOrder), the constructors of `__setstate__` as those of Model/Address and Model/Convert, what
`sort_key()` starts with and identifies, and `__setstate__` after `__getstate__` class by class.
-/
import NetaddrVerif.Model.ComparePickle
import NetaddrVerif.Lemmas.NetworkL
import NetaddrVerif.Lemmas.TupleOrder
import NetaddrVerif.Lemmas.C16L
namespace NV.Cmp
open NV

/-- first address of an object (an address is its own first and last) -/
def Obj.first : Obj → Nat
  | .addr a => a.val
  | .net n => n.first
  | .rng r => r.lo

def Obj.last : Obj → Nat
  | .addr a => a.val
  | .net n => n.last
  | .rng r => r.hi

/-- block objects: IPNetwork, IPRange, IPGlob -/
def Obj.isBlock : Obj → Bool
  | .addr _ => false
  | _ => true

/-- addresses and networks (the objects `sorted()` is specified on) -/
def Obj.isAN : Obj → Bool
  | .rng _ => false
  | _ => true

theorem tle_trans : ∀ a b c : List Int, tupleCmp a b ≠ .gt → tupleCmp b c ≠ .gt → tupleCmp a c ≠ .gt :=
  tupleCmp_trans

theorem tle_total (a b : List Int) : tupleCmp a b ≠ .gt ∨ tupleCmp b a ≠ .gt := tupleCmp_total a b

theorem tle_antisymm (a b : List Int) (h1 : tupleCmp a b ≠ .gt) (h2 : tupleCmp b a ≠ .gt) : a = b :=
  tupleCmp_antisymm a b h1 h2

/-! ### the constructors `__setstate__` calls are those of Model/Address and Model/Convert -/

/-- `Cmp.mkAddr value ver` (the `IPAddress(value, version)` of `IPRange.__setstate__`) is `Address.ctor value (some ver)`
    for a version that is a natural number; `ListLike.mkAddr_eq_ctor` is the same bridge for Model/ListLike's twin -/
theorem mkAddr_eq_ctor (value : Int) (ver : Nat) : mkAddr value (ver : Int) = Address.ctor value (some ver) := by
  by_cases hver : ver = 4 ∨ ver = 6
  · rcases hver with rfl | rfl <;> rfl
  · rw [mkAddr, if_neg (by omega), Address.ctor, if_neg hver]

theorem mkAddr_natCast (ver v : Nat) (hver : ver = 4 ∨ ver = 6) (h : v ≤ maxInt ver) :
    mkAddr (v : Int) (ver : Int) = .ok ⟨ver, v⟩ :=
  (mkAddr_eq_ctor v ver).trans (C14.ctor_nat ver hver v (lt_of_le_maxInt h))

/-- `IPNetwork((value, prefixlen), version)` of `IPSet.__setstate__` is the tuple branch of `parse_ip_network` -/
theorem mkNetTuple_eq_mkNet (value plen version : Int) :
    mkNetTuple (value, plen, version) =
      if version = 4 ∨ version = 6 then Convert.mkNet version.toNat value plen else .error .value := rfl

theorem sortKey_head (x : Obj) : ∃ t, x.sortKey = (x.ver : Int) :: (x.first : Int) :: t := by
  cases x with
  | addr a => exact ⟨_, rfl⟩
  | net n => exact ⟨_, rfl⟩
  | rng r => exact ⟨_, rfl⟩

theorem sortKey_inj_AN (x y : Obj) (hx : x.isAN = true) (hy : y.isAN = true) (h : x.sortKey = y.sortKey) : x = y := by
  cases x with
  | addr a =>
    cases y with
    | addr b =>
      cases a; cases b
      simp only [Obj.sortKey, Addr.sortKey, List.cons.injEq, and_true] at h
      obtain ⟨h1, h2, _⟩ := h
      simp only [Obj.addr.injEq, Addr.mk.injEq]; constructor <;> omega
    | net m => simp [Obj.sortKey, Addr.sortKey, Net.sortKey] at h
    | rng r => simp [Obj.isAN] at hy
  | net n =>
    cases y with
    | addr b => simp [Obj.sortKey, Addr.sortKey, Net.sortKey] at h
    | net m => exact congrArg Obj.net (Net.sortKey_inj n m h)
    | rng r => simp [Obj.isAN] at hy
  | rng r => simp [Obj.isAN] at hx

/-- every class but IPSet writes a non-empty tuple, a truthy state: `__setstate__` is called
    whichever way the copy is made -/
theorem reconstruct_truthy {σ α : Type} (how : How) (st : σ) (f : σ → R α) : reconstruct how st true f = f st := by
  have hp : passesState how true = true := by cases how <;> simp [passesState]
  simp only [reconstruct, hp, if_true]

theorem setstate_getstate_addr (a : Addr) (h : a.WF) : setstateAddr (getstateAddr a) = .ok a := by
  obtain ⟨hv, _⟩ := h
  cases a with
  | mk ver val =>
    rcases (hv : ver = 4 ∨ ver = 6) with rfl | rfl <;> simp [getstateAddr, setstateAddr]

theorem setstate_getstate_net (n : Net) (h : n.WF) : setstateNet (getstateNet n) = .ok n := by
  obtain ⟨hv, _, hpl⟩ := h
  cases n with
  | mk ver val plen =>
    have hw : (plen : Int) ≤ (width ver : Int) := Int.ofNat_le.mpr hpl
    rcases (hv : ver = 4 ∨ ver = 6) with rfl | rfl <;> simp [getstateNet, setstateNet, hw]

theorem setstate_getstate_rng (r : Rng) (hv : r.ver = 4 ∨ r.ver = 6)
    (hlo : r.lo ≤ maxInt r.ver) (hhi : r.hi ≤ maxInt r.ver) : setstateRng (getstateRng r) = .ok r := by
  cases r with
  | mk ver lo hi =>
    unfold setstateRng getstateRng
    dsimp only
    rw [mkAddr_natCast ver lo hv hlo, mkAddr_natCast ver hi hv hhi]
    rfl

theorem setstate_getstate_eui (e : Eui) (hv : e.ver = 48 ∨ e.ver = 64) : setstateEui (getstateEui e) = .ok e := by
  cases e with
  | mk ver val d =>
    rcases (hv : ver = 48 ∨ ver = 64) with rfl | rfl <;> simp [getstateEui, setstateEui]

theorem mkNetTuple_getstate (n : Net) (h : n.WF) : mkNetTuple (getstateNet n) = .ok n := by
  obtain ⟨hv, hval, hpl⟩ := h
  cases n with
  | mk ver val plen =>
    rcases (hv : ver = 4 ∨ ver = 6) with rfl | rfl
    · exact (mkNetTuple_eq_mkNet _ _ _).trans (C16.mkNet_ok 4 val plen hval hpl)
    · exact (mkNetTuple_eq_mkNet _ _ _).trans (C16.mkNet_ok 6 val plen hval hpl)

theorem fromKeys_distinct : ∀ l : List Net, l.Pairwise (fun a b => a.key ≠ b.key) → fromKeys l = l
  | [], _ => rfl
  | n :: t, h => by
    rw [List.pairwise_cons] at h
    unfold fromKeys
    rw [fromKeys_distinct t h.2]
    congr 1
    apply List.filter_eq_self.2
    intro m hm
    have := h.1 m hm
    simp only [bne_iff_ne, ne_eq]
    exact fun e => this e.symm

end NV.Cmp
