import NetaddrVerif.Lemmas.ListText
/-! Aligned blocks `[base, base + 2^k)` (`Blk`: membership, inclusion, disjointness, parent, the two halves) and
    canonical lists of them: aligned, sorted by base, pairwise disjoint, no two that could be merged (`Canon`), and the
    same without the order (`CanonSet`).  Two aligned blocks that share a point are nested (`sub_of_share`). -/
namespace NV

/-! ### powers of two -/

theorem mod_pow_of_le {x i j : Nat} (h : x % 2 ^ j = 0) (hij : i ≤ j) : x % 2 ^ i = 0 :=
  Nat.mod_eq_zero_of_dvd (Nat.dvd_trans (Nat.pow_dvd_pow 2 hij) (Nat.dvd_of_mod_eq_zero h))

theorem pow_split {i j : Nat} (h : i ≤ j) : 2 ^ j = 2 ^ i * 2 ^ (j - i) := by
  rw [← Nat.pow_add]; congr 1; omega

theorem pow_half {w np : Nat} (h : np + 1 ≤ w) : 2 ^ (w - np) = 2 * 2 ^ (w - (np + 1)) := by
  rw [show w - np = (w - (np + 1)) + 1 by omega, Nat.pow_succ, Nat.mul_comm]

/-- a block of more than one address has a prefix shorter than the width -/
theorem plen_lt_of_one_lt_pow {w r : Nat} (h : 1 < 2 ^ (w - r)) : r < w := by
  rcases Nat.lt_or_ge r w with h' | h'
  · exact h'
  · rw [Nat.sub_eq_zero_of_le h'] at h; exact absurd h (by decide)

theorem pow_succ_sub {w np : Nat} (h : np ≤ w) : 2 ^ (w + 1 - np) = 2 * 2 ^ (w - np) := by
  rw [Nat.succ_sub h, Nat.pow_succ, Nat.mul_comm]

/-! ### blocks -/

structure Blk where
  base : Nat
  k : Nat
deriving DecidableEq, Repr

namespace Blk
def aligned (b : Blk) : Prop := b.base % 2 ^ b.k = 0
def mem (b : Blk) (a : Nat) : Prop := b.base ≤ a ∧ a < b.base + 2 ^ b.k
def sub (b c : Blk) : Prop := ∀ a, b.mem a → c.mem a
def disj (b c : Blk) : Prop := ∀ a, ¬ (b.mem a ∧ c.mem a)
def parent (b : Blk) : Blk := ⟨b.base / 2 ^ (b.k + 1) * 2 ^ (b.k + 1), b.k + 1⟩
/-- `b` is the lower half and `c` the upper half of one aligned block. -/
def sib (b c : Blk) : Prop := b.k = c.k ∧ b.base % 2 ^ (b.k + 1) = 0 ∧ c.base = b.base + 2 ^ b.k

theorem mem_base (b : Blk) : b.mem b.base := ⟨Nat.le_refl _, Nat.lt_add_of_pos_right (Nat.two_pow_pos b.k)⟩

theorem mem_last (b : Blk) : b.mem (b.base + 2 ^ b.k - 1) := by
  have := Nat.two_pow_pos b.k
  exact ⟨by omega, by omega⟩

theorem mem_iff_div (b : Blk) (h : b.aligned) (a : Nat) :
    b.mem a ↔ a / 2 ^ b.k = b.base / 2 ^ b.k := by
  have hp := Nat.two_pow_pos b.k
  obtain ⟨q, hq⟩ := Nat.dvd_of_mod_eq_zero h
  rw [hq, Nat.mul_div_cancel_left _ hp, Nat.div_eq_iff hp, Blk.mem, hq]
  generalize 2 ^ b.k = B at *
  rw [Nat.mul_comm B q]
  omega

theorem sub_of_share (b c : Blk) (hb : b.aligned) (hc : c.aligned) (hk : b.k ≤ c.k)
    (x : Nat) (hx : b.mem x) (hcx : c.mem x) : b.sub c := by
  intro a ha
  rw [mem_iff_div c hc] at hcx ⊢
  rw [mem_iff_div b hb] at hx ha
  rw [← hcx, pow_split hk, ← Nat.div_div_eq_div_mul, ← Nat.div_div_eq_div_mul, ha, hx]

theorem eq_of_share (b c : Blk) (hb : b.aligned) (hc : c.aligned) (hk : b.k = c.k)
    (x : Nat) (hx : b.mem x) (hcx : c.mem x) : b = c := by
  have h1 := sub_of_share b c hb hc (Nat.le_of_eq hk) x hx hcx _ (mem_base b)
  have h2 := sub_of_share c b hc hb (Nat.le_of_eq hk.symm) x hcx hx _ (mem_base c)
  obtain ⟨bb, bk⟩ := b
  obtain ⟨cb, ck⟩ := c
  obtain rfl : bk = ck := hk
  obtain rfl : bb = cb := Nat.le_antisymm h2.1 h1.1
  rfl

theorem not_sib_self (b : Blk) : ¬ b.sib b :=
  fun h => Nat.ne_of_gt (Nat.two_pow_pos b.k) (Nat.add_eq_left.1 h.2.2.symm)

theorem parent_aligned (b : Blk) : b.parent.aligned := by
  simp [parent, aligned]

theorem sub_parent (b : Blk) (hb : b.aligned) : b.sub b.parent := by
  intro a ha
  rw [mem_iff_div _ (parent_aligned b)]
  rw [mem_iff_div b hb] at ha
  simp only [parent]
  have hp := Nat.two_pow_pos (b.k + 1)
  rw [Nat.mul_div_cancel _ hp]
  have e : 2 ^ (b.k + 1) = 2 ^ b.k * 2 := by rw [Nat.pow_succ]
  rw [e, ← Nat.div_div_eq_div_mul, ← Nat.div_div_eq_div_mul, ha]
end Blk

open Blk

theorem below_of_disj (a b : Blk) (hd : ∀ x, ¬ (a.mem x ∧ b.mem x)) (hlt : a.base < b.base) :
    a.base + 2 ^ a.k ≤ b.base := by
  rcases Nat.lt_or_ge b.base (a.base + 2 ^ a.k) with h | h
  · exact absurd ⟨⟨Nat.le_of_lt hlt, h⟩, mem_base b⟩ (hd b.base)
  · exact h

theorem disj_of_le {b c : Blk} (h : b.base + 2 ^ b.k ≤ c.base) : b.disj c := by
  intro a ⟨h1, h2⟩; unfold Blk.mem at h1 h2; omega

theorem disj_symm {b c : Blk} (h : b.disj c) : c.disj b := fun a ⟨h1, h2⟩ => h a ⟨h2, h1⟩

theorem sub_k_le {b c : Blk} (h : b.sub c) : b.k ≤ c.k := by
  have h1 := h _ (mem_base b)
  have h2 := h _ (mem_last b)
  have hp := Nat.two_pow_pos b.k
  rcases Nat.lt_or_ge c.k b.k with hlt | hge
  · have : 2 ^ c.k < 2 ^ b.k := Nat.pow_lt_pow_right (by decide) hlt
    unfold mem at h1 h2; omega
  · exact hge

theorem sub_antisymm {b c : Blk} (hb : b.aligned) (hc : c.aligned) (h1 : b.sub c) (h2 : c.sub b) : b = c :=
  eq_of_share b c hb hc (Nat.le_antisymm (sub_k_le h1) (sub_k_le h2)) b.base (mem_base b) (h1 _ (mem_base b))

theorem parent_sub (b c : Blk) (hb : b.aligned) (hc : c.aligned) (hk : b.k < c.k) (x : Nat) (hx : b.mem x) (hcx : c.mem x) :
    b.parent.sub c :=
  sub_of_share b.parent c (parent_aligned b) hc hk x (sub_parent b hb x hx) hcx

/-! ### address sets and canonical lists -/

theorem nest_or_disj (b c : Blk) (hb : b.aligned) (hc : c.aligned) : b.sub c ∨ c.sub b ∨ b.disj c := by
  by_cases h : ∃ x, b.mem x ∧ c.mem x
  · obtain ⟨x, hx1, hx2⟩ := h
    rcases Nat.le_total b.k c.k with hk | hk
    · exact Or.inl (sub_of_share _ _ hb hc hk x hx1 hx2)
    · exact Or.inr (Or.inl (sub_of_share _ _ hc hb hk x hx2 hx1))
  · exact Or.inr (Or.inr (fun x hx => h ⟨x, hx⟩))

def den (l : List Blk) (a : Nat) : Prop := ∃ b ∈ l, b.mem a

theorem C05L.den_nil (a : Nat) : ¬ den [] a := fun ⟨_, hb, _⟩ => nomatch hb

theorem den_cons (b : Blk) (l : List Blk) (a : Nat) : den (b :: l) a ↔ den l a ∨ b.mem a := by
  simp only [den, List.mem_cons, or_and_right, exists_or, exists_eq_left, Or.comm]

theorem den_append (l₁ l₂ : List Blk) (a : Nat) : den (l₁ ++ l₂) a ↔ den l₁ a ∨ den l₂ a := by
  simp only [den, List.mem_append, or_and_right, exists_or]

theorem den_congr {l l' : List Blk} (hs : ∀ b, b ∈ l' ↔ b ∈ l) (a : Nat) : den l' a ↔ den l a := by
  unfold den
  constructor
  · rintro ⟨b, hb, h⟩; exact ⟨b, (hs b).1 hb, h⟩
  · rintro ⟨b, hb, h⟩; exact ⟨b, (hs b).2 hb, h⟩

structure Canon (l : List Blk) : Prop where
  al : ∀ b ∈ l, b.aligned
  sorted : l.Pairwise (fun b c => b.base < c.base)
  dj : ∀ b ∈ l, ∀ c ∈ l, b ≠ c → b.disj c
  ns : ∀ b ∈ l, ∀ c ∈ l, ¬ b.sib c

structure CanonSet (l : List Blk) : Prop where
  al : ∀ b ∈ l, b.aligned
  dj : ∀ b ∈ l, ∀ c ∈ l, b ≠ c → b.disj c
  ns : ∀ b ∈ l, ∀ c ∈ l, ¬ b.sib c

theorem canon_nil : Canon ([] : List Blk) :=
  ⟨nofun, List.Pairwise.nil, nofun, nofun⟩

theorem Canon.pairwise_disj {l : List Blk} (h : Canon l) : l.Pairwise Blk.disj :=
  h.sorted.imp_of_mem fun {x y} hx hy hlt => h.dj x hx y hy (fun e => Nat.lt_irrefl _ (e ▸ hlt))

theorem Canon.toSet {l : List Blk} (h : Canon l) : CanonSet l := ⟨h.al, h.dj, h.ns⟩

theorem canon_tail {a : Blk} {l : List Blk} (h : Canon (a :: l)) : Canon l :=
  ⟨fun b hb => h.al b (List.mem_cons_of_mem _ hb), (List.pairwise_cons.1 h.sorted).2,
   fun b hb c hc => h.dj b (List.mem_cons_of_mem _ hb) c (List.mem_cons_of_mem _ hc),
   fun b hb c hc => h.ns b (List.mem_cons_of_mem _ hb) c (List.mem_cons_of_mem _ hc)⟩

theorem canonset_subset {l l' : List Blk} (h : CanonSet l) (hs : ∀ b ∈ l', b ∈ l) : CanonSet l' :=
  ⟨fun b hb => h.al b (hs b hb), fun b hb c hc => h.dj b (hs b hb) c (hs c hc),
   fun b hb c hc => h.ns b (hs b hb) c (hs c hc)⟩

theorem canonset_congr {l l' : List Blk} (h : CanonSet l) (hs : ∀ b, b ∈ l' ↔ b ∈ l) : CanonSet l' :=
  canonset_subset h (fun b hb => (hs b).1 hb)

/-! ### a block covered by smaller ones -/

/-- the two halves of a block `q` with `q.k > 0` (each of size `2^(q.k - 1)`) -/
def lo (q : Blk) : Blk := ⟨q.base, q.k - 1⟩
def hi (q : Blk) : Blk := ⟨q.base + 2 ^ (q.k - 1), q.k - 1⟩

theorem halves (q : Blk) (hq : q.aligned) (hk : 0 < q.k) :
    (lo q).aligned ∧ (hi q).aligned ∧ (lo q).sib (hi q) ∧
    (∀ a, q.mem a ↔ (lo q).mem a ∨ (hi q).mem a) := by
  obtain ⟨b, k⟩ := q
  cases k with
  | zero => exact absurd hk (Nat.lt_irrefl 0)
  | succ k =>
    have hq' : b % 2 ^ (k + 1) = 0 := hq
    have hb : b % 2 ^ k = 0 := mod_pow_of_le hq' (Nat.le_succ k)
    refine ⟨hb, (Nat.add_mod_right b _).trans hb, ⟨rfl, hq', rfl⟩, fun a => ?_⟩
    show (b ≤ a ∧ a < b + 2 ^ (k + 1)) ↔ (b ≤ a ∧ a < b + 2 ^ k) ∨ (b + 2 ^ k ≤ a ∧ a < b + 2 ^ k + 2 ^ k)
    rw [Nat.pow_succ]
    omega

theorem covered_strict_imp_sib (l : List Blk) (hal : ∀ b ∈ l, b.aligned) :
    ∀ (k : Nat) (q : Blk), q.k = k → q.aligned →
      (∀ a, q.mem a → ∃ b ∈ l, b.mem a ∧ b.k < q.k) → ∃ b ∈ l, ∃ c ∈ l, b.sib c := by
  intro k
  induction k with
  | zero =>
    intro q hk _ hc
    obtain ⟨b, _, _, hlt⟩ := hc q.base (mem_base q)
    omega
  | succ k ih =>
    intro q hk hq hc
    have hkpos : 0 < q.k := by omega
    obtain ⟨hla, hha, hsib, hsplit⟩ := halves q hq hkpos
    have hlk : (lo q).k = k := by simp [lo]; omega
    have hhk : (hi q).k = k := by simp [hi]; omega
    -- a half that is not in l is strictly covered
    have half : ∀ h : Blk, h.k = k → h.aligned → (∀ a, h.mem a → q.mem a) → h ∉ l →
        ∃ b ∈ l, ∃ c ∈ l, b.sib c := by
      intro h hhk' hha' hsub hnot
      apply ih h hhk' hha'
      intro a ha
      obtain ⟨b, hbl, hba, hblt⟩ := hc a (hsub a ha)
      refine ⟨b, hbl, hba, ?_⟩
      rcases Nat.lt_or_ge b.k h.k with hlt | hge
      · exact hlt
      · exfalso
        have hbk : b.k = h.k := by omega
        have := eq_of_share b h (hal b hbl) hha' hbk a hba ha
        exact hnot (this ▸ hbl)
    by_cases h1 : lo q ∈ l
    · by_cases h2 : hi q ∈ l
      · exact ⟨lo q, h1, hi q, h2, hsib⟩
      · exact half (hi q) hhk hha (fun a ha => (hsplit a).2 (Or.inr ha)) h2
    · exact half (lo q) hlk hla (fun a ha => (hsplit a).2 (Or.inl ha)) h1

/-! ### canonical lists out of ascending pieces -/

theorem canon_of_asc {l : List Blk} (hal : ∀ b ∈ l, b.aligned)
    (hasc : l.Pairwise (fun b c => b.base + 2 ^ b.k ≤ c.base)) (hns : ∀ b ∈ l, ∀ c ∈ l, ¬ b.sib c) : Canon l := by
  refine ⟨hal, ?_, ?_, hns⟩
  · exact hasc.imp (fun {b c} h => by have := Nat.two_pow_pos b.k; omega)
  · intro b hb c hc hne
    rcases pairwise_or l hasc b hb c hc hne with h | h
    · exact disj_of_le h
    · exact disj_symm (disj_of_le h)

theorem nosib_of_distinct {l : List Blk} (h : l.Pairwise (fun b c => b.k ≠ c.k)) :
    ∀ b ∈ l, ∀ c ∈ l, ¬ b.sib c := by
  intro b hb c hc hs
  by_cases e : b = c
  · subst e; exact not_sib_self b hs
  · rcases pairwise_or l h b hb c hc e with h' | h'
    · exact h' hs.1
    · exact h' hs.1.symm

theorem canon_single {b : Blk} (hb : b.aligned) : Canon [b] :=
  canon_of_asc (fun _ hx => List.mem_singleton.1 hx ▸ hb) (List.pairwise_singleton _ _)
    (nosib_of_distinct (List.pairwise_singleton _ _))

theorem asc_of_canon {l : List Blk} (h : Canon l) : l.Pairwise (fun b c => b.base + 2 ^ b.k ≤ c.base) :=
  h.sorted.imp_of_mem fun {x y} hx hy hlt =>
    below_of_disj x y (h.dj x hx y hy (fun e => Nat.lt_irrefl _ (e ▸ hlt))) hlt

theorem canon_append {l₁ l₂ : List Blk} (h1 : Canon l₁) (h2 : Canon l₂)
    (hlt : ∀ b ∈ l₁, ∀ c ∈ l₂, b.base + 2 ^ b.k ≤ c.base)
    (hns : ∀ b ∈ l₁, ∀ c ∈ l₂, ¬ b.sib c) : Canon (l₁ ++ l₂) := by
  apply canon_of_asc
  · intro b hb
    rcases List.mem_append.1 hb with h | h
    · exact h1.al b h
    · exact h2.al b h
  · exact List.pairwise_append.2 ⟨asc_of_canon h1, asc_of_canon h2, hlt⟩
  · intro b hb c hc
    rcases List.mem_append.1 hb with hb' | hb' <;> rcases List.mem_append.1 hc with hc' | hc'
    · exact h1.ns b hb' c hc'
    · exact hns b hb' c hc'
    · intro hs
      have := hlt c hc' b hb'
      have := hs.2.2
      have := Nat.two_pow_pos c.k
      have := Nat.two_pow_pos b.k
      omega
    · exact h2.ns b hb' c hc'

/-- across a strict gap nothing can merge: siblings touch -/
theorem canon_append_gap {l₁ l₂ : List Blk} (h1 : Canon l₁) (h2 : Canon l₂)
    (hgap : ∀ b ∈ l₁, ∀ c ∈ l₂, b.base + 2 ^ b.k < c.base) : Canon (l₁ ++ l₂) :=
  canon_append h1 h2 (fun b hb c hc => Nat.le_of_lt (hgap b hb c hc))
    (fun b hb c hc hs => Nat.ne_of_lt (hgap b hb c hc) hs.2.2.symm)

/-- no sibling pair straddles a multiple `M` of `2^K` when the lower block is smaller than `2^K` -/
theorem nosib_across {M K : Nat} {b c : Blk} (hM : M % 2 ^ K = 0) (hbk : b.k < K)
    (hb : b.base + 2 ^ b.k ≤ M) (hc : M ≤ c.base) : ¬ b.sib c := by
  intro hs
  obtain ⟨_, h2, h3⟩ := hs
  have hMeq : M = b.base + 2 ^ b.k := by omega
  have hd1 : 2 ^ (b.k + 1) ∣ M :=
    Nat.dvd_trans (Nat.pow_dvd_pow 2 (by omega)) (Nat.dvd_of_mod_eq_zero hM)
  have hd2 : 2 ^ (b.k + 1) ∣ b.base := Nat.dvd_of_mod_eq_zero h2
  rw [hMeq] at hd1
  have hd3 : 2 ^ (b.k + 1) ∣ 2 ^ b.k := (Nat.dvd_add_right hd2).1 hd1
  have := Nat.le_of_dvd (Nat.two_pow_pos b.k) hd3
  rw [Nat.pow_succ] at this
  have := Nat.two_pow_pos b.k
  omega

theorem sorted_ext : ∀ (l₁ l₂ : List Blk),
    l₁.Pairwise (fun b c => b.base < c.base) → l₂.Pairwise (fun b c => b.base < c.base) →
    (∀ b, b ∈ l₁ ↔ b ∈ l₂) → l₁ = l₂ :=
  fun _ _ h1 h2 h => pairwise_ext (fun _ _ => Nat.lt_asymm) h1 h2 h

end NV
