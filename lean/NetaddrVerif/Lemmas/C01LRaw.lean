/-
Lemmas/C01LRaw.lean — the raw-exception model of Model/AddrRaw.lean against the `Option` / `Err`-level model of
Model/AddrParse.lean: what the try/except structure does to an arbitrary sane platform.  A call that `Agrees` with an
`Option`, under `try … except Exception: raise AddrFormatError`, is that `Option` read as value-or-AddrFormatError;
hence `str_to_int` and `valid_str` of both families and the three `try` statements of `IPAddress.__init__` are what
Lemmas/C01LCtor.lean describes, and the standard platform is sane.
-/
import NetaddrVerif.Lemmas.C01LCtor
namespace NV.C01L.Raw
open NV NV.Text4 NV.AddrParse NV.AddrRaw

/-- an `Option` read as "value or AddrFormatError" -/
def ofOpt {α : Type} : Option α → X α
  | some v => .ok v
  | none => .error .addrFormat

theorem agrees_some {α : Type} {r : X α} {v : α} (h : Agrees r (some v)) : r = .ok v := h
theorem agrees_none {α : Type} {r : X α} (h : Agrees r (none : Option α)) :
    ∃ e, r = .error e ∧ e.isException = true := h

/-- `try: r` / `except Exception: raise AddrFormatError` over a call that agrees with `o` -/
theorem try_exception_agrees {α : Type} (r : X α) (o : Option α) (h : Agrees r o) :
    tryExcept r .exception (fun _ => .error .addrFormat) = ofOpt o := by
  cases o with
  | some v => rw [agrees_some h]; rfl
  | none =>
    obtain ⟨e, he, hx⟩ := agrees_none h
    rw [he]; simp [tryExcept, Clause.catches, hx, ofOpt]

theorem agrees_bind {α β : Type} (r : X α) (o : Option α) (f : α → X β) (g : α → Option β)
    (h : Agrees r o) (hf : ∀ a, Agrees (f a) (g a)) : Agrees (r >>= f) (o >>= g) := by
  cases o with
  | some v => rw [agrees_some h]; exact hf v
  | none =>
    obtain ⟨e, he, hx⟩ := agrees_none h
    rw [he]; exact ⟨e, rfl, hx⟩

theorem agrees_pure {α : Type} (a : α) : Agrees (pure a : X α) (pure a : Option α) := rfl

theorem agrees_mapM {α β : Type} (f : α → X β) (g : α → Option β) (h : ∀ a, Agrees (f a) (g a))
    (l : List α) : Agrees (l.mapM f) (l.mapM g) := by
  induction l with
  | nil => simp only [List.mapM_nil]; exact agrees_pure _
  | cons a t ih =>
    simp only [List.mapM_cons]
    exact agrees_bind _ _ _ _ (h a) (fun b => agrees_bind _ _ _ _ ih (fun bs => agrees_pure _))

theorem zerofillRaw_agrees (P : RawPlatform) (hP : P.Sane) (s : List Char) :
    Agrees (zerofillRaw P s) (zerofill s) := by
  unfold zerofillRaw zerofill
  have hm := agrees_mapM (fun i => do let n ← P.pyInt i; pure (showInt n))
    (fun i => (Py.pyInt 10 i).map showInt)
    (fun i => by
      have := agrees_bind _ _ (fun n => (pure (showInt n) : X (List Char))) (fun n => some (showInt n))
        (hP.pyInt i) (fun n => agrees_pure _)
      simpa [Option.map_eq_bind, Function.comp_def] using this)
    (s.splitOn '.')
  have := agrees_bind _ _ (fun ts => (pure (['.'].intercalate ts) : X (List Char)))
    (fun ts => some (['.'].intercalate ts)) hm (fun ts => agrees_pure _)
  simpa [Option.map_eq_bind, Function.comp_def] using this

theorem strToInt4Body_agrees (P : RawPlatform) (hP : P.Sane) (be : Backend) (s : List Char) (fl : Nat) :
    Agrees (strToInt4Body P be s fl) (body4 be s fl) := by
  unfold strToInt4Body body4
  apply agrees_bind
  · by_cases hz : hasFlag fl ZEROFILL = true
    · simp only [hz, if_true]; exact zerofillRaw_agrees P hP s
    · simp only [hz]; exact agrees_pure s
  · intro a
    by_cases hp : hasFlag fl INET_PTON = true
    · simp only [hp, if_true]; exact hP.pton4 be a
    · simp only [hp]; exact hP.aton a

/-- **`strategy.ipv4.str_to_int`**: over every sane platform the try/except structure gives the
    value or AddrFormatError, as Model/AddrParse.lean says -/
theorem strToInt4Raw_eq (P : RawPlatform) (hP : P.Sane) (be : Backend) (s : List Char) (fl : Nat) :
    strToInt4Raw P be s fl = liftR (strToInt4 be s fl) := by
  refine (try_exception_agrees _ _ (strToInt4Body_agrees P hP be s fl)).trans ?_
  rw [strToInt4_eq]; cases body4 be s fl <;> rfl

theorem strToInt6Raw_eq (P : RawPlatform) (hP : P.Sane) (be : Backend) (s : List Char) (fl : Nat) :
    strToInt6Raw P be s fl = liftR (strToInt6 be s fl) := by
  refine (try_exception_agrees _ _ (hP.pton6 be s)).trans ?_
  unfold strToInt6; cases inetPton6 be s <;> rfl

/-- `try: r; validity stays True` / `except <clause>: False` over a call that agrees with `o`,
    for the two clauses the code uses -/
theorem try_valid_agrees {α : Type} (r : X α) (o : Option α) (h : Agrees r o) (c : Clause)
    (hc : c = .exception ∨ c = .bare) :
    tryExcept (do let _ ← r; pure true) c (fun _ => pure false) = .ok o.isSome := by
  cases o with
  | some v => rw [agrees_some h]; rfl
  | none =>
    obtain ⟨e, he, hx⟩ := agrees_none h
    rw [he]
    rcases hc with rfl | rfl <;> simp [tryExcept, Clause.catches, hx, bind, Except.bind, pure, Except.pure]

/-- **`strategy.ipv4.valid_str`**, transcribed on its own, is the `validStr4` of
    Model/AddrParse.lean on every sane platform -/
theorem validStr4Raw_eq (P : RawPlatform) (hP : P.Sane) (be : Backend) (s : List Char) (fl : Nat) :
    validStr4Raw P be s fl = liftR (validStr4 be s fl) := by
  by_cases hs : s = []
  · simp [validStr4Raw, validStr4, hs, liftR]
  · have hs' : (s == []) = false := beq_eq_false_iff_ne.mpr hs
    rw [validStr4_isSome be s fl hs]
    unfold validStr4Raw
    simp only [hs', Bool.false_eq_true, if_false]
    have hb := strToInt4Body_agrees P hP be s fl
    have key := try_valid_agrees (strToInt4Body P be s fl) (body4 be s fl) hb .exception (Or.inl rfl)
    rw [show liftR (Except.ok (body4 be s fl).isSome : R Bool) = .ok (body4 be s fl).isSome from rfl, ← key]
    congr 1
    unfold strToInt4Body
    by_cases hp : hasFlag fl INET_PTON = true <;> simp [hp]

/-- **`strategy.ipv6.valid_str`** likewise (bare `except:`) -/
theorem validStr6Raw_eq (P : RawPlatform) (hP : P.Sane) (be : Backend) (s : List Char) :
    validStr6Raw P be s = liftR (validStr6 be s) := by
  by_cases hs : s = []
  · simp [validStr6Raw, validStr6, hs, liftR]
  · have hs' : (s == []) = false := beq_eq_false_iff_ne.mpr hs
    rw [validStr6_isSome be s hs]
    unfold validStr6Raw
    simp only [hs', Bool.false_eq_true, if_false]
    exact try_valid_agrees (P.pton6 be s) (inetPton6 be s) (hP.pton6 be s) .bare (Or.inr rfl)

/-- what the three `try` statements of `IPAddress.__init__` do with a `str_to_int` that raises
    nothing but AddrFormatError -/
theorem ipAddressRawOf_lift (be4 be6 : Backend) (s : List Char) (ver : Option Nat) (fl : Nat) :
    ipAddressRawOf (fun a f => liftR (strToInt4 be4 a f)) (fun a f => liftR (strToInt6 be6 a f)) s ver fl
      = liftR (ipAddress2 be4 be6 s ver fl) := by
  unfold ipAddressRawOf
  cases ver with
  | none =>
    rw [ipAddress2_none]; unfold ctor
    simp only [pure_bind, strToInt4_eq, strToInt6]
    cases s.contains '/' <;> cases body4 be4 s fl <;> cases inetPton6 be6 s <;> rfl
  | some v =>
    by_cases h4 : v = 4
    · subst h4
      rw [ipAddress2_some4]; unfold ctor
      simp only [if_true, pure_bind, strToInt4_eq]
      cases s.contains '/' <;> cases body4 be4 s fl <;> rfl
    · by_cases h6 : v = 6
      · subst h6
        rw [ipAddress2_some6]; unfold ctor
        simp only [show ¬ (6 : Nat) = 4 by decide, if_false, if_true, pure_bind, strToInt6]
        cases s.contains '/' <;> cases inetPton6 be6 s <;> rfl
      · rw [ipAddress2_bad _ _ _ _ _ ⟨h4, h6⟩]
        simp [h4, h6, liftR, bind, Except.bind]

/-- **`IPAddress.__init__`**: the raw model with the try/except structure of the code equals the
    `Err`-level model on every sane platform, for every string, version and flags -/
theorem ipAddressRaw_eq (P : RawPlatform) (hP : P.Sane) (be4 be6 : Backend) (s : List Char)
    (ver : Option Nat) (fl : Nat) :
    ipAddressRaw P be4 be6 s ver fl = liftR (ipAddress2 be4 be6 s ver fl) := by
  unfold ipAddressRaw
  rw [funext fun a => funext (strToInt4Raw_eq P hP be4 a), funext fun a => funext (strToInt6Raw_eq P hP be6 a)]
  exact ipAddressRawOf_lift be4 be6 s ver fl

theorem std_sane : std.Sane := by
  refine ⟨?_, ?_, ?_, ?_⟩
  · intro s
    show Agrees (match Text4.aton s with | some v => _ | none => _) _
    cases Text4.aton s with
    | some v => rfl
    | none => exact ⟨_, rfl, by unfold glibcFailure; split <;> rfl⟩
  · intro be s
    cases be with
    | platform =>
      show Agrees (match Text4.pton4 s with | some v => _ | none => _) (Text4.pton4 s)
      cases Text4.pton4 s with
      | some v => rfl
      | none => exact ⟨_, rfl, by unfold glibcFailure; split <;> rfl⟩
    | fallback =>
      show Agrees (match FbSocket.pton4 s with | some v => _ | none => _) (FbSocket.pton4 s)
      cases FbSocket.pton4 s with
      | some v => rfl
      | none => exact ⟨_, rfl, rfl⟩
  · intro be s
    cases be with
    | platform =>
      show Agrees (match Text6.pton6 s with | some v => _ | none => _) (Text6.pton6 s)
      cases Text6.pton6 s with
      | some v => rfl
      | none => exact ⟨_, rfl, by unfold glibcFailure; split <;> rfl⟩
    | fallback =>
      show Agrees (match FbSocket.pton6 s with | some v => _ | none => _) (FbSocket.pton6 s)
      cases FbSocket.pton6 s with
      | some v => rfl
      | none => exact ⟨_, rfl, rfl⟩
  · intro s
    show Agrees (match Py.pyInt 10 s with | some v => _ | none => _) _
    cases Py.pyInt 10 s with
    | some v => rfl
    | none => exact ⟨_, rfl, rfl⟩

end NV.C01L.Raw
