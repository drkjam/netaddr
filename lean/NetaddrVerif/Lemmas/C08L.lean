/-
Lemmas/C08L.lean — arithmetic of the derived EUI identifiers; the words of a value under a
dialect (`wordAt`) and what `getIdx` reads.  Core only.
-/
import NetaddrVerif.Model.Eui
import NetaddrVerif.Lemmas.C15LWords
namespace NV.Eui
open NV.Codec NV.Gen

/-- `(first_three << 40) | 0xfffe000000 | last_three` as plain arithmetic -/
theorem eui64Value_48 (v : Nat) :
    eui64Value 48 v = (v / 2 ^ 24) * 2 ^ 40 + 0xfffe000000 + v % 2 ^ 24 := by
  have e2 : v &&& 0xffffff = v % 2 ^ 24 := Nat.and_two_pow_sub_one_eq_mod v 24
  simp only [eui64Value, if_true, e2, Nat.shiftRight_eq_div_pow]
  -- each OR joins a multiple of 2^s with a number below 2^s (s = 40, then 24): no common bit, so it is a sum
  have h1 : (0xfffe000000 : Nat) < 2 ^ 40 := by decide
  rw [← Nat.shiftLeft_add_eq_or_of_lt h1]
  have h2 : (v / 2 ^ 24) <<< 40 + 0xfffe000000 = ((v / 2 ^ 24) * 2 ^ 16 + 0xfffe) <<< 24 := by
    simp only [Nat.shiftLeft_eq]; omega
  have h3 : v % 2 ^ 24 < 2 ^ 24 := Nat.mod_lt _ (by decide)
  rw [h2, ← Nat.shiftLeft_add_eq_or_of_lt h3]
  simp only [Nat.shiftLeft_eq]; omega

/-- word `i` (most significant first) of `v` under dialect `d`: digit `num_words-1-i` in base
    `2^word_size` -/
def wordAt (v : Nat) (d : Dialect) (i : Nat) : Nat :=
  v / 2 ^ (d.wordSize * (d.numWords - 1 - i)) % 2 ^ d.wordSize

theorem words_get (v : Nat) {d : Dialect} {i : Nat} (h : i < d.numWords) :
    (beWords d.wordSize d.numWords v)[i]? = some (wordAt v d i) :=
  beWords_get _ _ v i h

theorem words_eq_map (v : Nat) (d : Dialect) :
    beWords d.wordSize d.numWords v = (List.range d.numWords).map (wordAt v d) :=
  beWords_range _ _ v

theorem pyIndex_nonneg (xs : List Nat) (i : Int) (h : 0 ≤ i) : pyIndex xs i = xs[i.toNat]? := by
  unfold pyIndex
  simp only [show ¬ i < 0 by omega, if_false]

theorem getIdx_nat {v : Nat} {d : Dialect} (hv : v < 2 ^ (d.numWords * d.wordSize)) {i : Nat}
    (hi : i < d.numWords) : getIdx v d i = .ok (wordAt v d i) := by
  unfold getIdx
  rw [if_neg (by omega), intToWords_ok hv]
  show (match pyIndex _ (i : Int) with | some x => pure x | none => Except.error Err.index) = _
  rw [pyIndex_nonneg _ _ (by omega), Int.toNat_natCast, words_get v hi]
  rfl

theorem getIdx_neg {v : Nat} {d : Dialect} (hv : v < 2 ^ (d.numWords * d.wordSize)) {i : Nat}
    (hi : i < d.numWords) : getIdx v d ((i : Int) - d.numWords) = .ok (wordAt v d i) := by
  unfold getIdx
  rw [if_neg (by omega), intToWords_ok hv]
  show (match pyIndex _ ((i : Int) - d.numWords) with | some x => pure x | none => Except.error Err.index) = _
  unfold pyIndex
  rw [beWords_length]
  simp only [show (i : Int) - d.numWords < 0 by omega, if_true,
    show (i : Int) - d.numWords + d.numWords = i by omega, show ¬ (i : Int) < 0 by omega, if_false,
    Int.toNat_natCast, words_get v hi]
  rfl

end NV.Eui
