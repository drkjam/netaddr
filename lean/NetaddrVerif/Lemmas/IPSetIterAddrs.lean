/-
Lemmas/IPSetIterAddrs.lean — `IPSet.__iter__` at address level (`iterAddrs`): membership, length,
strict ascent in (version, address), no duplicates; `size` as the number of distinct denoted
(version, address) pairs (C07).
-/
import NetaddrVerif.Lemmas.IPSetQueries
namespace NV.IPSet.Iter
open NV NV.IPSet

/-- order of iteration: family first (IPv4 = 4 before IPv6 = 6), then the address -/
def AddrLt (x y : Nat × Nat) : Prop := x.1 < y.1 ∨ (x.1 = y.1 ∧ x.2 < y.2)

theorem addrLt_irrefl (x : Nat × Nat) : ¬ AddrLt x x := by
  unfold AddrLt; omega

theorem mem_netAddrs (c : Net) (v a : Nat) : (v, a) ∈ netAddrs c ↔ argDen (.net c) v a := by
  unfold netAddrs argDen
  simp only [List.mem_map, List.mem_range'_1, Prod.mk.injEq]
  have := first_le_last c
  constructor
  · rintro ⟨x, ⟨h1, h2⟩, h3, h4⟩
    subst h4
    exact ⟨h3, h1, by omega⟩
  · rintro ⟨h1, h2, h3⟩
    exact ⟨a, ⟨h2, by omega⟩, h1, rfl⟩

theorem length_netAddrs (c : Net) :
    (netAddrs c).length = netSize (width c.ver) c.val c.plen := by
  have h := first_le_last c
  unfold netAddrs
  rw [List.length_map, List.length_range']
  unfold Net.first Net.last at h
  unfold netSize Net.first Net.last
  omega

theorem netAddrs_sorted (c : Net) : (netAddrs c).Pairwise AddrLt := by
  unfold netAddrs
  rw [List.pairwise_map]
  exact List.Pairwise.imp (fun h => Or.inr ⟨rfl, h⟩) (List.pairwise_lt_range' (s := c.first) (n := c.last + 1 - c.first))

theorem mem_iterAddrs (s : St) (v a : Nat) : (v, a) ∈ iterAddrs s ↔ denS s v a := by
  unfold iterAddrs denS
  simp only [List.mem_flatMap, mem_netAddrs, mem_iterCidrs]
  exact Iff.rfl

theorem length_iterAddrs (s : St) : (iterAddrs s).length = size s := by
  unfold iterAddrs
  rw [List.length_flatMap, ← size_shown s]
  unfold size
  congr 1
  apply List.map_congr_left
  intro c _
  exact length_netAddrs c

theorem iterAddrs_sorted (s : St) (hs : Inv s) : (iterAddrs s).Pairwise AddrLt := by
  unfold iterAddrs
  rw [List.pairwise_flatMap]
  refine ⟨fun c _ => netAddrs_sorted c, ?_⟩
  have hsep := List.pairwise_map.1 (shown_sep s hs).2
  refine List.Pairwise.imp ?_ hsep
  intro c d hcd x hx y hy
  obtain ⟨xv, xa⟩ := x
  obtain ⟨yv, ya⟩ := y
  obtain ⟨h1, _, h3⟩ := (mem_netAddrs c xv xa).1 hx
  obtain ⟨h4, h5, _⟩ := (mem_netAddrs d yv ya).1 hy
  have hcd' : c.ver < d.ver ∨ (c.ver = d.ver ∧ c.last < d.first) := hcd
  show xv < yv ∨ (xv = yv ∧ xa < ya)
  rcases hcd' with h | ⟨h, h'⟩
  · left; omega
  · right; exact ⟨by omega, by omega⟩

theorem nodup_of_sorted {l : List (Nat × Nat)} (h : l.Pairwise AddrLt) : l.Nodup := by
  rw [List.nodup_iff_pairwise_ne]
  refine List.Pairwise.imp ?_ h
  intro a b hab e
  subst e
  exact addrLt_irrefl a hab

theorem iterAddrs_nodup (s : St) (hs : Inv s) : (iterAddrs s).Nodup :=
  nodup_of_sorted (iterAddrs_sorted s hs)

theorem perm_iterAddrs (s : St) (hs : Inv s) {L : List (Nat × Nat)} (hn : L.Nodup)
    (hm : ∀ v a, (v, a) ∈ L ↔ denS s v a) : L.Perm (iterAddrs s) :=
  (List.perm_ext_iff_of_nodup hn (iterAddrs_nodup s hs)).2 fun ⟨v, a⟩ => (hm v a).trans (mem_iterAddrs s v a).symm

theorem card_eq_size (s : St) (hs : Inv s) (L : List (Nat × Nat)) (hn : L.Nodup)
    (hm : ∀ v a, (v, a) ∈ L ↔ denS s v a) : L.length = size s :=
  (perm_iterAddrs s hs hn hm).length_eq.trans (length_iterAddrs s)

end NV.IPSet.Iter
