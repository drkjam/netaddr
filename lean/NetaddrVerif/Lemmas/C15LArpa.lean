/-
Lemmas/C15LArpa.lean — the nibble view of a value, for `ipv6.int_to_arpa`: `'%.<k>x'` as the k
nibbles of a word, the verbose IPv6 text as the eight hextets of the value, and that text without
its colons as the 32 nibbles (`regroup` from hextets to nibbles).  Core only.
-/
import NetaddrVerif.Lemmas.C15LSep
import NetaddrVerif.Lemmas.C15LBytes
namespace NV.Codec

/-- `'%.<k>x' % n` is the k nibbles of n, most significant first -/
theorem fmtHex_nibbles (k : Nat) (hk : 1 ≤ k) (n : Nat) (hn : n < 16 ^ k) :
    fmtHex k false n = (beWords 4 k n).map Nat.digitChar :=
  toDigits_words 4 (by decide) hk n (by rwa [Nat.pow_mul])

/-- `int_to_str(v, ipv6_verbose)`: the eight hextets of v as four hex digits each, joined by ':' -/
theorem V6.intToStrVerbose_eq (v : Nat) (hv : v < 2 ^ 128) :
    V6.intToStrVerbose v = .ok ([':'].intercalate ((beWords 16 8 v).map (fmtHex 4 false))) := by
  have h1 : V6.intToPacked v = .ok (beBytes 16 v) := (intToWords_packFields 4 4 v).trans (if_pos hv)
  have h2 : unpackFields 2 8 (beBytes 16 v) = _ := unpackFields_beBytes 2 8 v
  simp only [V6.intToStrVerbose, h1, h2]
  rfl

theorem digitChar_ne_colon : ∀ d, d < 16 → Nat.digitChar d ≠ ':' := by decide +kernel

theorem strip_hex_words (k n v : Nat) (hk : 1 ≤ k) :
    replaceDel [':'] ([':'].intercalate ((beWords (4 * k) n v).map (fmtHex k false))) =
      (beWords 4 (k * n) v).map Nat.digitChar := by
  have htok : ∀ w ∈ beWords (4 * k) n v,
      fmtHex k false w = (beWords 4 k w).map Nat.digitChar :=
    fun w hw => fmtHex_nibbles k hk w (beWords_lt16 k n v w hw)
  have hstrip := C15L.Sep.replaceDel_intercalate_any (· != ':') [':']
    ((beWords (4 * k) n v).map (fmtHex k false))
    (fun l hl c hc => by
      obtain ⟨w, hw, rfl⟩ := List.mem_map.mp hl
      rw [htok w hw] at hc
      obtain ⟨d, hd, rfl⟩ := List.mem_map.mp hc
      exact bne_iff_ne.mpr (digitChar_ne_colon d (beWords_lt 4 k w d hd)))
    (Or.inr ⟨':', List.mem_singleton_self _, by decide⟩)
  rw [hstrip, List.map_congr_left htok, ← regroup 4 k n v, List.map_flatten, List.map_map]
  rfl

end NV.Codec
