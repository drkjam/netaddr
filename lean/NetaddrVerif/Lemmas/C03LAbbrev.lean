/-
Lemmas/C03LAbbrev.lean — `cidr_abbrev_to_verbose` input form by input form (a text with ':', a
numeral, `A/T`, a '/'-free non-numeral), and the zero-octet padding it applies: the padded
address part denotes the same address (or is refused alike), so an explicit prefix is never
overridden by implicit_prefix=True.
-/
import NetaddrVerif.Lemmas.C03LAcc

namespace NV.C03A2
open NV

/-- the address part padded with "0" pieces up to four '.'-pieces
    (`tokens = part_addr.split('.')`; `for i in range(4 - len(tokens)): tokens.append('0')`);
    in `NV.C03A2`: the rules of `Abbrev` (Props/C03Audit2) are written with it -/
def padded (A : List Char) : List Char :=
  ['.'].intercalate (A.splitOn '.' ++ List.replicate (4 - (A.splitOn '.').length) ['0'])

end NV.C03A2

namespace NV.C03L.Abbrev
open NV NV.Text4 NV.AddrParse NV.NetParse NV.C01L NV.C03L NV.C03L.Acc NV.C03A2

theorem getD_append_replicate (l : List Int) (k i : Nat) : (l ++ List.replicate k 0).getD i 0 = l.getD i 0 := by
  rw [List.getD_eq_getElem?_getD, List.getD_eq_getElem?_getD, List.getElem?_append]
  split
  · rfl
  · rename_i h
    rw [List.getElem?_eq_none (Nat.le_of_not_lt h), List.getElem?_replicate]
    split
    · rfl
    · rfl

theorem quadVal_pad (ns : List Int) (k : Nat) : quadVal (ns ++ List.replicate k 0) = quadVal ns := by
  unfold quadVal
  simp only [getD_append_replicate]

theorem inRange_pad (ns : List Int) (k : Nat) : InRange (ns ++ List.replicate k 0) ↔ InRange ns := by
  unfold InRange
  constructor
  · intro h n hn; exact h n (List.mem_append_left _ hn)
  · intro h n hn
    rcases List.mem_append.mp hn with e | e
    · exact h n e
    · rw [(List.mem_replicate.mp e).2]; omega

theorem mapM_zeros (k : Nat) : (List.replicate k ['0']).mapM (Py.pyInt 10) = some (List.replicate k (0 : Int)) := by
  rw [mapM_eq_pure_map _ (fun _ => 0) _ fun a h => by rw [List.eq_of_mem_replicate h]; decide, List.map_replicate]
  rfl

/-- the ':' test of `expand_partial_address` is implied by the `int()` calls -/
theorem addr4Spec_alt (x : List Char) :
    addr4Spec x = match (x.splitOn '.').mapM (Py.pyInt 10) with
      | none => none
      | some ns => if ns.length ≤ 4 ∧ InRange ns then some (quadVal ns) else none := by
  unfold addr4Spec
  by_cases hc : x.contains ':' = true
  · obtain ⟨p, hp, hcp⟩ := mem_splitOn (sep := '.') (List.contains_iff_mem.mp hc) (by decide)
    rw [if_pos hc, mapM_none hp (pyInt_colon p hcp)]
  · rw [if_neg hc]
    rfl

theorem addr4Spec_pad (x : List Char) (hlen : (x.splitOn '.').length ≤ 4) :
    addr4Spec (['.'].intercalate (x.splitOn '.' ++ List.replicate (4 - (x.splitOn '.').length) ['0'])) = addr4Spec x := by
  rw [addr4Spec_alt, addr4Spec_alt x]
  have hsp : (['.'].intercalate (x.splitOn '.' ++ List.replicate (4 - (x.splitOn '.').length) ['0'])).splitOn '.' =
      x.splitOn '.' ++ List.replicate (4 - (x.splitOn '.').length) ['0'] := by
    apply List.splitOn_intercalate
    · intro l hl
      rcases List.mem_append.mp hl with e | e
      · exact not_mem_splitOn '.' x l e
      · rw [(List.mem_replicate.mp e).2]; decide
    · have := List.splitOn_ne_nil '.' x
      intro h
      exact this (List.append_eq_nil_iff.mp h).1
  rw [hsp]
  rw [List.mapM_append, mapM_zeros]
  cases hm : (x.splitOn '.').mapM (Py.pyInt 10) with
  | none => rfl
  | some ns =>
    have hl := mapM_length hm
    simp only [Option.bind_eq_bind, Option.bind_some, Option.pure_def]
    have h1 : (ns ++ List.replicate (4 - (x.splitOn '.').length) (0 : Int)).length ≤ 4 := by
      simp only [List.length_append, List.length_replicate]; omega
    have h2 : ns.length ≤ 4 := by omega
    by_cases hr : InRange ns
    · rw [if_pos ⟨h1, (inRange_pad ns _).mpr hr⟩, if_pos ⟨h2, hr⟩, quadVal_pad]
    · have n1 : ¬ ((ns ++ List.replicate (4 - (x.splitOn '.').length) (0 : Int)).length ≤ 4 ∧
          InRange (ns ++ List.replicate (4 - (x.splitOn '.').length) 0)) := fun h => hr ((inRange_pad ns _).mp h.2)
      have n2 : ¬ (ns.length ≤ 4 ∧ InRange ns) := fun h => hr h.2
      rw [if_neg n1, if_neg n2]

theorem mem_padded (x : List Char) (c : Char) (h : c ∈ padded x) : c ∈ x ∨ c = '.' ∨ c = '0' := by
  rcases mem_intercalate h with e | ⟨t, ht, hc⟩
  · exact Or.inr (Or.inl e)
  · rcases List.mem_append.mp ht with e | e
    · exact Or.inl (mem_splitOn_iff.1 ⟨t, e, hc⟩).1
    · rw [(List.mem_replicate.mp e).2] at hc
      simp at hc; exact Or.inr (Or.inr hc)

theorem padded_noslash (x : List Char) (hx : x.contains '/' = false) : (padded x).contains '/' = false := by
  apply contains_false_of_not_mem
  intro hm
  rcases mem_padded x '/' hm with e | e | e
  · exact not_mem_of_contains_false hx e
  · exact absurd e (by decide)
  · exact absurd e (by decide)

theorem padded_nocolon (x : List Char) (hc : ':' ∉ x) : ':' ∉ padded x := fun hm => by
  rcases mem_padded x ':' hm with e | e | e
  · exact hc e
  · exact absurd e (by decide)
  · exact absurd e (by decide)

theorem addrVal_pad (be : Backend) (ver : Nat) (hver : VerOK ver) (x : List Char) (hc : ':' ∉ x)
    (hlen : (x.splitOn '.').length ≤ 4) : addrVal be ver (padded x) = addrVal be ver x := by
  rcases hver with rfl | rfl
  · exact addr4Spec_pad x hlen
  · rw [addrVal6_nocolon be (padded_nocolon x hc), addrVal6_nocolon be hc]

theorem addrOf_pad (be : Backend) (ver : Nat) (hver : VerOK ver) (x : List Char) (hx : x.contains '/' = false)
    (hc : ':' ∉ x) (hlen : (x.splitOn '.').length ≤ 4) :
    addrOf be ver (['.'].intercalate (x.splitOn '.' ++ List.replicate (4 - (x.splitOn '.').length) ['0'])) = addrOf be ver x := by
  show addrOf be ver (padded x) = _
  rw [addrOf_eq be ver hver _ (padded_noslash x hx), addrOf_eq be ver hver x hx, addrVal_pad be ver hver x hc hlen]

/-! ### `cidr_abbrev_to_verbose`, input form by input form -/

theorem abbrev_colon (s : List Char) (h : ':' ∈ s) : cidrAbbrevToVerbose s = s := by
  unfold cidrAbbrevToVerbose
  rw [List.contains_iff_mem.mpr h]; rfl

theorem guard_false (s : List Char) (hc : ':' ∉ s) (hne : s ≠ []) : ¬ ((s.contains ':' || s == []) = true) := by
  intro h
  simp only [Bool.or_eq_true] at h
  rcases h with h1 | h2
  · exact hc (List.contains_iff_mem.mp h1)
  · exact hne (eq_of_beq h2)

/-- a text `int()` reads as `n`: "Single octet partial integer or string address." -/
theorem abbrev_of_int (s : List Char) (n : Int) (hpi : Py.pyInt 10 s = some n) :
    cidrAbbrevToVerbose s =
      match classfulPrefix n with
      | some p => showInt n ++ ".0.0.0/".toList ++ dec p
      | none => s := by
  have hne : s ≠ [] := by rintro rfl; rw [pyInt_nil] at hpi; cases hpi
  unfold cidrAbbrevToVerbose
  rw [if_neg (guard_false s (pyInt_some_clean s n hpi).2.1 hne)]
  simp only [hpi]
  cases classfulPrefix n <;> rfl

/-- `A/T` without ':' : when `int()` reads `T` as a prefix in 0..32 and `A` has at most four
    '.'-pieces, `A` is padded and `T` kept as written; every other such text comes back as it is -/
theorem abbrev_of_slash (A T : List Char) (hA : A.contains '/' = false) (hc : ':' ∉ A ++ '/' :: T) :
    cidrAbbrevToVerbose (A ++ '/' :: T) =
      match Py.pyInt 10 T with
      | some q => if (0 ≤ q ∧ q ≤ 32) ∧ (A.splitOn '.').length ≤ 4 then padded A ++ '/' :: T else A ++ '/' :: T
      | none => A ++ '/' :: T := by
  unfold cidrAbbrevToVerbose
  rw [if_neg (guard_false _ hc (by simp))]
  simp only [Zf.pyInt_slash _ (List.mem_append_right A (List.mem_cons_self ..)), splitSlash_app A T hA]
  cases Py.pyInt 10 T with
  | none => rfl
  | some q =>
    by_cases hr : 0 ≤ q ∧ q ≤ 32
    · by_cases hl : (A.splitOn '.').length ≤ 4
      · have hl' : ¬ (A.splitOn '.').length > 4 := by omega
        simp [hr, hl, hl', padded]
      · have hl' : (A.splitOn '.').length > 4 := by omega
        simp [hr, hl, hl']
    · simp [hr]

theorem headD_append {α} (l m : List α) (d : α) (hne : l ≠ []) : (l ++ m).headD d = l.headD d := by
  cases l with
  | nil => exact absurd rfl hne
  | cons a t => rfl

/-- a text without '/' and ':' that `int()` does not read ("Multi octet partial string address"):
    with at most four '.'-pieces, the first of them a numeral in 0..255, it is padded and given
    the class prefix of that numeral; every other such text comes back as it is -/
theorem abbrev_of_bare (s : List Char) (hs : s.contains '/' = false) (hc : ':' ∉ s) (hpi : Py.pyInt 10 s = none) :
    cidrAbbrevToVerbose s =
      if (s.splitOn '.').length ≤ 4 then
        match (Py.pyInt 10 ((s.splitOn '.').headD [])).bind classfulPrefix with
        | some p => padded s ++ '/' :: dec p
        | none => s
      else s := by
  by_cases hne : s = []
  · subst hne; decide
  · unfold cidrAbbrevToVerbose
    rw [if_neg (guard_false s hc hne)]
    simp only [hpi, splitSlash_none _ hs, Bool.not_true, Bool.false_eq_true, if_false]
    by_cases hl : (s.splitOn '.').length ≤ 4
    · have hl' : ¬ (s.splitOn '.').length > 4 := by omega
      rw [if_neg hl', if_pos hl, headD_append _ _ _ (List.splitOn_ne_nil '.' s)]
      cases Py.pyInt 10 ((s.splitOn '.').headD []) with
      | none => rfl
      | some o =>
        simp only [Option.bind_some]
        cases classfulPrefix o with
        | none => rfl
        | some p => simp [padded]
    · have hl' : (s.splitOn '.').length > 4 := by omega
      rw [if_pos hl', if_neg hl]

theorem abbrev_slash (s : List Char) (hs : s.contains '/' = true) :
    cidrAbbrevToVerbose s = s ∨
      ∃ T, splitSlash s = ((splitSlash s).1, some T) ∧ (∃ q, Py.pyInt 10 T = some q) ∧ ':' ∉ s ∧
        ((splitSlash s).1.splitOn '.').length ≤ 4 ∧
        cidrAbbrevToVerbose s = ['.'].intercalate ((splitSlash s).1.splitOn '.' ++
          List.replicate (4 - ((splitSlash s).1.splitOn '.').length) ['0']) ++ '/' :: T := by
  by_cases hc : ':' ∈ s
  · exact Or.inl (abbrev_colon s hc)
  · obtain ⟨A, T, rfl, hA⟩ := first_slash s hs
    have e := abbrev_of_slash A T hA hc
    rw [splitSlash_app A T hA]
    cases hq : Py.pyInt 10 T with
    | none => simp only [hq] at e; exact Or.inl e
    | some q =>
      simp only [hq] at e
      by_cases h : (0 ≤ q ∧ q ≤ 32) ∧ (A.splitOn '.').length ≤ 4
      · rw [if_pos h] at e; exact Or.inr ⟨T, rfl, ⟨q, hq⟩, hc, h.2, e⟩
      · rw [if_neg h] at e; exact Or.inl e

end NV.C03L.Abbrev
