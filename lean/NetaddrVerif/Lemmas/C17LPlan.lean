/-
Lemmas/C17LPlan.lean — nmap: the parse phase / enumeration phase presentation equals the
generator model, and `valid_nmap_range` in its terms; several specs in one call
(`iter_nmap_range(*specs)`), per-spec budget and `islice` budget.
-/
import NetaddrVerif.Lemmas.C17LNmap
import NetaddrVerif.Lemmas.NetworkL
namespace NV.C17L.Plan
open NV NV.Nmap NV.C17

/-- the generator model is "parse, then enumerate": every error of `parseTargetSpec` is an
    error of `parsePlan`, and `Plan.items` is total -/
theorem parseTargetSpec_eq_plan (F : Foreign) (fuel : Nat) (spec : List Char) :
    parseTargetSpec F fuel spec = (parsePlan F spec).map (Plan.items fuel) := by
  unfold parseTargetSpec parsePlan
  by_cases h1 : spec.contains '/' = true
  · simp only [h1, if_true]
    cases Py.pyInt 10 (split1 '/' spec).2 with
    | none => rfl
    | some p =>
      simp only
      by_cases hg : (0 < p ∧ p < 33)
      · simp only [hg, and_self, not_true_eq_false, if_false]
        cases F.ipNetwork spec with
        | error e => rfl
        | ok net =>
          simp only
          by_cases hv : net.ver ≠ 4
          · rw [if_pos hv, if_pos hv]; rfl
          · rw [if_neg hv, if_neg hv]; rfl
      · simp only [hg, not_false_eq_true, if_true]; rfl
  · simp only [h1, Bool.false_eq_true, if_false]
    by_cases h2 : spec.contains ':' = true
    · simp only [h2, if_true]
      cases F.ipAddress spec with
      | error e => rfl
      | ok a => rfl
    · simp only [h2, Bool.false_eq_true, if_false]
      cases generateOctetRanges spec with
      | error e => rfl
      | ok rs =>
        match rs with
        | [] => rfl
        | [_] => rfl
        | [_, _] => rfl
        | [_, _, _] => rfl
        | [_, _, _, _] => rfl
        | _ :: _ :: _ :: _ :: _ :: _ => rfl

theorem iter_eq_plan (F : Foreign) (fuel : Nat) (spec : List Char) :
    iterNmapRange F fuel spec = (parsePlan F spec).map (Plan.items fuel) :=
  parseTargetSpec_eq_plan F fuel spec

theorem parsePlan_slash (F : Foreign) {spec : List Char} (h1 : '/' ∈ spec) :
    parsePlan F spec =
      match Py.pyInt 10 (split1 '/' spec).2 with
      | none => .error .value
      | some p =>
        if ¬ (0 < p ∧ p < 33) then .error .addrFormat
        else match F.ipNetwork spec with
          | .error e => .error e
          | .ok net => if net.ver ≠ 4 then .error .addrFormat else .ok (.cidr net) := by
  unfold parsePlan
  rw [if_pos (List.contains_iff_mem.2 h1)]
  rfl

theorem parsePlan_colon (F : Foreign) {spec : List Char} (h1 : '/' ∉ spec) (h2 : ':' ∈ spec) :
    parsePlan F spec =
      match F.ipAddress spec with
      | .error e => .error e
      | .ok a => .ok (.addr a) := by
  unfold parsePlan
  rw [if_neg (mt List.contains_iff_mem.1 h1), if_pos (List.contains_iff_mem.2 h2)]
  rfl

theorem parsePlan_octets (F : Foreign) {spec : List Char} (h1 : '/' ∉ spec) (h2 : ':' ∉ spec) :
    parsePlan F spec =
      match generateOctetRanges spec with
      | .ok [ws, xs, ys, zs] => .ok (.octets ws xs ys zs)
      | .ok _ => .error .other
      | .error e => .error e := by
  unfold parsePlan
  rw [if_neg (mt List.contains_iff_mem.1 h1), if_neg (mt List.contains_iff_mem.1 h2)]
  rfl

theorem parsePlan_ok {F : Foreign} {spec : List Char} {p : Plan} (h : parsePlan F spec = .ok p) :
    match p with
    | .cidr net => '/' ∈ spec ∧ ∃ z, Py.pyInt 10 (split1 '/' spec).2 = some z ∧ 0 < z ∧ z < 33 ∧
        F.ipNetwork spec = .ok net ∧ net.ver = 4
    | .addr a => '/' ∉ spec ∧ ':' ∈ spec ∧ F.ipAddress spec = .ok a
    | .octets ws xs ys zs => '/' ∉ spec ∧ ':' ∉ spec ∧ generateOctetRanges spec = .ok [ws, xs, ys, zs] := by
  by_cases h1 : '/' ∈ spec
  · rw [parsePlan_slash F h1] at h
    split at h
    · cases h
    · next z hz =>
      split at h
      · cases h
      · next hg =>
        split at h
        · cases h
        · next net hn =>
          split at h
          · cases h
          · next hv =>
            cases h
            exact ⟨h1, z, hz, (Decidable.not_not.1 hg).1, (Decidable.not_not.1 hg).2, hn, Decidable.not_not.1 hv⟩
  · by_cases h2 : ':' ∈ spec
    · rw [parsePlan_colon F h1 h2] at h
      split at h
      · cases h
      · next a ha =>
        cases h
        exact ⟨h1, h2, ha⟩
    · rw [parsePlan_octets F h1 h2] at h
      split at h
      · next ws xs ys zs hgen =>
        cases h
        exact ⟨h1, h2, hgen⟩
      · cases h
      · cases h

theorem all_octets (ws xs ys zs : List Nat) :
    (Plan.octets ws xs ys zs).all = (fullProduct ws xs ys zs).map (fun v => ⟨4, v⟩) := rfl

theorem items_eq_take (p : Plan) (fuel : Nat) : p.items fuel = p.all.take fuel := by
  cases p with
  | cidr net =>
    simp only [Plan.items, Plan.all, netIter]
    rw [← List.map_take, ← List.map_take, List.take_range, Nat.min_comm]
  | addr a => rfl
  | octets ws xs ys zs => rw [all_octets, Plan.items, product4_eq, List.map_take]

theorem cidr_items (v p fuel : Nat) (hv : v < 2 ^ 32) :
    (Plan.cidr ⟨4, v, p⟩).items fuel =
      (((List.range (2 ^ (32 - p))).map (v / 2 ^ (32 - p) * 2 ^ (32 - p) + ·)).take fuel).map (fun a => ⟨4, a⟩) := by
  have hfirst : (⟨4, v, p⟩ : Net).first = v / 2 ^ (32 - p) * 2 ^ (32 - p) := netFirst_eq 32 v p hv
  have hlast : (⟨4, v, p⟩ : Net).last = v / 2 ^ (32 - p) * 2 ^ (32 - p) + (2 ^ (32 - p) - 1) := netLast_eq 32 v p
  rw [items_eq_take, Plan.all, hfirst, hlast, List.map_take, Nat.add_assoc, Nat.add_sub_cancel_left,
    Nat.sub_add_cancel (Nat.two_pow_pos _)]

theorem items_length_le (p : Plan) (fuel : Nat) : (p.items fuel).length ≤ fuel := by
  rw [items_eq_take, List.length_take]; omega

/-- a spec that parses has at least one item (so `next()` in `valid_nmap_range` never sees
    StopIteration) -/
theorem plan_all_ne_nil (F : Foreign) (spec : List Char) (p : Plan) (h : parsePlan F spec = .ok p) :
    p.all ≠ [] := by
  cases p with
  | cidr net =>
    have hle : net.first ≤ net.last := netFirst_le_netLast _ _ _
    simp only [Plan.all, ne_eq, List.map_eq_nil_iff, List.range_eq_nil]
    omega
  | addr a => simp [Plan.all]
  | octets ws xs ys zs =>
    obtain ⟨-, -, hgen⟩ := parsePlan_ok h
    rcases generate_cases spec with ⟨e, he, -⟩ | ⟨t0, t1, t2, t3, -, -, ⟨w0, w1, w2, w3⟩, hok⟩
    · rw [he] at hgen
      cases hgen
    · rw [hok] at hgen
      cases hgen
      rw [all_octets, ne_eq, List.map_eq_nil_iff]
      exact fullProduct_ne_nil (vals_spec w0).1 (vals_spec w1).1 (vals_spec w2).1 (vals_spec w3).1

/-- `valid_nmap_range` runs the parse phase and one step of the enumeration, which yields an item -/
theorem validNmapRange_eq (F : Foreign) (spec : List Char) :
    validNmapRange F spec =
      match parsePlan F spec with
      | .ok _ => .ok true
      | .error e => if e = .type_ ∨ e = .value ∨ e = .addrFormat then .ok false else .error e := by
  unfold validNmapRange
  rw [parseTargetSpec_eq_plan]
  cases hp : parsePlan F spec with
  | error e => rfl
  | ok p =>
    have hne := plan_all_ne_nil F spec p hp
    simp only [Except.map, items_eq_take]
    cases hall : p.all with
    | nil => exact absurd hall hne
    | cons a t => rfl

/-- the items one spec contributes (nothing if it fails) -/
def itemsOf (F : Foreign) (fuel : Nat) (s : List Char) : List Addr :=
  match iterNmapRange F fuel s with
  | .ok l => l
  | .error _ => []

theorem ranges_append (F : Foreign) (fuel : Nat) (pre rest : List (List Char))
    (hpre : ∀ x ∈ pre, ∃ l, iterNmapRange F fuel x = .ok l) :
    iterNmapRanges F fuel (pre ++ rest) =
      (pre.flatMap (itemsOf F fuel) ++ (iterNmapRanges F fuel rest).1, (iterNmapRanges F fuel rest).2) := by
  induction pre with
  | nil => rfl
  | cons x r ih =>
    obtain ⟨l, hl⟩ := hpre x (List.mem_cons_self ..)
    have ih' := ih (fun y hy => hpre y (List.mem_cons_of_mem _ hy))
    have hl' : parseTargetSpec F fuel x = .ok l := hl
    simp only [List.cons_append, iterNmapRanges, hl', ih', List.flatMap_cons, itemsOf, hl, List.append_assoc]

/-- the whole run of `iter_nmap_range(*specs)` without a budget: all items of the specs before
    the first one that fails to parse, and that spec's exception (specification only) -/
def fullTrace (F : Foreign) : List (List Char) → List Addr × Option Err
  | [] => ([], none)
  | s :: r =>
    match parsePlan F s with
    | .error e => ([], some e)
    | .ok p => let t := fullTrace F r; (p.all ++ t.1, t.2)

/-- what a consumer that takes at most `fuel` items sees of a run: if the run has `fuel` items
    or more it sees the first `fuel` and never the exception behind them -/
def truncTrace (fuel : Nat) (t : List Addr × Option Err) : List Addr × Option Err :=
  if fuel ≤ t.1.length then (t.1.take fuel, none) else t

theorem islice_eq (F : Foreign) (specs : List (List Char)) :
    ∀ fuel, isliceNmapRanges F fuel specs = truncTrace fuel (fullTrace F specs) := by
  induction specs with
  | nil =>
    intro fuel
    simp only [isliceNmapRanges, fullTrace, truncTrace, List.length_nil, List.take_nil]
    split <;> rfl
  | cons s r ih =>
    intro fuel
    unfold isliceNmapRanges fullTrace
    by_cases h0 : fuel = 0
    · subst h0; simp [truncTrace]
    · simp only [h0, if_false]
      cases hp : parsePlan F s with
      | error e =>
        simp only [truncTrace, List.length_nil, List.take_nil]
        have : ¬ fuel ≤ 0 := by omega
        simp [this]
      | ok p =>
        -- the head's items use the budget up, or what is left of it goes to the tail, where `ih` applies
        simp only [ih, items_eq_take, List.length_take]
        generalize fullTrace F r = T
        obtain ⟨tl, te⟩ := T
        unfold truncTrace
        simp only [List.length_append]
        by_cases hlen : fuel ≤ p.all.length
        · have e1 : min fuel p.all.length = fuel := by omega
          have c1 : 0 ≤ tl.length := by omega
          have c2 : fuel ≤ p.all.length + tl.length := by omega
          simp only [e1, c1, c2, if_true, Nat.sub_self, List.take_zero, List.append_nil]
          rw [List.take_append_of_le_length hlen]
        · have e1 : min fuel p.all.length = p.all.length := by omega
          have hta : List.take fuel p.all = p.all := List.take_of_length_le (by omega)
          simp only [e1, hta]
          by_cases c : fuel - p.all.length ≤ tl.length
          · have c2 : fuel ≤ p.all.length + tl.length := by omega
            simp only [c, c2, if_true]
            rw [List.take_append, hta]
          · have c2 : ¬ fuel ≤ p.all.length + tl.length := by omega
            simp only [c, c2, if_false]

/-- the items one spec contributes to an unbounded run -/
def allOf (F : Foreign) (s : List Char) : List Addr :=
  match parsePlan F s with
  | .ok p => p.all
  | .error _ => []

theorem trace_append (F : Foreign) (pre rest : List (List Char)) (hpre : ∀ x ∈ pre, ∃ p, parsePlan F x = .ok p) :
    fullTrace F (pre ++ rest) = (pre.flatMap (allOf F) ++ (fullTrace F rest).1, (fullTrace F rest).2) := by
  induction pre with
  | nil => rfl
  | cons x r ih =>
    obtain ⟨p, hp⟩ := hpre x (List.mem_cons_self ..)
    have ih' := ih (fun y hy => hpre y (List.mem_cons_of_mem _ hy))
    simp only [List.cons_append, fullTrace, hp, ih', List.flatMap_cons, allOf, List.append_assoc]

end NV.C17L.Plan
