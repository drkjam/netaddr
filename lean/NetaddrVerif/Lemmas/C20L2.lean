import NetaddrVerif.Lemmas.C20L
import NetaddrVerif.Props.C11
/-! Lemmas/C20L2.lean — C20: the tiling invariant and its preservation by one successful extraction; what
    `subnet()` answers for a free block, the loop of `extract_subnet` turn by turn, and the
    loop as a whole. -/
namespace NV.C20L
open NV NV.Splitter NV.C09L

/-- a network of the family `ver` -/
def NOk (ver : Nat) (n : Net) : Prop := n.ver = ver ∧ n.val < 2 ^ width ver ∧ n.plen ≤ width ver

/-- The history invariant: the free blocks `s` together with the blocks handed out or removed so
    far `g` are networks of the base's family, pairwise disjoint, and cover exactly the base -/
structure Tiling (b : Net) (s g : List Net) : Prop where
  ok : ∀ n ∈ s ++ g, NOk b.ver n
  disj : (s ++ g).Pairwise Dj
  cover : ∀ a, nmem b a ↔ Cov (s ++ g) a

/-- What property C05 proves of `cidrMerge` (Props/C05 `merge_wf`, `merge_den`), restricted to
    lists of networks of one family: the merged blocks are networks of that family and their
    union is the union of the inputs.  It stands as a hypothesis in the statements of this file and of
    Props/C20.lean; `NV.C20.mergeExact` (Props/C20Full.lean) proves it, and `history_invariant`, `splitter` there
    are the statements without it. -/
def MergeExact : Prop :=
  ∀ (ver : Nat) (subs : List Net), (∀ n ∈ subs, NOk ver n) →
    (∀ m ∈ cidrMerge (toItems subs), NOk ver m) ∧
    (∀ a, Cov (cidrMerge (toItems subs)) a ↔ Cov subs a)

theorem nok_wf {ver : Nat} {n : Net} (hv : ver = 4 ∨ ver = 6) (h : NOk ver n) : n.WF := by
  obtain ⟨h1, h2, h3⟩ := h
  subst h1
  exact ⟨hv, h2, h3⟩

theorem Tiling.ok_free {b : Net} {s g : List Net} (ht : Tiling b s g) {n : Net} (hn : n ∈ s) : NOk b.ver n :=
  ht.ok n (List.mem_append_left g hn)

theorem nmem_pfx (n : Net) (a : Nat) : nmem n a ↔ (Pfx.mk n.val n.plen).mem (width n.ver) a := Iff.rfl

theorem tiling_of_sublist {b : Net} {s g s' g' L : List Net} (h : Tiling b s g) (hsub : (s' ++ g').Sublist L)
    (hperm : L.Perm (s ++ g)) (hcov : ∀ a, Cov (s' ++ g') a ↔ Cov (s ++ g) a) : Tiling b s' g' :=
  ⟨fun n hn => h.ok n (hperm.mem_iff.1 (hsub.mem hn)), (pairwise_dj_perm hperm.symm h.disj).sublist hsub,
    fun a => (h.cover a).trans (hcov a).symm⟩

theorem tiling_of_perm {b : Net} {s s' g g' : List Net} (hp : (s' ++ g').Perm (s ++ g)) (h : Tiling b s g) :
    Tiling b s' g' :=
  tiling_of_sublist h (List.Sublist.refl _) hp (cov_perm hp)

/-- the first `c` blocks of the /q grid inside `n`: networks of the family with prefix `q`, no host
    bits, inside `n`, pairwise disjoint -/
theorem subs_facts (n : Net) (hn : n.WF) (q : Nat) (hpq : n.plen ≤ q) (hq : q ≤ width n.ver)
    (c : Nat) (hc : c ≤ 2 ^ (q - n.plen)) :
    (∀ x ∈ (List.range c).map (C11.sub n q), NOk n.ver x ∧ x.plen = q ∧
        x.val % 2 ^ (width n.ver - q) = 0 ∧ ∀ a, nmem x a → nmem n a) ∧
    ((List.range c).map (C11.sub n q)).Pairwise Dj := by
  obtain ⟨h1, h2⟩ := C11.subnet_tiles n hn q hpq hq
  have hT := Nat.two_pow_pos (width n.ver - q)
  constructor
  · intro x hx
    obtain ⟨i, hi, rfl⟩ := List.mem_map.1 hx
    have hi' : i < 2 ^ (q - n.plen) := by have := List.mem_range.1 hi; omega
    obtain ⟨hwf, hal, _, _⟩ := h1 i hi'
    refine ⟨⟨rfl, hwf.2.1, hwf.2.2⟩, rfl, hal, ?_⟩
    intro a ha
    exact (h2 a).1 ⟨i, hi', ha.1, ha.2⟩
  · rw [List.pairwise_map]
    apply List.Pairwise.imp_of_mem _ (List.pairwise_lt_range (n := c))
    intro i j hi hj hlt a ⟨ha1, ha2⟩
    have hi' : i < 2 ^ (q - n.plen) := by have := List.mem_range.1 hi; omega
    have hj' : j < 2 ^ (q - n.plen) := by have := List.mem_range.1 hj; omega
    obtain ⟨_, _, hfi, hli⟩ := h1 i hi'
    obtain ⟨_, _, hfj, _⟩ := h1 j hj'
    -- last_i + 1 is the value of block i + 1, and the values ascend with the index
    have hmono : (C11.sub n q (i + 1)).val ≤ (C11.sub n q j).val := C11.sub_val_mono n q hlt
    simp only [nmem] at ha1 ha2
    omega

/-- a member of a tiling may be replaced by pairwise disjoint networks of the family that cover exactly it -/
theorem Tiling.replace {b x : Net} {rest g new : List Net} (ht : Tiling b (x :: rest) g)
    (hok : ∀ n ∈ new, NOk b.ver n) (hpd : new.Pairwise Dj) (hcov : ∀ a, Cov new a ↔ nmem x a) :
    Tiling b (new ++ rest) g := by
  obtain ⟨hxd, hrestd⟩ := List.pairwise_cons.1 (List.cons_append ▸ ht.disj)
  refine ⟨fun n hn => ?_, ?_, fun a => ?_⟩
  · rcases List.mem_append.1 (List.append_assoc .. ▸ hn) with h | h
    · exact hok n h
    · exact ht.ok n (List.mem_cons_of_mem _ h)
  · rw [List.append_assoc]
    exact List.pairwise_append.2 ⟨hpd, hrestd, fun y hy z hz a h => hxd z hz a ⟨(hcov a).1 ⟨y, hy, h.1⟩, h.2⟩⟩
  · rw [ht.cover a, List.append_assoc, List.cons_append, cov_cons, cov_append new, hcov a]

/-- What repeated `cidr_exclude` of the merged blocks leaves of `cidr`, read as networks of its family:
    pairwise disjoint, and exactly the addresses of `cidr` outside `subs` (`subtract_fold` with the
    merged blocks replaced by `subs` through `MergeExact`). -/
theorem rem_facts (hM : MergeExact) (cidr : Net) (subs : List Net) (hc : NOk cidr.ver cidr)
    (hsubs : ∀ x ∈ subs, NOk cidr.ver x) :
    let rem := (subtractAll (width cidr.ver) ⟨cidr.val, cidr.plen⟩ (cidrMerge (toItems subs))).map
      (fun p => (⟨cidr.ver, p.val, p.plen⟩ : Net))
    (∀ y ∈ rem, NOk cidr.ver y) ∧ rem.Pairwise Dj ∧ ∀ a, Cov rem a ↔ nmem cidr a ∧ ¬ Cov subs a := by
  obtain ⟨hmok, hmcov⟩ := hM cidr.ver subs hsubs
  obtain ⟨hrPD, hrWF, hrcov⟩ := subtract_fold (width cidr.ver) (cidrMerge (toItems subs)) [⟨cidr.val, cidr.plen⟩]
    (fun m hm => ⟨(hmok m hm).2.1, (hmok m hm).2.2⟩) (List.pairwise_singleton _ _)
    (fun y hy => List.mem_singleton.1 hy ▸ ⟨hc.2.1, hc.2.2⟩)
  refine ⟨fun y hy => ?_, List.pairwise_map.2 hrPD, fun a => ?_⟩
  · obtain ⟨p, hp, rfl⟩ := List.mem_map.1 hy
    exact ⟨rfl, (hrWF p hp).val_lt, (hrWF p hp).plen_le⟩
  · -- `MergeExact` in the form `subtract_fold` concludes with: a merged block is of `cidr`'s family
    have hmm : (∃ m ∈ cidrMerge (toItems subs), (Pfx.mk m.val m.plen).mem (width cidr.ver) a) ↔ Cov subs a :=
      Iff.trans ⟨fun ⟨m, hm, h⟩ => ⟨m, hm, by rw [nmem_pfx, (hmok m hm).1]; exact h⟩,
        fun ⟨m, hm, h⟩ => ⟨m, hm, by rw [nmem_pfx, (hmok m hm).1] at h; exact h⟩⟩ (hmcov a)
    have hcm : pcov (width cidr.ver) [⟨cidr.val, cidr.plen⟩] a ↔ nmem cidr a := by
      simp only [pcov, List.mem_singleton, exists_eq_left]; rfl
    rw [← hmm, ← hcm, ← hrcov a]
    constructor
    · rintro ⟨_, hy, h⟩
      obtain ⟨p, hp, rfl⟩ := List.mem_map.1 hy
      exact ⟨p, hp, h⟩
    · exact fun ⟨p, hp, h⟩ => ⟨_, List.mem_map.2 ⟨p, hp, rfl⟩, h⟩

/-- One successful extraction preserves the tiling: the chosen free block `cidr` is replaced
    by what is left of it after every merged block has been cut out, and the `c` extracted blocks
    join the handed-out list -/
theorem split_tiling (hM : MergeExact) (b : Net) (hb : b.WF) (s g : List Net) (ht : Tiling b s g)
    (cidr : Net) (hcs : cidr ∈ s) (q : Nat) (hpq : cidr.plen ≤ q) (hq : q ≤ width b.ver)
    (c : Nat) (hc : c ≤ 2 ^ (q - cidr.plen)) :
    Tiling b
      (unionSet (s.eraseP (keyEq cidr))
        ((subtractAll (width cidr.ver) ⟨cidr.val, cidr.plen⟩
            (cidrMerge (toItems ((List.range c).map (C11.sub cidr q))))).map
          (fun p => ⟨cidr.ver, p.val, p.plen⟩)))
      ((List.range c).map (C11.sub cidr q) ++ g) := by
  have hcok : NOk b.ver cidr := ht.ok_free hcs
  have hcv : cidr.ver = b.ver := hcok.1
  obtain ⟨hsub1, hsubPD⟩ := subs_facts cidr (nok_wf hb.1 hcok) q hpq (hcv ▸ hq) c hc
  generalize (List.range c).map (C11.sub cidr q) = subs at *
  -- what is left of `cidr` and the blocks cut out of it tile it …
  obtain ⟨hremok, hremPD, hremcov⟩ := rem_facts hM cidr subs (hcv ▸ hcok) fun x hx => (hsub1 x hx).1
  generalize (subtractAll (width cidr.ver) ⟨cidr.val, cidr.plen⟩ (cidrMerge (toItems subs))).map
    (fun p => (⟨cidr.ver, p.val, p.plen⟩ : Net)) = rem at *
  have hsc : ∀ a, Cov subs a → nmem cidr a := fun a ⟨y, hy, hya⟩ => (hsub1 y hy).2.2.2 a hya
  -- … so they may stand for the member `x` of the free set that `remove` takes out
  obtain ⟨x, l1, l2, _, hkx, hs, hs1⟩ := List.exists_of_eraseP hcs (keyEq_refl cidr)
  have ht' : Tiling b (x :: (l1 ++ l2)) g :=
    tiling_of_perm (hs ▸ (List.perm_middle.append_right g).symm) ht
  have hnew := ht'.replace (new := rem ++ subs)
    (fun n hn => (List.mem_append.1 hn).elim (fun h => hcv ▸ hremok n h) (fun h => hcv ▸ (hsub1 n h).1))
    (List.pairwise_append.2 ⟨hremPD, hsubPD, fun y hy z hz a h => ((hremcov a).1 ⟨y, hy, h.1⟩).2 ⟨z, hz, h.2⟩⟩)
    (fun a => by
      rw [cov_append, hremcov a, ← nmem_of_keyEq hkx a]
      exact ⟨fun h => h.elim (·.1) (hsc a), fun h => (Classical.em (Cov subs a)).elim Or.inr fun hn => Or.inl ⟨h, hn⟩⟩)
  -- `union` may only drop a block that is there already
  rw [hs1]
  refine tiling_of_sublist hnew ((unionSet_sublist rem (l1 ++ l2)).append_right _) ?_ fun a => ?_
  · simpa only [List.append_assoc] using List.perm_append_comm_assoc (l1 ++ l2) (rem ++ subs) g
  · simp only [cov_append, unionSet_cov, or_assoc, or_left_comm]

/-- `subnet(prefix, count)` for a prefix from the block's own up to the width, with `M` the
    number of /prefix slots in the block and `w` the count asked for (`M` when count is None,
    ip/__init__.py:1321-1326): the first `w` slots if `1 ≤ w ≤ M`, else ValueError -/
theorem subnet_within (n : Net) (hn : n.WF) (q : Int) (count : Option Int) (hp : (n.plen : Int) ≤ q)
    (hw : q ≤ (width n.ver : Nat)) (w : Int) (hwd : count.getD ((2 ^ (q.toNat - n.plen) : Nat) : Int) = w) :
    Subnet.subnet n q count =
      if 1 ≤ w ∧ w ≤ ((2 ^ (q.toNat - n.plen) : Nat) : Int) then .ok ((List.range w.toNat).map (C11.sub n q.toNat))
      else .error .value := by
  have hqe : q = ((q.toNat : Nat) : Int) := by omega
  obtain ⟨s1, s2, s3⟩ := C11.subnet_spec n hn q.toNat (by omega) (by omega)
  rw [← hqe] at s1 s2 s3
  subst hwd
  cases count with
  | none =>
    have := Nat.two_pow_pos (q.toNat - n.plen)
    rw [Option.getD_none, if_pos ⟨by omega, Int.le_refl _⟩, Int.toNat_natCast]
    exact s1
  | some c =>
    rw [Option.getD_some]
    split
    · next h => exact s2 c h.1 h.2
    · next h => exact s3 c h

theorem subnet_cases (n : Net) (hn : n.WF) (q : Int) (count : Option Int) :
    (q < n.plen ∧ Subnet.subnet n q count = .ok []) ∨
    ((n.plen : Int) ≤ q ∧ q ≤ (width n.ver : Nat) ∧ Subnet.subnet n q count = .error .value) ∨
    ((n.plen : Int) ≤ q ∧ q ≤ (width n.ver : Nat) ∧ ∃ c, 1 ≤ c ∧ c ≤ 2 ^ (q.toNat - n.plen) ∧
        Subnet.subnet n q count = .ok ((List.range c).map (C11.sub n q.toNat))) ∨
    ((width n.ver : Nat) < q ∧ ∃ e, Subnet.subnet n q count = .error e) := by
  by_cases h1 : q < n.plen
  · exact Or.inl ⟨h1, C11.subnet_shorter n hn q count h1⟩
  · by_cases h2 : q ≤ (width n.ver : Nat)
    · have h := subnet_within n hn q count (by omega) h2 _ rfl
      generalize count.getD ((2 ^ (q.toNat - n.plen) : Nat) : Int) = w at h
      generalize 2 ^ (q.toNat - n.plen) = M at h ⊢
      by_cases hc : 1 ≤ w ∧ w ≤ (M : Int)
      · exact Or.inr (Or.inr (Or.inl ⟨by omega, h2, w.toNat, by omega, by omega, h.trans (if_pos hc)⟩))
      · exact Or.inr (Or.inl ⟨by omega, h2, h.trans (if_neg hc)⟩)
    · exact Or.inr (Or.inr (Or.inr ⟨by omega, C11.subnet_beyond n hn q count (by omega)⟩))

/-! ### one turn of the loop of `extract_subnet`, by what `subnet()` answers for the block looked at -/

section
variable {s : List Net} {pfx : Int} {count : Option Int} {cidr : Net} (rest : List Net)

theorem extractLoop_error {e : Err} (h : Subnet.subnet cidr pfx count = .error e) :
    extractLoop s pfx count (cidr :: rest) = .error e := by
  simp only [extractLoop, h]

theorem extractLoop_skip (h : Subnet.subnet cidr pfx count = .ok []) :
    extractLoop s pfx count (cidr :: rest) = extractLoop s pfx count rest := by
  simp only [extractLoop, h, List.isEmpty_nil, ite_true]

theorem extractLoop_hit {subs : List Net} (hcs : cidr ∈ s) (h : Subnet.subnet cidr pfx count = .ok subs)
    (hne : subs ≠ []) :
    extractLoop s pfx count (cidr :: rest) = .ok (subs, unionSet (s.eraseP (keyEq cidr))
      ((subtractAll (width cidr.ver) ⟨cidr.val, cidr.plen⟩ (cidrMerge (toItems subs))).map
        (fun p => ⟨cidr.ver, p.val, p.plen⟩))) := by
  have hany : s.any (keyEq cidr) = true := List.any_eq_true.2 ⟨cidr, hcs, keyEq_refl cidr⟩
  simp only [extractLoop, h, List.isEmpty_eq_false_iff.2 hne, removeSubnet, hany, ite_true, Bool.false_eq_true,
    ite_false]

end

/-- The loop passes over the free blocks with a longer prefix than asked for (`subnet()` yields nothing
    for them) and is decided at the first other block, whatever comes after it. -/
theorem extractLoop_find (s : List Net) (pfx : Int) (count : Option Int) : ∀ (l : List Net), (∀ c ∈ l, c.WF) →
    (l.find? (fun c => decide ((c.plen : Int) ≤ pfx)) = none → extractLoop s pfx count l = .ok ([], s)) ∧
    (∀ cidr, l.find? (fun c => decide ((c.plen : Int) ≤ pfx)) = some cidr → cidr ∈ l ∧ (cidr.plen : Int) ≤ pfx ∧
      ∃ bs, extractLoop s pfx count l = extractLoop s pfx count (cidr :: bs))
  | [], _ => ⟨fun _ => rfl, nofun⟩
  | a :: l, hwf => by
    by_cases ha : (a.plen : Int) ≤ pfx
    · rw [List.find?_cons_of_pos (by simpa using ha)]
      refine ⟨nofun, fun cidr h => ?_⟩
      cases h
      exact ⟨List.mem_cons_self .., ha, l, rfl⟩
    · obtain ⟨ih1, ih2⟩ := extractLoop_find s pfx count l fun c hc => hwf c (List.mem_cons_of_mem _ hc)
      rw [List.find?_cons_of_neg (by simpa using ha),
        extractLoop_skip l (C11.subnet_shorter a (hwf a (List.mem_cons_self ..)) pfx count (Int.not_le.1 ha))]
      exact ⟨ih1, fun cidr h => ⟨List.mem_cons_of_mem _ (ih2 cidr h).1, (ih2 cidr h).2⟩⟩

/-- `extract_subnet`, by what `subnet()` answers for the block the loop stops at -/
theorem extractLoop_spec (hM : MergeExact) (b : Net) (hb : b.WF) (s g : List Net) (ht : Tiling b s g)
    (pfx : Int) (count : Option Int) :
    ∀ (l : List Net), (∀ c ∈ l, c ∈ s) →
      (∀ subs s', extractLoop s pfx count l = .ok (subs, s') →
          Tiling b s' (subs ++ g) ∧
          (∀ x ∈ subs, (x.plen : Int) = pfx ∧ x.val % 2 ^ (width b.ver - x.plen) = 0) ∧
          (subs = [] → s' = s)) ∧
      (∀ e, extractLoop s pfx count l = .error e → pfx ≤ (width b.ver : Nat) → e = .value) := by
  intro l hl
  have hok : ∀ c ∈ l, NOk b.ver c := fun c hc => ht.ok_free (hl c hc)
  obtain ⟨hnone, hsome⟩ := extractLoop_find s pfx count l fun c hc => nok_wf hb.1 (hok c hc)
  cases hf : l.find? (fun c => decide ((c.plen : Int) ≤ pfx)) with
  | none =>
    rw [hnone hf]
    refine ⟨fun subs s' h => ?_, nofun⟩
    obtain ⟨rfl, rfl⟩ := Prod.mk.inj (Except.ok.inj h)
    exact ⟨ht, nofun, fun _ => rfl⟩
  | some cidr =>
    obtain ⟨hcl, hp, rest, hrun⟩ := hsome cidr hf
    have hcs : cidr ∈ s := hl cidr hcl
    have hcv : cidr.ver = b.ver := (hok cidr hcl).1
    have hcwf : cidr.WF := nok_wf hb.1 (hok cidr hcl)
    rw [hrun]
    rcases subnet_cases cidr hcwf pfx count with ⟨hlt, _⟩ | ⟨_, _, hsub⟩ | ⟨hpq, hqw, c, hc1, hc2, hsub⟩ | ⟨hgt, e', hsub⟩
    · exact absurd hp (Int.not_le.2 hlt)
    · rw [extractLoop_error rest hsub]
      exact ⟨nofun, fun e h _ => (Except.error.inj h).symm⟩
    · have hne := map_range_ne_nil (C11.sub cidr pfx.toNat) c hc1
      rw [extractLoop_hit rest hcs hsub hne]
      refine ⟨fun subs s' h => ?_, nofun⟩
      obtain ⟨rfl, rfl⟩ := Prod.mk.inj (Except.ok.inj h)
      have hpq' : cidr.plen ≤ pfx.toNat := by omega
      have hqw' : pfx.toNat ≤ width b.ver := by rw [← hcv]; omega
      refine ⟨split_tiling hM b hb s g ht cidr hcs pfx.toNat hpq' hqw' c hc2, fun x hx => ?_, fun h => absurd h hne⟩
      obtain ⟨_, hpl, hal, _⟩ := (subs_facts cidr hcwf pfx.toNat hpq' (by rw [hcv]; exact hqw') c hc2).1 x hx
      rw [hcv] at hal
      rw [hpl]
      exact ⟨by omega, hal⟩
    · rw [extractLoop_error rest hsub]
      exact ⟨nofun, fun e _ hle => by rw [hcv] at hgt; omega⟩

end NV.C20L
