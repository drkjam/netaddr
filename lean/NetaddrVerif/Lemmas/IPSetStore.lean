/-
Lemmas/IPSetStore.lean — queries and binary operators as steps over the store of live sets:
the driver's faster evaluation (`evalQFast`, dictionary keys computed once per query) equals
the definitional one (`evalQ`); which slots a step can change (purity); exactly which queries
raise (totality); reading a slot of the store after a write.  No invariant is needed for any of
this: the file stands on Model/IPSet (and `Exc`) alone.  Most declarations stand in `NV.IPSet.Iter`, the
namespace IPSetIterAddrs, IPSetReprInj and this file share.
-/
import NetaddrVerif.Model.IPSet
import NetaddrVerif.Lemmas.Exc
namespace NV.IPSet

theorem iprange_error_iff (s : St) (e : Err) :
    iprange s = .error e ↔ e = .value ∧ iscontiguous s = false := by
  unfold iprange
  by_cases hc : iscontiguous s = true
  · rw [if_pos hc]
    cases iterCidrs s with
    | nil => simp [hc]
    | cons c rest => simp [hc]
  · rw [if_neg hc]
    simp only [Bool.not_eq_true] at hc
    simp only [Except.error.injEq, hc, and_true]
    exact eq_comm

theorem len_error_iff (maxint : Nat) (s : St) (e : Err) :
    len maxint s = .error e ↔ e = .index ∧ size s > maxint := by
  unfold len
  by_cases h : size s > maxint
  · rw [if_pos h]; simp only [Except.error.injEq, h, and_true]; exact eq_comm
  · rw [if_neg h]; simp only [h, and_false, reduceCtorEq]

theorem gt_eq_lt (s t : St) : gt s t = lt t s := rfl

/-- reading slot `j` after slot `i` was written (the list is padded with empty sets up to `i`) -/
theorem getSet_setSet (sets : List St) (i j : Nat) (s : St) :
    getSet (setSet sets i s) j = if j = i then s else getSet sets j := by
  unfold getSet setSet
  simp only [List.getD_eq_getElem?_getD, List.getElem?_set]
  by_cases e : j = i
  · subst e
    have hlen : j < (if sets.length ≤ j then sets ++ List.replicate (j + 1 - sets.length) [] else sets).length := by
      split
      · rw [List.length_append, List.length_replicate]; omega
      · omega
    rw [if_pos rfl, if_pos rfl, if_pos hlen]; rfl
  · rw [if_neg (Ne.symm e), if_neg e]
    split
    · -- reading the padded list: the padding is the default value
      rw [List.getElem?_append]
      split
      · rfl
      · rw [List.getElem?_replicate, List.getElem?_eq_none (by omega)]
        split <;> rfl
    · rfl

end NV.IPSet

namespace NV.IPSet.Iter
open NV NV.IPSet

/-! ### the faster spellings are equal to the definitions -/

theorem vrOf_beq (c k : Net) : (vrOf c == vrOf k) = keyEq c k := by
  unfold vrOf keyEq
  show ((c.ver == k.ver) && ((c.first == k.first) && (c.last == k.last))) = _
  rw [Bool.and_assoc]

theorem dMemK_eq (s : St) (k : Net) : dMemK (s.map vrOf) k = dMem s k := by
  unfold dMemK dMem
  simp only [List.any_map]
  congr 1
  funext c
  exact vrOf_beq c k

theorem containsK_eq (s : St) (n : Net) : containsK (s.map vrOf) n = contains s n := by
  unfold containsK contains
  congr 1
  funext q
  exact dMemK_eq s _

theorem issubsetK_eq (s t : St) : issubsetK s t = issubset s t := by
  unfold issubsetK issubset
  show (s.all fun c => containsK (t.map vrOf) c) = _
  congr 1
  funext c
  exact containsK_eq t c

theorem eqK_eq (s t : St) : eqK s t = IPSet.eq s t := by
  unfold eqK IPSet.eq
  show (s.length == t.length && s.all fun c => dMemK (t.map vrOf) c) = _
  congr 2
  funext c
  exact dMemK_eq t c

theorem issuperset_eq_issubset (s t : St) : issuperset s t = issubset t s := rfl

theorem evalQFast_eq (maxint : Nat) (sets : Store) (q : QOp) :
    evalQFast maxint sets q = evalQ maxint sets q := by
  cases q <;> simp only [evalQFast, evalQ, eqK_eq, issubsetK_eq, containsK_eq, IPSet.ne, IPSet.le, IPSet.ge,
    IPSet.lt, gt_eq_lt, issuperset_eq_issubset]

/-! ### steps over the store -/

theorem map_ok_iff {α β : Type} (f : α → β) (x : R α) (b : β) :
    x.map f = .ok b ↔ ∃ a, x = .ok a ∧ f a = b :=
  Exc.map_eq_ok

theorem evalQ_error_iff (maxint : Nat) (sets : Store) (q : QOp) (e : Err) :
    evalQ maxint sets q = .error e ↔
      (∃ i, q = .len i ∧ e = .index ∧ size (getSet sets i) > maxint) ∨
      (∃ i, q = .iprange i ∧ e = .value ∧ iscontiguous (getSet sets i) = false) := by
  cases q with
  | len i =>
    simp only [evalQ, Exc.map_eq_error, len_error_iff]
    constructor
    · rintro ⟨he, hc⟩; exact Or.inl ⟨i, rfl, he, hc⟩
    · rintro (⟨i', hq, he, hc⟩ | ⟨i', hq, _, _⟩)
      · injection hq with hq; subst hq; exact ⟨he, hc⟩
      · cases hq
  | iprange i =>
    simp only [evalQ, Exc.map_eq_error, iprange_error_iff]
    constructor
    · rintro ⟨he, hc⟩; exact Or.inr ⟨i, rfl, he, hc⟩
    · rintro (⟨i', hq, _, _⟩ | ⟨i', hq, he, hc⟩)
      · cases hq
      · injection hq with hq; subst hq; exact ⟨he, hc⟩
  | _ => simp [evalQ]

theorem runQs_eq (maxint : Nat) (sets : Store) (qs : List QOp) :
    runQs maxint sets qs = (sets, qs.map (evalQ maxint sets)) := by
  unfold runQs
  suffices h : ∀ (outs : List (R QVal)),
      qs.foldl (fun acc q => let r := stepQFast maxint acc.1 q; (r.1, acc.2 ++ [r.2])) (sets, outs) =
        (sets, outs ++ qs.map (evalQ maxint sets)) by simpa using h []
  induction qs with
  | nil => intro outs; simp
  | cons q qs ih =>
    intro outs
    rw [List.foldl_cons]
    show qs.foldl _ (sets, outs ++ [evalQFast maxint sets q]) = _
    rw [ih, evalQFast_eq]
    simp

theorem bin_other (sets : Store) (k i j : Nat) (o : BinOp) (m : Nat) (hm : m ≠ k) :
    getSet (stepOp sets (.bin k i j o)).1 m = getSet sets m := by
  show getSet (setSet sets k _) m = _
  rw [getSet_setSet, if_neg hm]

/-- slot `k` receives the operator applied to the operands as they were before the step -/
theorem bin_result (sets : Store) (k i j : Nat) (o : BinOp) :
    getSet (stepOp sets (.bin k i j o)).1 k = binOp o (getSet sets i) (getSet sets j) := by
  show getSet (setSet sets k _) k = _
  rw [getSet_setSet, if_pos rfl]

end NV.IPSet.Iter
