/-
Lemmas/C08LCtor.lean — the constructor's string side on ARBITRARY strings: what a pattern
captures is always a list of hex tokens inside the row's bounds, hence `str_to_int` has only one
error class and its values are in range; a final newline is invisible to the matcher; strings of
decimal digits that are not bare EUIs match nothing and are read by `int()`.  At the end, the
clauses of `ofAny` / `setExplicit` / `setImplicitStr` as equations (namespace `NV.Eui`).  Core only.
-/
import NetaddrVerif.Lemmas.C08LText
namespace NV.C08L.Ctor
open NV NV.Eui NV.Py NV.PyL NV.Codec NV.Gen

theorem matchFmt_captured {f : MacFmt} {s : List Char} {r : List (List Char)}
    (h : matchFmt f s = some r) : Captured f r := by
  rcases matchFmt_some h with h | h <;> exact ((matchExact_some_iff _ _ _).mp h).2

theorem firstMatch_captured {fmts : List MacFmt} {s : List Char} {r : List (List Char)}
    (h : firstMatch fmts s = some r) : ∃ f ∈ fmts, Captured f r := by
  unfold firstMatch at h
  obtain ⟨f, hf, hm⟩ := List.exists_of_findSome?_eq_some h
  exact ⟨f, hf, matchFmt_captured hm⟩

theorem joinWords_captured {padOf : Nat → Option Nat} {width : Nat} {f : MacFmt}
    (hok : rowOk padOf width f = true) {r : List (List Char)} (hc : Captured f r) :
    ∃ p v, padOf r.length = some p ∧ joinWords p r = some v ∧ v < 2 ^ width := by
  obtain ⟨_, hlo, hg, p, hp, hhi, hp1, hwid⟩ := rowOk_elim hok
  obtain ⟨hlen, htok⟩ := hc
  have hne : r ≠ [] := List.ne_nil_of_length_pos (hlen.symm ▸ hg)
  have hj := joinWords_spec hp1 hne (by
    intro t ht
    obtain ⟨a, b, c⟩ := htok t ht
    refine ⟨⟨?_, c⟩, tokVal_lt (Nat.le_trans b hhi)⟩
    intro e; rw [e] at a; simp only [List.length_nil] at a; omega)
  refine ⟨p, _, by rw [hlen]; exact hp, hj, ?_⟩
  have := beWordsValue_lt (k := 4 * p) (xs := r.map tokVal) (by
    intro x hx
    obtain ⟨t, ht, rfl⟩ := List.mem_map.mp hx
    have := tokVal_lt (Nat.le_trans (htok t ht).2.1 hhi)
    rw [Nat.pow_mul]; exact this)
  rwa [List.length_map, hlen, hwid] at this

/-- **`str_to_int` of either module on any string**: an AddrFormatError (nothing matches) or a
    value inside the width — never a ValueError of `int()` -/
theorem strToIntOf_total {fmts padOf width} (hrow : ∀ g ∈ fmts, rowOk padOf width g = true)
    (s : List Char) :
    strToIntOf fmts padOf s = .error .addrFormat ∨ ∃ v, strToIntOf fmts padOf s = .ok v ∧ v < 2 ^ width := by
  unfold strToIntOf
  cases hm : firstMatch fmts s with
  | none => exact Or.inl rfl
  | some r =>
    obtain ⟨f, hf, hc⟩ := firstMatch_captured hm
    obtain ⟨p, v, hp, hj, hv⟩ := joinWords_captured (hrow f hf) hc
    exact Or.inr ⟨v, by simp only [hp, hj], hv⟩

theorem strToIntOf_ok_iff {fmts padOf width} (hrow : ∀ g ∈ fmts, rowOk padOf width g = true)
    (s : List Char) : (∃ v, strToIntOf fmts padOf s = .ok v) ↔ (firstMatch fmts s).isSome = true := by
  cases hm : firstMatch fmts s with
  | none =>
    have : strToIntOf fmts padOf s = .error .addrFormat := by simp only [strToIntOf, hm]
    rw [this]
    exact ⟨fun h => h.elim (fun _ h => nomatch h), fun h => nomatch h⟩
  | some r =>
    obtain ⟨f, hf, hc⟩ := firstMatch_captured hm
    obtain ⟨p, v, hp, hj, _⟩ := joinWords_captured (hrow f hf) hc
    exact ⟨fun _ => rfl, fun _ => ⟨v, by simp only [strToIntOf, hm, hp, hj]⟩⟩

theorem strToInt48_total (s : List Char) :
    strToInt48 s = .error .addrFormat ∨ ∃ v, strToInt48 s = .ok v ∧ v < 2 ^ 48 :=
  strToIntOf_total rowOk48 s

theorem strToInt64_total (s : List Char) :
    strToInt64 s = .error .addrFormat ∨ ∃ v, strToInt64 s = .ok v ∧ v < 2 ^ 64 :=
  strToIntOf_total rowOk64 s

theorem strToInt_total (ver : Nat) (s : List Char) :
    strToInt ver s = .error .addrFormat ∨ ∃ v, strToInt ver s = .ok v := by
  unfold strToInt
  split
  · rcases strToInt48_total s with h | ⟨v, h, _⟩
    · exact Or.inl h
    · exact Or.inr ⟨v, h⟩
  · rcases strToInt64_total s with h | ⟨v, h, _⟩
    · exact Or.inl h
    · exact Or.inr ⟨v, h⟩

/-- catching only `AddrFormatError` (the code) = catching everything (`setExplicit`) -/
theorem setExplicitF_eq (ver : Nat) (a : AddrArg) : setExplicitF ver a = setExplicit ver a := by
  cases a with
  | int n => rfl
  | str s =>
    unfold setExplicitF setExplicit
    rcases strToInt_total ver s with h | ⟨v, h⟩ <;> simp only [h]

theorem ofAnyF_eq (a : AddrArg) (version : Option Int) : ofAnyF a version = ofAny a version := by
  unfold ofAnyF ofAny
  simp only [setExplicitF_eq]

theorem matchExact_newline (f : MacFmt) (hf : sepOk f = true) (s : List Char) (h : '\n' ∈ s) :
    matchExact f s = none := by
  cases hm : matchExact f s with
  | none => rfl
  | some r =>
    exfalso
    obtain ⟨hr, hc⟩ := (matchExact_some_iff f s r).mp hm
    -- the newline is not the separator, so it sits in one of the groups: but those are hex
    have : ∃ t ∈ r, '\n' ∈ t := by
      rw [← hr]
      unfold splitToks
      rcases sepOk_cases hf with hs | ⟨c, hs, _, hnl⟩
      · rw [hs]; exact ⟨s, List.mem_singleton_self s, h⟩
      · rw [hs]
        have hmem : '\n' ∈ [c].intercalate (s.splitOn c) := by rw [List.intercalate_splitOn]; exact h
        rcases mem_intercalate hmem with e | ⟨t, ht, hx⟩
        · exact absurd e.symm hnl
        · exact ⟨t, ht, hx⟩
    obtain ⟨t, ht, hx⟩ := this
    exact absurd ((hc.2 t ht).2.2 _ hx) (by decide)

/-- Python's `$`: a single final newline is invisible to every pattern -/
theorem matchFmt_newline (f : MacFmt) (hf : sepOk f = true) {s : List Char} (h : '\n' ∉ s) :
    matchFmt f (s ++ ['\n']) = matchFmt f s := by
  rw [matchFmt_eq f (fun x hx e => h (e ▸ hx))]
  unfold matchFmt
  rw [matchExact_newline f hf (s ++ ['\n']) (by simp)]
  simp only [List.getLast?_concat, if_true, List.dropLast_concat]

theorem firstMatch_newline (fmts : List MacFmt) (hf : ∀ f ∈ fmts, sepOk f = true) {s : List Char}
    (h : '\n' ∉ s) : firstMatch fmts (s ++ ['\n']) = firstMatch fmts s := by
  unfold firstMatch
  induction fmts with
  | nil => rfl
  | cons g t ih =>
    rw [List.findSome?_cons, List.findSome?_cons, matchFmt_newline g (hf g (by simp)) h,
      ih (fun f hm => hf f (by simp [hm]))]

theorem strToIntOf_newline {fmts padOf width} (hrow : ∀ g ∈ fmts, rowOk padOf width g = true)
    {s : List Char} (h : '\n' ∉ s) : strToIntOf fmts padOf (s ++ ['\n']) = strToIntOf fmts padOf s := by
  unfold strToIntOf
  rw [firstMatch_newline _ (fun g hg => (rowOk_elim (hrow g hg)).1) h]

def DecStr (s : List Char) : Prop := s ≠ [] ∧ ∀ c ∈ s, ('0' ≤ c ∧ c ≤ '9')

theorem dec_digitVal (c : Char) (h : '0' ≤ c ∧ c ≤ '9') : ∃ d, digitVal 10 c = some d ∧ digitVal 16 c = some d := by
  have h2 : c.toNat ≤ 57 := Char.le_def.mp h.2
  exact ⟨_, digitVal_dec h (by omega), digitVal_dec h (by omega)⟩

theorem dec_isHex (c : Char) (h : '0' ≤ c ∧ c ≤ '9') : isHex c = true := by
  obtain ⟨d, _, hd⟩ := dec_digitVal c h
  exact (isHex_iff c).mpr ⟨d, hd⟩

theorem pyInt10_dec (s : List Char) (h : DecStr s) : pyInt 10 s = some ((digitsNat 10 s 0 : Nat) : Int) := by
  refine pyInt_digits 10 s h.1 (fun c hc => ?_)
  obtain ⟨d, hd, _⟩ := dec_digitVal c (h.2 c hc); exact ⟨d, hd⟩

theorem DecStr.hexTok {s : List Char} (h : DecStr s) : HexTok s :=
  ⟨h.1, fun c hc => dec_isHex c (h.2 c hc)⟩

theorem strToIntOf_bare_none {fmts padOf width} (hrow : ∀ g ∈ fmts, rowOk padOf width g = true)
    {s : List Char} (h : HexTok s) (hx : ∀ g ∈ fmts, g.groups = 1 → g.hi < s.length ∨ s.length < g.lo) :
    strToIntOf fmts padOf s = .error .addrFormat := by
  obtain ⟨hsp, he⟩ := tok_spelling s h
  have := strToIntOf_foreign hrow hsp ⟨[], 1, s.length, s.length⟩ rfl
    (fun t ht => by rw [List.mem_singleton.mp ht]; exact ⟨Nat.le_refl _, Nat.le_refl _⟩) hx
  rwa [he] at this

theorem bare_rows48 : ∀ g ∈ macFormats, g.groups = 1 → (g.lo = 12 ∧ g.hi = 12) ∨ (g.lo = 11 ∧ g.hi = 11) := by decide
theorem bare_rows64 : ∀ g ∈ eui64Formats, g.groups = 1 → g.lo = 16 ∧ g.hi = 16 := by decide

theorem dec_no_mac {s : List Char} (h : DecStr s) (hl : s.length ≠ 11 ∧ s.length ≠ 12) :
    strToInt48 s = .error .addrFormat :=
  strToIntOf_bare_none rowOk48 h.hexTok (fun g hg h1 => by
    rcases bare_rows48 g hg h1 with ⟨a, b⟩ | ⟨a, b⟩ <;> omega)

theorem dec_no_eui64 {s : List Char} (h : DecStr s) (hl : s.length ≠ 16) :
    strToInt64 s = .error .addrFormat :=
  strToIntOf_bare_none rowOk64 h.hexTok (fun g hg h1 => by
    have := bare_rows64 g hg h1
    omega)

theorem stripWs_concat_ws (s : List Char) (x : Char) (hx : isWs x = true) : stripWs (s ++ [x]) = stripWs s := by
  unfold stripWs
  rw [List.dropWhile_append]
  by_cases he : (s.dropWhile isWs).isEmpty = true
  · have : s.dropWhile isWs = [] := List.isEmpty_iff.mp he
    simp [this, hx]
  · simp only [he, Bool.false_eq_true, if_false, List.reverse_append, List.reverse_cons, List.reverse_nil,
      List.nil_append, List.cons_append, List.dropWhile_cons, hx, if_true]

theorem pyInt_newline (base : Nat) (s : List Char) : pyInt base (s ++ ['\n']) = pyInt base s := by
  unfold pyInt
  rw [stripWs_concat_ws s '\n' (by decide), List.any_append]
  simp

end NV.C08L.Ctor

namespace NV.Eui
open NV.C08L.Ctor

/-- the version test of the constructor as one equation; the three cases below are what it gives -/
theorem ofAny_some (a : AddrArg) (k : Int) : ofAny a (some k) =
    if k = 48 then setExplicit 48 a else if k = 64 then setExplicit 64 a else .error .value := by
  by_cases h1 : k = 48
  · subst h1; rfl
  · by_cases h2 : k = 64
    · subst h2; rfl
    · rw [if_neg h1, if_neg h2]
      exact if_neg (by omega)

theorem ofAny_some48 (a : AddrArg) : ofAny a (some 48) = setExplicit 48 a := rfl

theorem ofAny_some64 (a : AddrArg) : ofAny a (some 64) = setExplicit 64 a := rfl

theorem ofAny_badver (a : AddrArg) {k : Int} (h : ¬ (k = 48 ∨ k = 64)) : ofAny a (some k) = .error .value := by
  rw [ofAny_some, if_neg (fun e => h (.inl e)), if_neg (fun e => h (.inr e))]

theorem ofAny_int_none (n : Int) : ofAny (.int n) none =
    if 0 ≤ n ∧ n ≤ 0xffffffffffff then setExplicit 48 (.int n)
    else if 0xffffffffffff < n ∧ n ≤ 0xffffffffffffffff then setExplicit 64 (.int n)
    else .error .type_ := rfl

theorem setExplicit48_int (n : Int) : setExplicit 48 (.int n) =
    if 0 ≤ n ∧ n ≤ 0xffffffffffff then .ok (48, n.toNat) else .error .addrFormat := rfl

theorem setExplicit64_int (n : Int) : setExplicit 64 (.int n) =
    if 0 ≤ n ∧ n ≤ 0xffffffffffffffff then .ok (64, n.toNat) else .error .addrFormat := rfl

theorem setExplicit_str (ver : Nat) (s : List Char) : setExplicit ver (.str s) =
    match strToInt ver s with
    | .ok v => .ok (ver, v)
    | .error _ => .error .addrFormat := rfl

theorem ofAny_str48 {s : List Char} {r : R Nat} (h : strToInt48 s = r) : ofAny (.str s) (some 48) =
    match (generalizing := false) r with
    | .ok v => .ok (48, v)
    | .error _ => .error .addrFormat := by
  subst h
  rw [ofAny_some48, setExplicit_str, show strToInt 48 s = strToInt48 s from rfl]

theorem ofAny_str64 {s : List Char} {r : R Nat} (h : strToInt64 s = r) : ofAny (.str s) (some 64) =
    match (generalizing := false) r with
    | .ok v => .ok (64, v)
    | .error _ => .error .addrFormat := by
  subst h
  rw [ofAny_some64, setExplicit_str, show strToInt 64 s = strToInt64 s from rfl]

theorem setImplicitStr_48 {s : List Char} {v : Nat} (h : strToInt48 s = .ok v) :
    setImplicitStr s = .ok (48, v) := by
  simp only [setImplicitStr, h]

theorem setImplicitStr_64 {s : List Char} {v : Nat} (h48 : strToInt48 s = .error .addrFormat)
    (h : strToInt64 s = .ok v) : setImplicitStr s = .ok (64, v) := by
  simp only [setImplicitStr, h48, h]

theorem ofAny_of_str48 {s : List Char} {v : Nat} (h : strToInt48 s = .ok v) :
    ofAny (.str s) none = .ok (48, v) ∧ ofAny (.str s) (some 48) = .ok (48, v) :=
  ⟨setImplicitStr_48 h, ofAny_str48 h⟩

theorem ofAny_of_str64 {s : List Char} {v : Nat} (h48 : strToInt48 s = .error .addrFormat)
    (h : strToInt64 s = .ok v) :
    ofAny (.str s) none = .ok (64, v) ∧ ofAny (.str s) (some 64) = .ok (64, v) :=
  ⟨setImplicitStr_64 h48 h, ofAny_str64 h⟩

theorem setImplicitStr_int {s : List Char} (h48 : strToInt48 s = .error .addrFormat)
    (h64 : strToInt64 s = .error .addrFormat) :
    setImplicitStr s = match Py.pyInt 10 s with
      | none => .error .addrFormat
      | some n =>
        if 0 ≤ n ∧ n ≤ 0xffffffffffff then .ok (48, n.toNat)
        else if 0 ≤ n ∧ n ≤ 0xffffffffffffffff then .ok (64, n.toNat)
        else .error .addrFormat := by
  simp only [setImplicitStr, h48, h64]
  rfl

/-! ### which exception: the `version` argument by cases, and the two setters raise AddrFormatError only -/

theorem version_cases (ver : Option Int) :
    (∃ k, ver = some k ∧ k ≠ 48 ∧ k ≠ 64) ∨ ver = none ∨ ver = some 48 ∨ ver = some 64 := by
  cases ver with
  | none => exact Or.inr (Or.inl rfl)
  | some k =>
    by_cases h1 : k = 48
    · exact Or.inr (Or.inr (Or.inl (h1 ▸ rfl)))
    · by_cases h2 : k = 64
      · exact Or.inr (Or.inr (Or.inr (h2 ▸ rfl)))
      · exact Or.inl ⟨k, rfl, h1, h2⟩

theorem setExplicit_err {ver : Nat} {a : AddrArg} {e : Err} (h : setExplicit ver a = .error e) : e = .addrFormat := by
  cases a <;>
  · simp only [setExplicit] at h
    split at h
    · cases h
    · exact (Except.error.inj h).symm

theorem setImplicitStr_err {s : List Char} {e : Err} (h : setImplicitStr s = .error e) : e = .addrFormat := by
  rcases strToInt48_total s with h48 | ⟨v, h48, _⟩
  · rcases strToInt64_total s with h64 | ⟨w, h64, _⟩
    · rw [setImplicitStr_int h48 h64] at h
      split at h
      · exact (Except.error.inj h).symm
      · split at h
        · cases h
        · split at h
          · cases h
          · exact (Except.error.inj h).symm
    · rw [setImplicitStr_64 h48 h64] at h; cases h
  · rw [setImplicitStr_48 h48] at h; cases h

end NV.Eui
