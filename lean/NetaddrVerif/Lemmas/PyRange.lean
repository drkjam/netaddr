/-
Lemmas/PyRange.lean — the modelled CPython runtime of Model/PyRuntime: `range` in closed form without its
emptiness test, what it contains, its unit-step instances, and the bounds of `slice.indices`, so that
`range(*slice(a, b, c).indices(n))` only addresses positions of a list of length `n`.  Used by C10 (ranged
objects) and C08 (EUI words); namespace `NV.ListLike`.
-/
import NetaddrVerif.Model.PyRuntime
namespace NV.ListLike
open NV

/-! ### `range` in closed form -/

/-- number of steps of size `d > 0` that start inside a stretch of length `m`: `⌈m / d⌉`, none for `m ≤ 0` -/
def steps (m d : Int) : Nat := ((m + d - 1) / d).toNat

theorem steps_nonpos (m d : Int) (hd : 0 < d) (hm : m ≤ 0) : steps m d = 0 := by
  have : (m + d - 1) / d < 1 := (Int.ediv_lt_iff_lt_mul hd).2 (by omega)
  unfold steps; omega

theorem steps_one (k : Nat) : steps (k : Int) 1 = k := by
  unfold steps; rw [Int.ediv_one]; omega

theorem mul_lt_of_lt_steps (m d : Int) (i : Nat) (hd : 0 < d) (hi : i < steps m d) : d * (i : Int) < m := by
  have h : ((i : Int) + 1) * d ≤ m + d - 1 := (Int.le_ediv_iff_mul_le hd).1 (by unfold steps at hi; omega)
  rw [Int.add_mul, Int.mul_comm] at h
  omega

/-- `range(a, e, s)` for `s > 0`; the emptiness test of `Py.pyRange` is redundant (`steps` is 0 then) -/
theorem pyRange_pos (a e s : Int) (hs : 0 < s) :
    Py.pyRange a e s = (List.range (steps (e - a) s)).map (fun (i : Nat) => a + s * (i : Int)) := by
  rw [Py.pyRange, if_pos hs]
  split
  · rw [steps_nonpos _ _ hs (by omega)]; rfl
  · rfl

theorem pyRange_neg (a e s : Int) (hs : s < 0) :
    Py.pyRange a e s = (List.range (steps (a - e) (-s))).map (fun (i : Nat) => a + s * (i : Int)) := by
  rw [Py.pyRange, if_neg (Int.not_lt.mpr (Int.le_of_lt hs)), if_pos hs]
  split
  · rw [steps_nonpos _ _ (Int.neg_pos_of_neg hs) (by omega)]; rfl
  · rfl

theorem mem_pyRange (start stop step : Int) (v : Int) (h : v ∈ Py.pyRange start stop step) :
    (0 < step ∧ start ≤ v ∧ v < stop) ∨ (step < 0 ∧ v ≤ start ∧ stop < v) := by
  rcases Int.lt_trichotomy step 0 with hs | rfl | hs
  · rw [pyRange_neg _ _ _ hs] at h
    obtain ⟨i, hi, rfl⟩ := List.mem_map.1 h
    have h1 := mul_lt_of_lt_steps _ _ i (Int.neg_pos_of_neg hs) (List.mem_range.1 hi)
    have h0 := Int.mul_nonneg (Int.le_of_lt (Int.neg_pos_of_neg hs)) (Int.natCast_nonneg i)
    rw [Int.neg_mul] at h0 h1
    exact Or.inr ⟨hs, by omega, by omega⟩
  · exact nomatch h
  · rw [pyRange_pos _ _ _ hs] at h
    obtain ⟨i, hi, rfl⟩ := List.mem_map.1 h
    have h1 := mul_lt_of_lt_steps _ _ i hs (List.mem_range.1 hi)
    have h0 := Int.mul_nonneg (Int.le_of_lt hs) (Int.natCast_nonneg i)
    exact Or.inl ⟨hs, by omega, by omega⟩

theorem pyRange_one (a : Int) (k : Nat) :
    Py.pyRange a (a + k) 1 = (List.range k).map (fun (i : Nat) => a + 1 * (i : Int)) := by
  rw [pyRange_pos _ _ _ (by decide), show a + (k : Int) - a = k by omega, steps_one]

theorem pyRange_up (n : Nat) : Py.pyRange 0 (n : Int) 1 = (List.range n).map (fun (i : Nat) => (i : Int)) := by
  have := pyRange_one 0 n
  rw [Int.zero_add] at this
  rw [this]
  exact List.map_congr_left fun i _ => by omega

theorem pyRange_down (n : Nat) :
    Py.pyRange ((n : Int) - 1) (-1) (-1) = (List.range n).map (fun (i : Nat) => (n : Int) - 1 - (i : Int)) := by
  rw [pyRange_neg _ _ _ (by decide), show (n : Int) - 1 - -1 = n by omega, show -(-1 : Int) = 1 from rfl, steps_one]
  exact List.map_congr_left fun i _ => by omega

/-! ### `slice.indices` -/

/-- `slice.indices` clamps a given component into `[lower, upper]` -/
theorem clamp_bounds (x len lower upper : Int) (hl : lower ≤ 0) (hu : len - 1 ≤ upper) (hlu : lower ≤ upper) :
    lower ≤ (if x < 0 then (if x + len < lower then lower else x + len) else (if x > upper then upper else x)) ∧
    (if x < 0 then (if x + len < lower then lower else x + len) else (if x > upper then upper else x)) ≤ upper := by
  split
  · split
    · exact ⟨Int.le_refl _, hlu⟩
    · exact ⟨Int.not_lt.1 ‹_›, by omega⟩
  · split
    · exact ⟨hlu, Int.le_refl _⟩
    · exact ⟨Int.le_trans hl (Int.not_lt.1 ‹_›), Int.not_lt.1 ‹_›⟩

theorem sliceIndices_bounds (a b c : Option Int) (n : Nat) (s e st : Int)
    (h : Py.sliceIndices a b c n = some (s, e, st)) :
    (0 < st ∧ 0 ≤ s ∧ e ≤ n) ∨ (st < 0 ∧ -1 ≤ e ∧ s ≤ n - 1) := by
  unfold Py.sliceIndices at h
  by_cases h0 : c.getD 1 = 0
  · simp only [h0, if_true] at h
    cases h
  · by_cases hn : c.getD 1 < 0
    · simp only [h0, hn, if_true, if_false, Option.some.injEq, Prod.mk.injEq] at h
      obtain ⟨rfl, rfl, rfl⟩ := h
      have hc := fun x => clamp_bounds x n (-1) (n - 1) (by decide) (Int.le_refl _)
        (Int.sub_le_sub_right (Int.natCast_nonneg n) 1)
      refine Or.inr ⟨hn, ?_, ?_⟩
      · cases b with
        | none => exact Int.le_refl _
        | some x => exact (hc x).1
      · cases a with
        | none => exact Int.le_refl _
        | some x => exact (hc x).2
    · simp only [h0, hn, if_false, Option.some.injEq, Prod.mk.injEq] at h
      obtain ⟨rfl, rfl, rfl⟩ := h
      have hc := fun x => clamp_bounds x n 0 n (Int.le_refl _) (Int.sub_le_self _ (by decide)) (Int.natCast_nonneg n)
      refine Or.inl ⟨by omega, ?_, ?_⟩
      · cases a with
        | none => exact Int.le_refl _
        | some x => exact (hc x).1
      · cases b with
        | none => exact Int.le_refl _
        | some x => exact (hc x).2

theorem sliceIdx_in_range (a b c : Option Int) (n : Nat) (s e st : Int)
    (h : Py.sliceIndices a b c n = some (s, e, st)) :
    ∀ v ∈ Py.pyRange s e st, 0 ≤ v ∧ v < (n : Int) := by
  intro v hv
  have hm := mem_pyRange s e st v hv
  have hb := sliceIndices_bounds a b c n s e st h
  omega

theorem sliceIndices_nat (a b n : Nat) (ha : a ≤ n) (hb : b ≤ n) :
    Py.sliceIndices (some (a : Int)) (some (b : Int)) none n = some ((a : Int), (b : Int), 1) := by
  simp only [Py.sliceIndices, Option.getD_none, show ¬ ((1 : Int) = 0) by decide, if_false, show ¬ ((1 : Int) < 0) by decide]
  rw [if_neg (Int.not_lt.2 (Int.natCast_nonneg a)), if_neg (Int.not_lt.2 (Int.ofNat_le.2 ha)),
    if_neg (Int.not_lt.2 (Int.natCast_nonneg b)), if_neg (Int.not_lt.2 (Int.ofNat_le.2 hb))]

theorem sliceIndices_none_iff (a b c : Option Int) (n : Nat) :
    Py.sliceIndices a b c n = none ↔ c = some 0 := by
  unfold Py.sliceIndices
  show (if c.getD 1 = 0 then none else _) = none ↔ _
  by_cases h0 : c.getD 1 = 0
  · rw [if_pos h0]
    refine ⟨fun _ => ?_, fun _ => rfl⟩
    cases c with
    | none => exact absurd h0 (by decide)
    | some x => exact congrArg some h0
  · rw [if_neg h0]
    refine ⟨fun h => ?_, fun h => absurd (by rw [h]; rfl) h0⟩
    split at h
    cases h

end NV.ListLike
