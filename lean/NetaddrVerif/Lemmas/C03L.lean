/-
Lemmas/C03L.lean — helper lemmas for C03: the forms of the version argument, splitting at '/', the strict-mode
`IPAddress(·, version, INET_PTON)`, what the generated tables hold at a prefix, `resolvePrefix` input form by input
form, and `IPNetwork.__init__` as a wrapper round `parse_ip_network`.
-/
import NetaddrVerif.Lemmas.C03LInt
import NetaddrVerif.Lemmas.C01LCtor
import NetaddrVerif.Lemmas.C01LCross
import NetaddrVerif.Lemmas.NetworkL
import NetaddrVerif.Model.NetParse
namespace NV.C03L
open NV NV.Text4 NV.AddrParse NV.NetParse NV.C01L

def VerOK (ver : Nat) : Prop := ver = 4 ∨ ver = 6

theorem width4_int : (width 4 : Int) = 32 := rfl
theorem width6_int : (width 6 : Int) = 128 := rfl

theorem pver_some (ver : Nat) (hver : VerOK ver) : some ver = none ∨ some ver = some 4 ∨ some ver = some 6 := by
  rcases hver with rfl | rfl
  · exact Or.inr (Or.inl rfl)
  · exact Or.inr (Or.inr rfl)

/-- the version argument as the accepting statements have it, in the form the rejecting ones have -/
theorem pver_of (ver : Nat) (hver : VerOK ver) (pver : Option Nat) (h : pver = none ∨ pver = some ver) :
    pver = none ∨ pver = some 4 ∨ pver = some 6 :=
  h.elim Or.inl fun e => e ▸ pver_some ver hver

theorem pver_cases (pver : Option Nat) (h : pver = none ∨ pver = some 4 ∨ pver = some 6) :
    pver = none ∨ ∃ ver, VerOK ver ∧ pver = some ver := by
  rcases h with e | e | e
  · exact Or.inl e
  · exact Or.inr ⟨4, Or.inl rfl, e⟩
  · exact Or.inr ⟨6, Or.inr rfl, e⟩

theorem splitSlash_app (a t : List Char) (ha : a.contains '/' = false) : splitSlash (a ++ '/' :: t) = (a, some t) := by
  have hc : (a ++ '/' :: t).contains '/' = true := by simp
  have hcut := cut_append_cons (not_mem_of_contains_false ha) t
  unfold splitSlash
  rw [hc, if_pos rfl, hcut.1, hcut.2]
  rfl

theorem splitSlash_none (a : List Char) (ha : a.contains '/' = false) : splitSlash a = (a, none) := by
  unfold splitSlash; rw [ha]; rfl

theorem first_slash (s : List Char) (h : s.contains '/' = true) :
    ∃ a t, s = a ++ '/' :: t ∧ a.contains '/' = false :=
  let ⟨a, t, e, ha⟩ := List.eq_append_cons_of_mem (List.contains_iff_mem.mp h)
  ⟨a, t, e, contains_false_of_not_mem ha⟩

theorem splitSlash_fst (s : List Char) : (splitSlash s).1.contains '/' = false := by
  cases h : s.contains '/' with
  | false => rw [splitSlash_none s h]; exact h
  | true =>
    obtain ⟨a, t, rfl, ha⟩ := first_slash s h
    rw [splitSlash_app a t ha]; exact ha

theorem addr_noslash (be : Backend) (ver : Nat) (hver : VerOK ver) (v : Nat) (hv : v < 2 ^ width ver) :
    (intToStr be ver v).contains '/' = false := by
  rcases hver with h | h <;> subst h
  · exact slash_not_in_ntoa v
  · exact text6_noslash be .compact v hv

theorem ipAddress4_strict (be : Backend) (x : List Char) (hx : x.contains '/' = false) :
    ipAddress be x (some 4) INET_PTON =
      match inetPton4 be x with | some v => .ok ⟨4, v⟩ | none => .error .addrFormat := by
  rw [Raw.ipAddress_some4, Raw.body4_strict be x INET_PTON ⟨rfl, rfl⟩, Raw.ctor_noslash hx]
  cases inetPton4 be x <;> rfl

theorem ipAddress6_strict (be : Backend) (x : List Char) (hx : x.contains '/' = false) :
    ipAddress be x (some 6) INET_PTON =
      match inetPton6 be x with | some v => .ok ⟨6, v⟩ | none => .error .addrFormat := by
  rw [Raw.ipAddress_some6, Raw.ctor_noslash hx]
  cases inetPton6 be x <;> rfl

theorem ipAddress_print (be : Backend) (ver : Nat) (hver : VerOK ver) (v : Nat) (hv : v < 2 ^ width ver) :
    ipAddress be (intToStr be ver v) (some ver) INET_PTON = .ok ⟨ver, v⟩ := by
  rcases hver with rfl | rfl
  · show ipAddress be (ntoa v) (some 4) INET_PTON = _
    rw [ipAddress4_strict be _ (slash_not_in_ntoa v), (inetPton4_iff be _ v).mpr ⟨hv, rfl⟩]
  · show ipAddress be (intToStr6 be .compact v) (some 6) INET_PTON = _
    rw [ipAddress6_strict be _ (text6_noslash be .compact v hv), text6_parse be .compact v hv]

theorem pton6_lt (s : List Char) (v : Nat) (h : Text6.pton6 s = some v) : v < 2 ^ 128 :=
  C01G.rfc4291_lt s v ((C01G.pton6_iff_rfc4291 s v).mp h)

theorem strict_noslash (be : Backend) (ver : Nat) (t : List Char) (a : Addr)
    (h : ipAddress be t (some ver) INET_PTON = .ok a) : t.contains '/' = false :=
  contains_false_of_not_mem (Raw.noslash_of_ok h)

theorem ipAddress_ok_lt (be : Backend) (t : List Char) (ver : Nat) (hver : VerOK ver) (a : Addr)
    (h : ipAddress be t (some ver) INET_PTON = .ok a) : a.ver = ver ∧ a.val < 2 ^ width ver :=
  have hw := Raw.ipAddress_wf be t (some ver) INET_PTON a h
  have hv := hw.2.2 ver rfl
  ⟨hv, hv ▸ hw.1.2⟩

theorem addr6_colon (be : Backend) (v : Nat) (hv : v < 2 ^ 128) : ':' ∈ intToStr be 6 v := by
  obtain ⟨pre, r, he, _⟩ := text6_shape be .compact v hv
  show ':' ∈ intToStr6 be .compact v
  rw [he]; simp

theorem addr4_dot (v : Nat) : '.' ∈ ntoa v := by rw [ntoa_eq]; simp [List.intercalate]

theorem pyInt_addr (be : Backend) (ver : Nat) (hver : VerOK ver) (v : Nat) (hv : v < 2 ^ width ver) :
    Py.pyInt 10 (intToStr be ver v) = none := by
  rcases hver with h | h <;> subst h
  · exact pyInt_dot _ (addr4_dot v)
  · exact pyInt_colon _ (addr6_colon be v hv)

/-! ### the generated tables: at prefix `p` they hold the masks of `p` (`C02.tables_invert`, said of `List.lookup`) -/

theorem lookup_prefixToNetmask (ver : Nat) (hver : VerOK ver) (p : Nat) (hp : p ≤ width ver) :
    (prefixToNetmask ver).lookup p = some (netNetmask (width ver) p) := by
  rw [← lookup_eq]
  rcases hver with rfl | rfl
  · exact (C02.tables_invert.1 p hp).2.2.1
  · exact (C02.tables_invert.2 p hp).2.2.1

theorem lookup_netmaskToPrefix (ver : Nat) (hver : VerOK ver) (p : Nat) (hp : p ≤ width ver) :
    (netmaskToPrefix ver).lookup (netNetmask (width ver) p) = some p := by
  rw [← lookup_eq]
  rcases hver with rfl | rfl
  · exact (C02.tables_invert.1 p hp).1
  · exact (C02.tables_invert.2 p hp).1

theorem lookup_hostmaskToPrefix (ver : Nat) (hver : VerOK ver) (p : Nat) (hp : p ≤ width ver) :
    (hostmaskToPrefix ver).lookup (netHostmask (width ver) p) = some p := by
  rw [← lookup_eq]
  rcases hver with rfl | rfl
  · exact (C02.tables_invert.1 p hp).2.1
  · exact (C02.tables_invert.2 p hp).2.1

/-- the tables answer for every mask the predicates accept: the `KeyError` branches of `resolvePrefix` are dead -/
theorem lookup_netmask (ver : Nat) (hver : VerOK ver) (m : Nat) (hm : m < 2 ^ width ver)
    (h : isNetmask (width ver) m = true) : ∃ p, p ≤ width ver ∧ (netmaskToPrefix ver).lookup m = some p := by
  obtain ⟨p, hp, rfl⟩ := (C02.isNetmask_iff (width ver) m hm).mp h
  exact ⟨p, hp, lookup_netmaskToPrefix ver hver p hp⟩

theorem lookup_hostmask (ver : Nat) (hver : VerOK ver) (m : Nat) (hm : m < 2 ^ width ver)
    (h : isHostmask m = true) : ∃ p, p ≤ width ver ∧ (hostmaskToPrefix ver).lookup m = some p := by
  obtain ⟨p, hp, rfl⟩ := (isHostmask_iff_le (width ver) m hm).mp h
  exact ⟨p, hp, lookup_hostmaskToPrefix ver hver p hp⟩

/-- the mask predicates and the generated tables at prefix `p` (both masks in range and recognised,
    the lookups mask ↔ `p`), as one Boolean
    (`maskFacts4`, `maskFacts6` say it of every prefix of their family; nothing evaluates it and no proof
    uses them: proofs take the lemmas above, of which `maskFacts_all` assembles it) -/
def maskFacts (ver w p : Nat) : Bool :=
  decide (netNetmask w p < 2 ^ w) && decide (netHostmask w p < 2 ^ w) &&
  isNetmask w (netNetmask w p) && isHostmask (netHostmask w p) &&
  (decide (p = 0 ∨ p = w) || !isNetmask w (netHostmask w p)) &&
  ((netmaskToPrefix ver).lookup (netNetmask w p) == some p) &&
  ((hostmaskToPrefix ver).lookup (netHostmask w p) == some p) &&
  ((prefixToNetmask ver).lookup p == some (netNetmask w p)) &&
  ((netmaskToPrefix ver).lookup (netHostmask w 0) == some w) &&
  ((netmaskToPrefix ver).lookup (netHostmask w w) == some 0) &&
  isNetmask w (netHostmask w 0) && isNetmask w (netHostmask w w)

theorem maskFacts_all (ver : Nat) (hver : VerOK ver) (p : Nat) (hp : p ≤ width ver) :
    maskFacts ver (width ver) p = true := by
  have h5 : (decide (p = 0 ∨ p = width ver) || !isNetmask (width ver) (netHostmask (width ver) p)) = true := by
    by_cases h : p = 0 ∨ p = width ver
    · rw [decide_eq_true h]; rfl
    · rw [Bool.eq_false_iff.mpr (mt (isNetmask_netHostmask _ p hp).mp h)]; exact Bool.or_true _
  unfold maskFacts
  rw [h5, hostmask_zero, hostmask_full, decide_eq_true (netNetmask_lt _ p), decide_eq_true (netHostmask_lt _ p),
    isNetmask_netNetmask _ p hp, isNetmask_netNetmask _ _ (Nat.le_refl _), isNetmask_netNetmask _ 0 (Nat.zero_le _),
    isHostmask_netHostmask, lookup_netmaskToPrefix ver hver p hp, lookup_netmaskToPrefix ver hver _ (Nat.le_refl _),
    lookup_netmaskToPrefix ver hver 0 (Nat.zero_le _), lookup_hostmaskToPrefix ver hver p hp,
    lookup_prefixToNetmask ver hver p hp]
  simp only [beq_self_eq_true, Bool.and_self]

theorem maskFacts4 : ∀ p, p < 33 → maskFacts 4 32 p = true :=
  fun p hp => maskFacts_all 4 (Or.inl rfl) p (Nat.le_of_lt_succ hp)
theorem maskFacts6 : ∀ p, p < 129 → maskFacts 6 128 p = true :=
  fun p hp => maskFacts_all 6 (Or.inr rfl) p (Nat.le_of_lt_succ hp)

theorem applyNohost_ok (ver : Nat) (hver : VerOK ver) (fl v p : Nat) (hp : p ≤ width ver) :
    applyNohost ver fl v p =
      .ok (if hasFlag fl NOHOST then v &&& netNetmask (width ver) p else v, p) := by
  unfold applyNohost
  rw [lookup_prefixToNetmask ver hver p hp]
  split <;> rfl

theorem resolve_none (be : Backend) (ver : Nat) : resolvePrefix be ver none = .ok (width ver : Int) := rfl

theorem resolve_int (be : Backend) (ver : Nat) (t : List Char) (q : Int) (h : Py.pyInt 10 t = some q) :
    resolvePrefix be ver (some t) = .ok q := by
  simp only [resolvePrefix, h]

/-- any text the strict reader takes for `m` (`hpi` follows from `hip`: `Acc.strict_pyInt_none`) -/
theorem resolve_strict (be : Backend) (ver : Nat) (t : List Char) (m : Nat) (hpi : Py.pyInt 10 t = none)
    (hip : ipAddress be t (some ver) INET_PTON = .ok ⟨ver, m⟩) :
    resolvePrefix be ver (some t) =
      if isNetmask (width ver) m then
        (match (netmaskToPrefix ver).lookup m with | some p => .ok (p : Int) | none => .error .key)
      else if isHostmask m then
        (match (hostmaskToPrefix ver).lookup m with | some p => .ok (p : Int) | none => .error .key)
      else .error .addrFormat := by
  unfold resolvePrefix
  simp only [hpi, hip]
  split <;> rfl

theorem resolve_neither (be : Backend) (ver : Nat) (t : List Char) (e : Err) (hpi : Py.pyInt 10 t = none)
    (hip : ipAddress be t (some ver) INET_PTON = .error e) : resolvePrefix be ver (some t) = .error e := by
  simp only [resolvePrefix, hpi, hip]

theorem resolve_dec (be : Backend) (ver p : Nat) : resolvePrefix be ver (some (dec p)) = .ok (p : Int) :=
  resolve_int be ver _ _ (pyInt_dec p)

theorem resolve_mask (be : Backend) (ver : Nat) (hver : VerOK ver) (m : Nat) (hm : m < 2 ^ width ver) :
    resolvePrefix be ver (some (intToStr be ver m)) =
      if isNetmask (width ver) m then
        (match (netmaskToPrefix ver).lookup m with | some p => .ok (p : Int) | none => .error .key)
      else if isHostmask m then
        (match (hostmaskToPrefix ver).lookup m with | some p => .ok (p : Int) | none => .error .key)
      else .error .addrFormat :=
  resolve_strict be ver _ m (pyInt_addr be ver hver m hm) (ipAddress_print be ver hver m hm)

/-! ### `IPNetwork.__init__` around `parse_ip_network` -/

theorem parse_implicit (be : Backend) (ver : Nat) (s : List Char) (fl : Nat) :
    parseIpNetwork be ver (.str s) true fl = parseIpNetwork be ver (.str (cidrAbbrevToVerbose s)) false fl := by
  unfold parseIpNetwork; simp

def liftNet (ver : Nat) (r : R (Nat × Nat)) : R Net :=
  match r with
  | .ok (v, p) => .ok ⟨ver, v, p⟩
  | .error e => .error e

theorem ipNetwork_some (be : Backend) (arg : NetArg) (harg : (∃ s, arg = .str s) ∨ (∃ x y, arg = .tuple x y)) (i : Bool)
    (ver : Nat) (hver : VerOK ver) (fl : Nat) :
    ipNetwork be arg i (some ver) fl = liftNet ver (parseIpNetwork be ver arg i fl) := by
  have hver' : ver = 4 ∨ ver = 6 := hver
  rcases harg with ⟨s, rfl⟩ | ⟨x, y, rfl⟩
  all_goals
    unfold ipNetwork liftNet
    simp only [if_pos hver']
    cases parseIpNetwork be ver _ i fl <;> rfl

theorem ipNetwork_none (be : Backend) (arg : NetArg) (harg : (∃ s, arg = .str s) ∨ (∃ x y, arg = .tuple x y)) (i : Bool)
    (fl : Nat) :
    ipNetwork be arg i none fl =
      match parseIpNetwork be 4 arg i fl with
      | .ok r => .ok ⟨4, r.1, r.2⟩
      | .error .addrFormat => liftNet 6 (parseIpNetwork be 6 arg i fl)
      | .error e => .error e := by
  rcases harg with ⟨s, rfl⟩ | ⟨x, y, rfl⟩
  all_goals
    unfold ipNetwork liftNet
    simp only
    cases parseIpNetwork be 4 _ i fl with
    | ok r => rfl
    | error e =>
      cases e <;> simp only <;> cases parseIpNetwork be 6 _ i fl <;> rfl

theorem ipNetwork_congr (be : Backend) (s s' : List Char) (i i' : Bool) (fl : Nat)
    (h : ∀ ver, VerOK ver → parseIpNetwork be ver (.str s) i fl = parseIpNetwork be ver (.str s') i' fl) (pver : Option Nat) :
    ipNetwork be (.str s) i pver fl = ipNetwork be (.str s') i' pver fl := by
  cases pver with
  | none => rw [ipNetwork_none be _ (Or.inl ⟨s, rfl⟩), ipNetwork_none be _ (Or.inl ⟨s', rfl⟩), h 4 (Or.inl rfl), h 6 (Or.inr rfl)]
  | some ver =>
    unfold ipNetwork
    by_cases hver : ver = 4 ∨ ver = 6
    · simp only [if_pos hver, h ver hver]
    · simp only [if_neg hver]

end NV.C03L
