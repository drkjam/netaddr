/-
Lemmas/C17LCidrGrammar.lean — the address part of an nmap CIDR spec as an explicit grammar, and
its equivalence with what `IPNetwork(addr '/' prefix)` (the C03 model, version=None,
implicit_prefix=False, flags=0) reads as an IPv4 network when the prefix is an int() literal.

    cidraddr ::= oct | oct '.' oct | oct '.' oct '.' oct | oct '.' oct '.' oct '.' oct
    oct      ::= intlit of a value 0..255        (missing octets are 0: "10/8" = 10.0.0.0/8)

A canonical dotted quad is the four-octet case with plain numerals; everything else is what
`expand_partial_address` (strategy/ipv4.py) lets through: one to four `int()` literals — blanks,
'+', leading zeros, underscores and "-0" included — joined by '.'.

What the IPv4 address part of a network string is read as is `C03L.Acc.addr4Spec`
(`C03L.Acc.addr4_eq`), and `IPNetwork` of a string is what the text spells (`C03L.net_eq`, `spell_slash`,
Lemmas/C03LSpell); the work here is `addr4Spec a = some v ↔ CidrAddr a v`.
-/
import NetaddrVerif.Lemmas.C03LSpell
import NetaddrVerif.Lemmas.C17LNmapGrammar
import NetaddrVerif.Lemmas.C17LPlan
namespace NV.C17L.Cidr
open NV NV.Nmap NV.Text4 NV.AddrParse NV.NetParse NV.C01L NV.C03L NV.C17 NV.C17L.PyLit NV.C17L.Plan

def Oct (t : List Char) (n : Nat) : Prop := IntLit t (n : Int) ∧ n ≤ 255

/-- the address part in front of the slash and the 32-bit value it denotes -/
inductive CidrAddr : List Char → Nat → Prop
  | one {t0 : List Char} {n0 : Nat} : Oct t0 n0 → CidrAddr t0 (n0 * 16777216)
  | two {t0 t1 : List Char} {n0 n1 : Nat} : Oct t0 n0 → Oct t1 n1 →
      CidrAddr (t0 ++ '.' :: t1) (n0 * 16777216 + n1 * 65536)
  | three {t0 t1 t2 : List Char} {n0 n1 n2 : Nat} : Oct t0 n0 → Oct t1 n1 → Oct t2 n2 →
      CidrAddr (t0 ++ '.' :: (t1 ++ '.' :: t2)) (n0 * 16777216 + n1 * 65536 + n2 * 256)
  | four {t0 t1 t2 t3 : List Char} {n0 n1 n2 n3 : Nat} : Oct t0 n0 → Oct t1 n1 → Oct t2 n2 → Oct t3 n3 →
      CidrAddr (t0 ++ '.' :: (t1 ++ '.' :: (t2 ++ '.' :: t3))) (n0 * 16777216 + n1 * 65536 + n2 * 256 + n3)

theorem intLit_dec (n : Nat) : IntLit (dec n) (n : Int) := (pyInt_iff _ _).1 (C03L.pyInt_dec n)

theorem intLit_fun {s : List Char} {z z' : Int} (h : IntLit s z) (h' : IntLit s z') : z = z' := by
  have := (pyInt_iff s z).2 h
  rw [(pyInt_iff s z').2 h'] at this
  exact (Option.some.inj this).symm

inductive Octs : List (List Char) → List Nat → Prop
  | nil : Octs [] []
  | cons {t : List Char} {n : Nat} {ts : List (List Char)} {ns : List Nat} : Oct t n → Octs ts ns → Octs (t :: ts) (n :: ns)

theorem octs_length {ts : List (List Char)} {ns : List Nat} (h : Octs ts ns) : ts.length = ns.length := by
  induction h with
  | nil => rfl
  | cons _ _ ih => simp [ih]

theorem octs_plain {ts : List (List Char)} {ns : List Nat} (h : Octs ts ns) :
    ∀ t ∈ ts, '.' ∉ t ∧ ':' ∉ t ∧ '/' ∉ t := by
  induction h with
  | nil => intro t ht; cases ht
  | cons ho _ ih =>
    intro t ht
    rcases List.mem_cons.1 ht with rfl | e
    · exact C03L.Acc.pyInt_some_clean _ _ ((pyInt_iff _ _).2 ho.1)
    · exact ih t e

theorem octs_mapM {ts : List (List Char)} {ns : List Nat} (h : Octs ts ns) :
    ts.mapM (Py.pyInt 10) = some (ns.map Nat.cast) ∧ Acc.InRange (ns.map Nat.cast) := by
  induction h with
  | nil => exact ⟨rfl, fun n hn => nomatch hn⟩
  | @cons t n ts ns ho _ ih =>
    refine ⟨by rw [NV.mapM_opt_cons, (pyInt_iff _ _).2 ho.1, ih.1]; rfl, fun i hi => ?_⟩
    rcases List.mem_cons.1 hi with rfl | e
    · have := ho.2
      exact ⟨Int.natCast_nonneg n, by omega⟩
    · exact ih.2 i e

theorem octs_of_mapM : ∀ (ts : List (List Char)) (is : List Int), ts.mapM (Py.pyInt 10) = some is →
    Acc.InRange is → ∃ ns, Octs ts ns ∧ is = ns.map Nat.cast
  | [], _, h, _ => ⟨[], .nil, (Option.some.inj h).symm⟩
  | t :: ts, is, h, hr => by
    obtain ⟨i, is', hp, hm, rfl⟩ := mapM_cons_some.1 h
    obtain ⟨ns, hO, rfl⟩ := octs_of_mapM ts is' hm (fun n hn => hr n (List.mem_cons_of_mem _ hn))
    obtain ⟨n, rfl⟩ := Int.eq_ofNat_of_zero_le (hr i (List.mem_cons_self ..)).1
    have := (hr n (List.mem_cons_self ..)).2
    exact ⟨n :: ns, .cons ⟨(pyInt_iff _ _).1 hp, by omega⟩ hO, rfl⟩

theorem cidrAddr_iff_octs {a : List Char} {v : Nat} :
    CidrAddr a v ↔ ∃ ts ns, Octs ts ns ∧ 1 ≤ ns.length ∧ ns.length ≤ 4 ∧ a = ['.'].intercalate ts ∧
      v = Acc.quadVal (ns.map Nat.cast) := by
  constructor
  · intro h
    cases h with
    | @one _ n0 h0 =>
      exact ⟨[_], [_], .cons h0 .nil, by simp, by simp, List.intercalate_singleton.symm, (quadVal_octs n0 0 0 0).1.symm⟩
    | @two _ _ n0 n1 h0 h1 =>
      exact ⟨[_, _], [_, _], .cons h0 (.cons h1 .nil), by simp, by simp,
        by rw [join_cons_cons, List.intercalate_singleton], (quadVal_octs n0 n1 0 0).2.1.symm⟩
    | @three _ _ _ n0 n1 n2 h0 h1 h2 =>
      exact ⟨[_, _, _], [_, _, _], .cons h0 (.cons h1 (.cons h2 .nil)), by simp, by simp,
        by rw [join_cons_cons, join_cons_cons, List.intercalate_singleton], (quadVal_octs n0 n1 n2 0).2.2.1.symm⟩
    | @four _ _ _ _ n0 n1 n2 n3 h0 h1 h2 h3 =>
      exact ⟨[_, _, _, _], [_, _, _, _], .cons h0 (.cons h1 (.cons h2 (.cons h3 .nil))), by simp, by simp,
        by rw [join_cons_cons, join_cons_cons, join_cons_cons, List.intercalate_singleton],
        (quadVal_octs n0 n1 n2 n3).2.2.2.symm⟩
  · rintro ⟨ts, ns, hO, hl1, hl4, rfl, rfl⟩
    rcases hO with _ | ⟨h0, _ | ⟨h1, _ | ⟨h2, _ | ⟨h3, _ | ⟨_, _⟩⟩⟩⟩⟩
    · cases hl1
    · rw [List.intercalate_singleton]
      exact (quadVal_octs _ 0 0 0).1 ▸ .one h0
    · rw [join_cons_cons, List.intercalate_singleton]
      exact (quadVal_octs _ _ 0 0).2.1 ▸ .two h0 h1
    · rw [join_cons_cons, join_cons_cons, List.intercalate_singleton]
      exact (quadVal_octs _ _ _ 0).2.2.1 ▸ .three h0 h1 h2
    · rw [join_cons_cons, join_cons_cons, join_cons_cons, List.intercalate_singleton]
      exact (quadVal_octs _ _ _ _).2.2.2 ▸ .four h0 h1 h2 h3
    · simp at hl4

theorem addr4Spec_iff (a : List Char) (v : Nat) : Acc.addr4Spec a = some v ↔ CidrAddr a v := by
  rw [cidrAddr_iff_octs, Abbrev.addr4Spec_alt]
  constructor
  · intro h
    cases hm : (a.splitOn '.').mapM (Py.pyInt 10) with
    | none => rw [hm] at h; cases h
    | some is =>
      rw [hm] at h
      dsimp only at h
      split at h
      · next hc =>
        obtain ⟨ns, hO, rfl⟩ := octs_of_mapM _ _ hm hc.2
        have hl := octs_length hO
        have hne := List.length_pos_iff.2 (List.splitOn_ne_nil '.' a)
        rw [List.length_map] at hc
        exact ⟨_, ns, hO, by omega, hc.1, (List.intercalate_splitOn '.').symm, (Option.some.inj h).symm⟩
      · cases h
  · rintro ⟨ts, ns, hO, h1, h4, rfl, rfl⟩
    have hne : ts ≠ [] := by
      intro e; subst e; cases hO; simp at h1
    rw [List.splitOn_intercalate '.' (fun t ht => (octs_plain hO t ht).1) hne, (octs_mapM hO).1]
    exact if_pos ⟨by rwa [List.length_map], (octs_mapM hO).2⟩

theorem cidrAddr_noslash {a : List Char} {v : Nat} (h : CidrAddr a v) : '/' ∉ a := by
  obtain ⟨ts, ns, hO, _, _, rfl, _⟩ := cidrAddr_iff_octs.1 h
  exact not_mem_intercalate (by decide) fun t ht => (octs_plain hO t ht).2.2

theorem cidrAddr_lt {a : List Char} {v : Nat} (h : CidrAddr a v) : v < 2 ^ 32 := by
  obtain ⟨ts, ns, hO, h1, h4, _, rfl⟩ := cidrAddr_iff_octs.1 h
  refine (Acc.join_in_range _ (fun e => ?_) (by rwa [List.length_map]) (octs_mapM hO).2).2
  rw [List.map_eq_nil_iff] at e
  subst e; cases h1

theorem cidrAddr_ntoa (v : Nat) (hv : v < 2 ^ 32) : CidrAddr (ntoa v) v := by
  obtain ⟨b0, b1, b2, b3⟩ := octs_lt v hv
  have h := CidrAddr.four ⟨intLit_dec _, Nat.le_of_lt_succ b0⟩ ⟨intLit_dec _, Nat.le_of_lt_succ b1⟩
    ⟨intLit_dec _, Nat.le_of_lt_succ b2⟩ ⟨intLit_dec _, Nat.le_of_lt_succ b3⟩
  rw [octs_sum v] at h
  rw [ntoa_eq, join_cons_cons, join_cons_cons, join_cons_cons, List.intercalate_singleton]
  exact h

theorem ipNetwork_cidr (be : Backend) (a t : List Char) (p : Nat) (ha : '/' ∉ a) (ht : Py.pyInt 10 t = some (p : Int))
    (hp : p ≤ 32) :
    ipNetwork be (.str (a ++ '/' :: t)) false none 0 =
      netOut (((Acc.addr4Spec a).map fun v => (⟨4, v, p⟩ : Net)).or (netOf 6 0 (spell be 6 (a ++ '/' :: t)))) := by
  have hres := resolve_int be 4 t p ht
  have hsp : spell be 4 (a ++ '/' :: t) = (Acc.addr4Spec a).map fun v => (v, p) := by
    rw [spell_slash be 4 a t (contains_false_of_not_mem ha),
      contains_false_of_not_mem (C03L.Acc.pyInt_some_clean t _ ht).2.2, plenVal_ok be 4 _ p hres hp]
    cases h : Acc.addr4Spec a <;> simp [Acc.addrVal, h]
  rw [net_eq be _ false none 0 (Or.inl rfl), C03.pre_false, denote_none, hsp]
  cases Acc.addr4Spec a <;> rfl

/-- With an `int()`-literal prefix `p ≤ 32` and no '/' in the address part,
    `IPNetwork(a '/' t)` is the IPv4 network `(v, p)` exactly when `a` is in the
    grammar `CidrAddr` with value `v`. -/
theorem cidr_net_iff (be : Backend) (a t : List Char) (p : Nat) (ha : '/' ∉ a) (ht : IntLit t (p : Int)) (hp : p ≤ 32)
    (net : Net) :
    (ipNetwork be (.str (a ++ '/' :: t)) false none 0 = .ok net ∧ net.ver = 4) ↔
      ∃ v, CidrAddr a v ∧ net = ⟨4, v, p⟩ := by
  simp only [ipNetwork_cidr be a t p ha ((pyInt_iff t _).2 ht) hp, ← addr4Spec_iff]
  cases Acc.addr4Spec a with
  | some v =>
    simp only [Option.map_some, Option.some_or, netOut, Except.ok.injEq, Option.some.injEq, exists_eq_left']
    exact ⟨fun ⟨h, _⟩ => h.symm, fun h => ⟨h.symm, by rw [h]⟩⟩
  | none =>
    simp only [Option.map_none, Option.none_or]
    constructor
    · rintro ⟨h, hv⟩
      cases h6 : spell be 6 (a ++ '/' :: t) with
      | none => rw [h6] at h; cases h
      | some r => rw [h6] at h; cases h; cases hv
    · rintro ⟨v, h, _⟩; cases h

/-- **the `/` branch of `_parse_nmap_target_spec` with the real `IPNetwork`, as one equation**: `int(prefix)` or
    ValueError, the guard `0 < int(prefix) < 33`, then `IPNetwork(target_spec)` and the version guard — which
    together accept exactly an IPv4 address part (`addr4Spec`, the grammar `CidrAddr` by `addr4Spec_iff`) -/
theorem parsePlan_cidr (be : Backend) (a t : List Char) (ha : '/' ∉ a) :
    parsePlan (realForeign be) (a ++ '/' :: t) =
      match Py.pyInt 10 t with
      | none => .error .value
      | some z =>
        if ¬ (0 < z ∧ z < 33) then .error .addrFormat
        else match Acc.addr4Spec a with
          | some v => .ok (.cidr ⟨4, v, z.toNat⟩)
          | none => .error .addrFormat := by
  rw [parsePlan_slash _ (List.mem_append_right _ (List.mem_cons_self ..)), split1_app '/' _ _ ha]
  cases hz : Py.pyInt 10 t with
  | none => rfl
  | some z =>
    dsimp only
    split
    · rfl
    · next hg =>
      obtain ⟨n, rfl⟩ := Int.eq_ofNat_of_zero_le (Int.le_of_lt (Decidable.not_not.1 hg).1)
      rw [show (realForeign be).ipNetwork (a ++ '/' :: t) = _ from ipNetwork_cidr be a t n ha hz (by omega)]
      cases Acc.addr4Spec a with
      | some v => rfl
      | none => cases spell be 6 (a ++ '/' :: t) <;> rfl

end NV.C17L.Cidr
