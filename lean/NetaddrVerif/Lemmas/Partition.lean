import NetaddrVerif.Model.Cidr
import NetaddrVerif.Lemmas.Canon
/-! The halving loop of cidr_partition (Model/Cidr.lean `partLoop`): its two equations, the rule
    that a property kept by both kinds of step holds when the loop ends (`partLoop_inv`), and the
    address sets of `left`/`right` as one instance of that rule (`partLoop_spec`); `bmem` / `lden`, the
    address set of a list of `(value, prefixlen)` pairs read without clearing host bits, and `alignedN`. -/
namespace NV

def bmem (w : Nat) (b : Pfx) (a : Nat) : Prop := b.val ≤ a ∧ a < b.val + 2 ^ (w - b.plen)
def lden (w : Nat) (l : List Pfx) (a : Nat) : Prop := ∃ b ∈ l, bmem w b a
/-- no host bits -/
def alignedN (w : Nat) (b : Pfx) : Prop := b.val % 2 ^ (w - b.plen) = 0

theorem lden_nil (w : Nat) (a : Nat) : ¬ lden w [] a := by simp [lden]

theorem lden_nil_iff (w lo a : Nat) : lden w [] a ↔ lo ≤ a ∧ a < lo :=
  ⟨fun h => absurd h (lden_nil w a), fun h => absurd h.2 (Nat.not_lt_of_le h.1)⟩

theorem lden_single (w : Nat) (b : Pfx) (a : Nat) : lden w [b] a ↔ bmem w b a := by simp [lden]

theorem lden_append (w : Nat) (l₁ l₂ : List Pfx) (a : Nat) :
    lden w (l₁ ++ l₂) a ↔ lden w l₁ a ∨ lden w l₂ a := by
  simp only [lden, List.mem_append, or_and_right, exists_or]

theorem lden_reverse (w : Nat) (l : List Pfx) (a : Nat) : lden w l.reverse a ↔ lden w l a := by
  simp only [lden, List.mem_reverse]

theorem lden_bounds {w : Nat} {l : List Pfx} {lo hi1 : Nat} (hd : ∀ a, lden w l a → lo ≤ a ∧ a < hi1)
    {b : Pfx} (hb : b ∈ l) : lo ≤ b.val ∧ b.val + 2 ^ (w - b.plen) ≤ hi1 := by
  have hp := Nat.two_pow_pos (w - b.plen)
  have h1 := hd b.val ⟨b, hb, Nat.le_refl _, Nat.lt_add_of_pos_right hp⟩
  have h2 := hd (b.val + 2 ^ (w - b.plen) - 1) ⟨b, hb, by simp only [bmem]; omega⟩
  omega

theorem mult_gap (S x e : Nat) (hx : x % S = 0) (he : e % S = 0) (h : e < x) : e + S ≤ x := by
  obtain ⟨x', rfl⟩ := Nat.dvd_of_mod_eq_zero hx
  obtain ⟨e', rfl⟩ := Nat.dvd_of_mod_eq_zero he
  have : e' < x' := Nat.lt_of_mul_lt_mul_left h
  calc S * e' + S = S * (e' + 1) := by rw [Nat.mul_succ]
    _ ≤ S * x' := Nat.mul_le_mul_left S this

theorem partLoop_done {w ef ep np : Nat} (h : ep < np) (iL iU : Nat) (l r : List Pfx) :
    partLoop w ef ep np iL iU l r = (l, r) := by
  rw [partLoop, dif_neg (Nat.not_le_of_lt h)]

/-- One pass through the loop body.  The `break` on `new_prefixlen > width` is no case of its
    own: it can only happen at `np = ep = w`, where the loop condition fails next anyway. -/
theorem partLoop_step {w ef ep np : Nat} (hep : ep ≤ w) (h : np ≤ ep) (iL iU : Nat) (l r : List Pfx) :
    partLoop w ef ep np iL iU l r =
      if ef ≥ iU then partLoop w ef ep (np + 1) iU (iU + 2 ^ (w - (np + 1))) (l ++ [⟨iL, np⟩]) r
      else partLoop w ef ep (np + 1) iL (iL + 2 ^ (w - (np + 1))) l (r ++ [⟨iU, np⟩]) := by
  rw [partLoop, dif_pos h]
  by_cases hw : np + 1 > w
  · have hd : ep < np + 1 := Nat.lt_of_le_of_lt hep hw
    simp only [hw, if_true, partLoop_done hd]
    split <;> rfl
  · simp only [hw, if_false]
    split <;> rfl

theorem partLoop_inv {w ef ep : Nat} (hep : ep ≤ w) (P : Nat → Nat → Nat → List Pfx → List Pfx → Prop)
    (hleft : ∀ np iL iU l r, np ≤ ep → ef ≥ iU → P np iL iU l r →
      P (np + 1) iU (iU + 2 ^ (w - (np + 1))) (l ++ [⟨iL, np⟩]) r)
    (hright : ∀ np iL iU l r, np ≤ ep → ¬ ef ≥ iU → P np iL iU l r →
      P (np + 1) iL (iL + 2 ^ (w - (np + 1))) l (r ++ [⟨iU, np⟩]))
    {np iL iU : Nat} {l r : List Pfx} (hnp : np ≤ ep + 1) (h : P np iL iU l r) :
    ∃ iL' iU', P (ep + 1) iL' iU' (partLoop w ef ep np iL iU l r).1 (partLoop w ef ep np iL iU l r).2 := by
  generalize hn : ep + 1 - np = n
  induction n generalizing np iL iU l r with
  | zero =>
    obtain rfl : np = ep + 1 := Nat.le_antisymm hnp (Nat.le_of_sub_eq_zero hn)
    rw [partLoop_done (Nat.lt_succ_self ep)]
    exact ⟨iL, iU, h⟩
  | succ n ih =>
    have hle : np ≤ ep := Nat.le_of_lt_succ (Nat.lt_of_sub_eq_succ hn)
    have hn' : ep + 1 - (np + 1) = n := by rw [Nat.sub_succ, hn]; rfl
    rw [partLoop_step hep hle]
    split
    · exact ih (Nat.succ_le_succ hle) (hleft _ _ _ _ _ hle ‹_› h) hn'
    · exact ih (Nat.succ_le_succ hle) (hright _ _ _ _ _ hle ‹_› h) hn'

/-- Address sets.  The loop keeps: the excluded block `[ef, ef + 2^(w-ep))` lies in the aligned block
    `[iLower, iLower + 2^(w+1-np))`, `left` covers what lies below that block down to `t`, `right`
    what lies above it up to `tend`.  At `np = ep + 1` the two blocks have the same size. -/
theorem partLoop_spec (w ef ep t tend : Nat) (hep : ep ≤ w) (hal : ef % 2 ^ (w - ep) = 0) :
    ∀ (fuel np iLower : Nat) (left right : List Pfx),
      fuel = ep + 1 - np → 1 ≤ np → np ≤ ep + 1 → np ≤ w →
      iLower % (2 * 2 ^ (w - np)) = 0 →
      iLower ≤ ef → ef + 2 ^ (w - ep) ≤ iLower + 2 * 2 ^ (w - np) →
      t ≤ iLower → iLower + 2 * 2 ^ (w - np) ≤ tend →
      (∀ a, lden w left a ↔ t ≤ a ∧ a < iLower) →
      (∀ a, lden w right a ↔ iLower + 2 * 2 ^ (w - np) ≤ a ∧ a < tend) →
      (∀ a, lden w (partLoop w ef ep np iLower (iLower + 2 ^ (w - np)) left right).1 a ↔ t ≤ a ∧ a < ef) ∧
      (∀ a, lden w (partLoop w ef ep np iLower (iLower + 2 ^ (w - np)) left right).2 a ↔
          ef + 2 ^ (w - ep) ≤ a ∧ a < tend) := by
  intro _ np iLower left right _ _ h2 h3 hal2 hlo hhi ht htend hL hR
  rw [← pow_succ_sub h3] at hal2 hhi htend hR
  have key := partLoop_inv (ef := ef) hep
    (fun np iL iU l r => iU = iL + 2 ^ (w - np) ∧ iL % 2 ^ (w + 1 - np) = 0 ∧
      iL ≤ ef ∧ ef + 2 ^ (w - ep) ≤ iL + 2 ^ (w + 1 - np) ∧ t ≤ iL ∧ iL + 2 ^ (w + 1 - np) ≤ tend ∧
      (∀ a, lden w l a ↔ t ≤ a ∧ a < iL) ∧ (∀ a, lden w r a ↔ iL + 2 ^ (w + 1 - np) ≤ a ∧ a < tend))
    ?_ ?_ h2 ⟨rfl, hal2, hlo, hhi, ht, htend, hL, hR⟩
  · obtain ⟨iL, _, -, -, hle, hge, -, -, hL', hR'⟩ := key
    rw [Nat.add_sub_add_right] at hge hR'
    obtain rfl : iL = ef := by omega
    exact ⟨hL', hR'⟩
  all_goals
    rintro np iL _ l r hnp hcase ⟨rfl, hmod, hle, hge, ht, htend, hL, hR⟩
    have hH := mod_pow_of_le hmod (Nat.sub_le_sub_right (Nat.le_succ w) np)
    rw [pow_succ_sub (Nat.le_trans hnp hep)] at hge htend hR
    rw [Nat.add_sub_add_right]
  · -- the excluded block is in the upper half: the lower half goes to `left`
    refine ⟨rfl, by rw [Nat.add_mod_right]; exact hH, hcase, by omega, by omega, by omega, fun a => ?_,
      fun a => by rw [hR a]; omega⟩
    rw [lden_append, lden_single, hL a]
    simp only [bmem]
    omega
  · -- it is in the lower half, and so is its end: the midpoint is a multiple of its size
    have hS : (iL + 2 ^ (w - np)) % 2 ^ (w - ep) = 0 :=
      mod_pow_of_le (by rw [Nat.add_mod_right]; exact hH) (Nat.sub_le_sub_left hnp w)
    have hfit := mult_gap _ _ _ hS hal (Nat.lt_of_not_le hcase)
    refine ⟨rfl, hH, hle, hfit, ht, by omega, hL, fun a => ?_⟩
    rw [lden_append, lden_single, hR a]
    simp only [bmem]
    omega

end NV
