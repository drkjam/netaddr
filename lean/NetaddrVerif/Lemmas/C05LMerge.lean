import NetaddrVerif.Lemmas.C05LRange
/-! `cidr_merge` = sort, sweep, emit.  The backward sweep over version-tagged range tuples yields
    the interval normal form of the inputs, family by family; the tuples of a normal form emit,
    per family, a canonical block list with the same addresses, in ascending order. -/
namespace NV.C05L
open NV Blk

/-- address `a` of family `u` lies in the range tuple -/
def rmem (r : MRange) (u a : Nat) : Prop := r.ver = u ∧ r.first ≤ a ∧ a ≤ r.last
def mden (l : List MRange) (u a : Nat) : Prop := ∃ r ∈ l, rmem r u a

theorem mden_cons (r : MRange) (t : List MRange) (u a : Nat) : mden (r :: t) u a ↔ rmem r u a ∨ mden t u a := by
  simp [mden]

/-- `s` comes after `r` with a gap: a later family, or the same family and neither overlapping nor adjacent -/
def Gap (r s : MRange) : Prop := r.ver < s.ver ∨ (r.ver = s.ver ∧ r.last + 1 < s.first)

/-- normal form of a tuple list: valid ranges, ascending by (version, address) with gaps -/
def MNorm (l : List MRange) : Prop := (∀ r ∈ l, r.first ≤ r.last) ∧ l.Pairwise Gap

theorem mnorm_tail {r : MRange} {t : List MRange} (h : MNorm (r :: t)) : MNorm t :=
  ⟨fun s hs => h.1 s (List.mem_cons_of_mem _ hs), (List.pairwise_cons.1 h.2).2⟩

/-- a valid tuple in front of a normal form whose head it precedes with a gap -/
theorem mnorm_cons {p cur : MRange} {done : List MRange} (hp : p.first ≤ p.last) (hg : Gap p cur)
    (hn : MNorm (cur :: done)) : MNorm (p :: cur :: done) := by
  have hcv := hn.1 cur (List.mem_cons_self ..)
  refine ⟨List.forall_mem_cons.2 ⟨hp, hn.1⟩, List.pairwise_cons.2 ⟨fun s hs => ?_, hn.2⟩⟩
  rcases List.mem_cons.1 hs with rfl | hs
  · exact hg
  · have := (List.pairwise_cons.1 hn.2).1 s hs
    unfold Gap at *; omega

/-- `p` sorts at or below `cur` as far as the sweep can see: (version, last) -/
def Below (p cur : MRange) : Prop := p.ver < cur.ver ∨ (p.ver = cur.ver ∧ p.last ≤ cur.last)

/-- `Coh` is any property of tuples that every merged 3-tuple (`orig = none`) has; it is used
    for "a tuple that still carries its original object describes exactly that object" -/
theorem mergeSweep_spec (Coh : MRange → Prop) (hQ : ∀ r, r.orig = none → Coh r) :
    ∀ (rest : List MRange) (cur : MRange) (done : List MRange),
    (∀ p ∈ rest, p.first ≤ p.last ∧ Below p cur) →
    rest.Pairwise (fun p q => Below q p) →
    MNorm (cur :: done) →
    (∀ p ∈ rest, Coh p) → Coh cur → (∀ p ∈ done, Coh p) →
    MNorm (mergeSweep rest cur done) ∧
    (∀ u a, mden (mergeSweep rest cur done) u a ↔ mden rest u a ∨ mden (cur :: done) u a) ∧
    (∀ p ∈ mergeSweep rest cur done, Coh p)
  | [], cur, done, _, _, hn, _, hcc, hcd => by
    simp only [mergeSweep]
    refine ⟨hn, fun u a => (or_iff_right fun ⟨_, h, _⟩ => nomatch h).symm, ?_⟩
    intro p hp
    rcases List.mem_cons.1 hp with rfl | h
    · exact hcc
    · exact hcd p h
  | p :: rest, cur, done, hb, hs, hn, hcr, hcc, hcd => by
    have hp := hb p (by simp)
    have hs' := List.pairwise_cons.1 hs
    have hcv := hn.1 cur (List.mem_cons_self ..)
    simp only [mergeSweep]
    by_cases hc : cur.ver = p.ver ∧ (cur.first : Int) - 1 ≤ p.last
    · rw [if_pos hc]
      have hpl : p.last ≤ cur.last := by
        rcases hp.2 with h | h
        · omega
        · exact h.2
      -- the merged tuple has the version and last address of `cur`, which is all a gap looks at
      have hn' : MNorm (⟨cur.ver, cur.last, min p.first cur.first, none⟩ :: done) :=
        ⟨List.forall_mem_cons.2 ⟨by simp only; omega, (mnorm_tail hn).1⟩,
          List.pairwise_cons.2 ⟨(List.pairwise_cons.1 hn.2).1, (mnorm_tail hn).2⟩⟩
      obtain ⟨r1, r2, r3⟩ := mergeSweep_spec Coh hQ rest ⟨cur.ver, cur.last, min p.first cur.first, none⟩ done
        (fun q hq => ⟨(hb q (List.mem_cons_of_mem _ hq)).1, by
          have := hs'.1 q hq
          unfold Below at this ⊢
          simp only; omega⟩) hs'.2 hn'
        (fun q hq => hcr q (List.mem_cons_of_mem _ hq)) (hQ _ rfl) hcd
      refine ⟨r1, fun u a => ?_, r3⟩
      have hm : rmem ⟨cur.ver, cur.last, min p.first cur.first, none⟩ u a ↔ rmem p u a ∨ rmem cur u a := by
        simp only [rmem]; omega
      rw [r2 u a]
      simp only [mden_cons, hm, or_assoc, or_left_comm]
    · rw [if_neg hc]
      have hn' : MNorm (p :: cur :: done) :=
        mnorm_cons hp.1 (hp.2.elim Or.inl fun h => Or.inr (by omega)) hn
      obtain ⟨r1, r2, r3⟩ := mergeSweep_spec Coh hQ rest p (cur :: done)
        (fun q hq => ⟨(hb q (List.mem_cons_of_mem _ hq)).1, hs'.1 q hq⟩) hs'.2 hn'
        (fun q hq => hcr q (List.mem_cons_of_mem _ hq)) (hcr p (by simp))
        (by
          intro q hq
          rcases List.mem_cons.1 hq with rfl | h
          · exact hcc
          · exact hcd q h)
      refine ⟨r1, fun u a => ?_, r3⟩
      rw [r2 u a]
      simp only [mden_cons, or_assoc, or_left_comm]

/-- an input of `cidr_merge` that the constructors of netaddr can produce: a network with value
    and prefix inside the width (host bits allowed), or a range `lo ≤ hi` inside the width -/
def ItemWF : MItem → Prop
  | .net ver p => p.val < 2 ^ width ver ∧ p.plen ≤ width ver
  | .rng ver lo hi => lo ≤ hi ∧ hi < 2 ^ width ver

/-- address `a` of family `u` belongs to one of the inputs -/
def iden (xs : List MItem) (u a : Nat) : Prop := ∃ it ∈ xs, rmem it.toRange u a

/-- a tuple that still carries its original object describes exactly that (well-formed) object -/
def Coherent (r : MRange) : Prop := ∀ it, r.orig = some it → ItemWF it ∧ it.toRange = r

theorem toRange_coherent (it : MItem) (h : ItemWF it) : Coherent it.toRange := by
  intro it' h'
  cases it <;> simp only [MItem.toRange, Option.some.injEq] at h' <;> subst h' <;> exact ⟨h, rfl⟩

theorem toRange_valid (it : MItem) (h : ItemWF it) :
    it.toRange.first ≤ it.toRange.last ∧ it.toRange.last < 2 ^ width it.toRange.ver := by
  cases it with
  | net ver p =>
    have hp : C09L.PWF (width ver) p := ⟨h.1, h.2⟩
    simp only [MItem.toRange]
    have := hp.last_first
    have := hp.last_lt
    have := Nat.two_pow_pos (width ver - p.plen)
    omega
  | rng ver lo hi => exact h

/-- what the final loop of `cidr_merge` appends for one tuple -/
theorem emit_spec (r : MRange) (hg : Coherent r) (hv : r.first ≤ r.last) (hl : r.last < 2 ^ width r.ver) :
    ∃ L, r.emit = L.map (fun b => (⟨r.ver, b.val, b.plen⟩ : Net)) ∧ RangeOK (width r.ver) L r.first r.last := by
  unfold MRange.emit
  cases hor : r.orig with
  | none =>
    exact ⟨_, rfl, range_addr _ _ _ hv hl⟩
  | some it =>
    obtain ⟨hwf, htr⟩ := hg it hor
    cases it with
    | net ver p =>
      subst htr
      have hp : C09L.PWF (width ver) p := ⟨hwf.1, hwf.2⟩
      refine ⟨[p.cidr (width ver)], rfl, ?_⟩
      simp only [MItem.toRange]
      have := single_rangeOK (width ver) (p.first (width ver)) p.plen hp.plen_le hp.first_aligned
      rwa [show p.first (width ver) + 2 ^ (width ver - p.plen) - 1 = p.last (width ver) from
        Nat.sub_eq_of_eq_add hp.last_first.symm] at this
    | rng ver lo hi =>
      subst htr
      exact ⟨_, rfl, range_addr _ _ _ hwf.1 hwf.2⟩

/-- the blocks of family `u` in a result list, as `Blk`s -/
def famBlks (u : Nat) (l : List Net) : List Blk :=
  (l.filter (fun n => n.ver == u)).map (fun n => ⟨n.val, width u - n.plen⟩)

theorem famBlks_append (u : Nat) (l₁ l₂ : List Net) : famBlks u (l₁ ++ l₂) = famBlks u l₁ ++ famBlks u l₂ := by
  simp [famBlks]

theorem famBlks_same (u : Nat) (L : List Pfx) :
    famBlks u (L.map (fun b => (⟨u, b.val, b.plen⟩ : Net))) = L.map (toBlk (width u)) := by
  induction L with
  | nil => rfl
  | cons x xs ih =>
    simp only [famBlks, List.map_cons, List.filter_cons, beq_self_eq_true, if_true] at ih ⊢
    rw [ih]; rfl

theorem famBlks_other (u v : Nat) (h : v ≠ u) (L : List Pfx) :
    famBlks u (L.map (fun b => (⟨v, b.val, b.plen⟩ : Net))) = [] := by
  induction L with
  | nil => rfl
  | cons x xs ih =>
    have : (v == u) = false := by simpa using h
    simp only [famBlks, List.map_cons, List.filter_cons, this] at ih ⊢
    simpa using ih

theorem flat_canon (u : Nat) : ∀ (l : List MRange), MNorm l →
    (∀ r ∈ l, Coherent r ∧ r.last < 2 ^ width r.ver) →
    Canon (famBlks u (l.flatMap MRange.emit)) ∧
    ∀ a, den (famBlks u (l.flatMap MRange.emit)) a ↔ mden l u a
  | [], _, _ => ⟨canon_nil, fun a => by simp [famBlks, den, mden]⟩
  | r :: t, hn, hg => by
    obtain ⟨ihc, ihd⟩ := flat_canon u t (mnorm_tail hn) (fun s hs => hg s (List.mem_cons_of_mem _ hs))
    obtain ⟨L, hL, hok⟩ := emit_spec r (hg r (by simp)).1 (hn.1 r (List.mem_cons_self ..)) (hg r (by simp)).2
    rw [List.flatMap_cons, famBlks_append, hL]
    by_cases hru : r.ver = u
    · subst hru
      rw [famBlks_same]
      have hcross : ∀ b ∈ L.map (toBlk (width r.ver)), ∀ c ∈ famBlks r.ver (t.flatMap MRange.emit),
          b.base + 2 ^ b.k < c.base := by
        intro b hb c hc
        obtain ⟨p, hp, rfl⟩ := List.mem_map.1 hb
        have h1 := (hok.bounds hp).2
        obtain ⟨s, hs, hsv, hsf, _⟩ := (ihd c.base).1 ⟨c, hc, mem_base c⟩
        have := (List.pairwise_cons.1 hn.2).1 s hs
        unfold Gap at this
        simp only [toBlk]; omega
      refine ⟨?_, fun a => ?_⟩
      · exact canon_append_gap hok.canon ihc hcross
      · rw [den_append, hok.den_blk a, ihd a, mden_cons]
        simp only [rmem, true_and]
    · rw [famBlks_other u r.ver hru, List.nil_append]
      refine ⟨ihc, fun a => ?_⟩
      rw [ihd a, mden_cons]
      simp only [rmem, hru, false_and, false_or]

/-- result order: IPv4 (smaller version number) first, ascending by address inside a family -/
def NetLt (m n : Net) : Prop := m.ver < n.ver ∨ (m.ver = n.ver ∧ m.val < n.val)

/-- `n` is a proper CIDR inside the range of some tuple of `l` -/
def NetIn (l : List MRange) (n : Net) : Prop :=
  ∃ r ∈ l, n.ver = r.ver ∧ r.first ≤ n.val ∧ n.val ≤ r.last ∧ n.plen ≤ width n.ver ∧
    n.val % 2 ^ (width n.ver - n.plen) = 0

theorem emit_in (r : MRange) (hg : Coherent r) (hv : r.first ≤ r.last) (hl : r.last < 2 ^ width r.ver) :
    r.emit.Pairwise NetLt ∧ ∀ n ∈ r.emit, n.ver = r.ver ∧ r.first ≤ n.val ∧ n.val ≤ r.last ∧
      n.plen ≤ width n.ver ∧ n.val % 2 ^ (width n.ver - n.plen) = 0 := by
  obtain ⟨L, hL, hok⟩ := emit_spec r hg hv hl
  rw [hL]
  constructor
  · have := hok.canon.sorted
    rw [List.pairwise_map] at this ⊢
    exact this.imp (fun {a b} h => Or.inr ⟨rfl, h⟩)
  · intro n hn
    obtain ⟨p, hp, rfl⟩ := List.mem_map.1 hn
    have hpk := Nat.two_pow_pos (width r.ver - p.plen)
    have h1 := hok.bounds hp
    exact ⟨rfl, h1.1, by show p.val ≤ r.last; omega, (hok.wf p hp).2, (hok.wf p hp).1⟩

theorem flat_order (l : List MRange) (hn : MNorm l) (hg : ∀ r ∈ l, Coherent r ∧ r.last < 2 ^ width r.ver) :
    (l.flatMap MRange.emit).Pairwise NetLt ∧ ∀ n ∈ l.flatMap MRange.emit, NetIn l n := by
  have he := fun r hr => emit_in r (hg r hr).1 (hn.1 r hr) (hg r hr).2
  refine ⟨List.pairwise_flatMap.2 ⟨fun r hr => (he r hr).1, ?_⟩, fun n hn' => ?_⟩
  · refine List.Pairwise.imp_of_mem ?_ hn.2
    intro r s hr hs hrs m hm n hn'
    obtain ⟨m1, _, m3, _⟩ := (he r hr).2 m hm
    obtain ⟨n1, n2, _⟩ := (he s hs).2 n hn'
    unfold NetLt Gap at *
    omega
  · obtain ⟨r, hr, hnr⟩ := List.mem_flatMap.1 hn'
    exact ⟨r, hr, (he r hr).2 n hnr⟩

theorem le_iff (a b : MRange) : MRange.le a b = true ↔
    a.ver < b.ver ∨ (a.ver = b.ver ∧ (a.last < b.last ∨ (a.last = b.last ∧ a.first ≤ b.first))) := by
  simp only [MRange.le, Bool.or_eq_true, Bool.and_eq_true, decide_eq_true_eq, beq_iff_eq]

theorem mrange_le_trans (a b c : MRange) (h1 : MRange.le a b = true) (h2 : MRange.le b c = true) :
    MRange.le a c = true := by
  rw [le_iff] at *
  omega

theorem mrange_le_total (a b : MRange) : (MRange.le a b || MRange.le b a) = true := by
  rw [Bool.or_eq_true, le_iff, le_iff]
  omega

theorem below_of_le (a b : MRange) (h : MRange.le a b = true) : Below a b := by
  rw [le_iff] at h
  unfold Below
  omega

/-- `cidr_merge` emits a normal form `R` of coherent tuples with the address set of the inputs: the sorted tuples,
    reversed, are what `mergeSweep_spec` asks for (descending by (version, last), each still its own input). -/
theorem merge_main (xs : List MItem) (hwf : ∀ it ∈ xs, ItemWF it) :
    ∃ R, cidrMerge xs = R.flatMap MRange.emit ∧ MNorm R ∧
      (∀ r ∈ R, Coherent r ∧ r.last < 2 ^ width r.ver) ∧ (∀ u a, mden R u a ↔ iden xs u a) := by
  unfold cidrMerge
  have hperm := List.mergeSort_perm (xs.map MItem.toRange) MRange.le
  have hsorted := List.pairwise_mergeSort mrange_le_trans mrange_le_total (xs.map MItem.toRange)
  generalize (xs.map MItem.toRange).mergeSort MRange.le = sorted at *
  have hmem : ∀ p, p ∈ sorted.reverse ↔ ∃ it ∈ xs, it.toRange = p := by
    intro p; rw [List.mem_reverse, hperm.mem_iff, List.mem_map]
  have hrevp : sorted.reverse.Pairwise (fun a b => MRange.le b a = true) := List.pairwise_reverse.2 hsorted
  -- as address sets the sorted tuples are the inputs
  have hd0 : ∀ u a, mden sorted.reverse u a ↔ iden xs u a := fun u a =>
    ⟨fun ⟨p, hp, hm⟩ => ((hmem p).1 hp).elim fun it h => ⟨it, h.1, h.2 ▸ hm⟩,
      fun ⟨it, hit, hm⟩ => ⟨_, (hmem _).2 ⟨it, hit, rfl⟩, hm⟩⟩
  cases hrev : sorted.reverse with
  | nil => exact ⟨[], by simp [hrev], ⟨nofun, .nil⟩, nofun, hrev ▸ hd0⟩
  | cons cur rest =>
    rw [hrev] at hmem hrevp hd0
    have hall : ∀ p ∈ cur :: rest, p.first ≤ p.last ∧ p.last < 2 ^ width p.ver ∧ Coherent p := by
      intro p hp
      obtain ⟨it, hit, rfl⟩ := (hmem p).1 hp
      exact ⟨(toRange_valid it (hwf it hit)).1, (toRange_valid it (hwf it hit)).2, toRange_coherent it (hwf it hit)⟩
    have hp' := List.pairwise_cons.1 hrevp
    obtain ⟨r1, r2, r3⟩ := mergeSweep_spec Coherent
      (by intro r hr it h; rw [hr] at h; cases h) rest cur []
      (fun p hp => ⟨(hall p (List.mem_cons_of_mem _ hp)).1, below_of_le _ _ (hp'.1 p hp)⟩)
      (hp'.2.imp (fun {a b} h => below_of_le _ _ h))
      ⟨fun _ h => List.mem_singleton.1 h ▸ (hall cur (by simp)).1, List.pairwise_singleton ..⟩
      (fun p hp => (hall p (List.mem_cons_of_mem _ hp)).2.2) (hall cur (by simp)).2.2 (by simp)
    have hden : ∀ u a, mden (mergeSweep rest cur []) u a ↔ mden (cur :: rest) u a := by
      intro u a; rw [r2 u a, mden_cons, mden_cons]
      simp only [mden, List.not_mem_nil, false_and, exists_false, or_false]
      exact Or.comm
    refine ⟨mergeSweep rest cur [], by simp only [hrev], r1, fun r hr => ⟨r3 r hr, ?_⟩, fun u a => ?_⟩
    · have hv := r1.1 r hr
      obtain ⟨p, hp, hpv, _, hpl⟩ := (hden r.ver r.last).1 ⟨r, hr, rfl, hv, Nat.le_refl _⟩
      have := (hall p hp).2.1
      rw [hpv] at this; omega
    · exact (hden u a).trans (hd0 u a)

end NV.C05L
