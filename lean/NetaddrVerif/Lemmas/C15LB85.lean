/-
Lemmas/C15LB85.lean — RFC 1924 base 85: the generated alphabet and dictionary as inverse
tables, induction along the encoder's loop, the decoder's positional sum read back over the
encoder's digits, and `base85_to_ipv6` by the outcome of that sum.  Core only.
-/
import NetaddrVerif.Model.Codec
namespace NV.Codec

/-- `BASE_85[w]` -/
def b85Char (w : Nat) : Char := Gen.base85.getD w '?'

theorem base85_length : Gen.base85.length = 85 := by decide +kernel

theorem b85Char_eq (d : Nat) (h : d < 85) : b85Char d = Gen.base85[d]'(base85_length ▸ h) := by
  rw [b85Char, List.getD_eq_getElem?_getD, List.getElem?_eq_getElem (base85_length ▸ h)]
  rfl

/-- the alphabet and the dictionary are inverse tables: looked up in the dictionary, the
    alphabet's characters give 0, 1, …, 84 in this order (one pass over the two tables) -/
theorem base85_lookup : Gen.base85.map (fun c => Gen.base85Dict.lookup c.toNat) = (List.range 85).map some := by
  decide +kernel

theorem b85_dict_char (d : Nat) (h : d < 85) : Gen.base85Dict.lookup (b85Char d).toNat = some d := by
  have := congrArg (·[d]?) base85_lookup
  simp only [List.getElem?_map, List.getElem?_eq_getElem (base85_length ▸ h), List.getElem?_range h,
    Option.map_some] at this
  rw [b85Char_eq d h]
  exact Option.some.inj this

theorem b85Char_mem (d : Nat) (h : d < 85) : b85Char d ∈ Gen.base85 := by
  rw [b85Char_eq d h]
  exact List.getElem_mem _

theorem ipv6ToBase85_eq (v : Nat) : ipv6ToBase85 v =
    List.replicate (20 - (b85Loop v v).length) '0' ++ (b85Loop v v).reverse.map b85Char := by
  simp only [ipv6ToBase85, List.length_map, List.length_reverse]
  rfl

/-- Induction along the encoder's loop: with enough fuel it stops at 0, and otherwise emits
    `n % 85` and goes on with `n / 85`. -/
theorem b85Loop_induct {P : Nat → List Nat → Prop} (zero : P 0 [])
    (step : ∀ n ds, 0 < n → P (n / 85) ds → P n (n % 85 :: ds)) :
    ∀ f n, n ≤ f → P n (b85Loop f n) := by
  intro f
  induction f with
  | zero =>
    intro n h
    obtain rfl : n = 0 := by omega
    exact zero
  | succ f ih =>
    intro n h
    rw [b85Loop]
    split
    · next hpos =>
      have : n / 85 < n := Nat.div_lt_self hpos (by decide)
      exact step n _ hpos (ih _ (by omega))
    · next h0 =>
      obtain rfl : n = 0 := by omega
      exact zero

theorem b85Loop_lt (f n : Nat) (h : n ≤ f) : ∀ x ∈ b85Loop f n, x < 85 :=
  b85Loop_induct (P := fun _ ds => ∀ x ∈ ds, x < 85) (fun _ hx => nomatch hx)
    (fun n _ _ ih x hx => by
      rcases List.mem_cons.mp hx with rfl | hx
      · exact Nat.mod_lt n (by decide)
      · exact ih x hx) f n h

theorem b85Loop_len (f n : Nat) (h : n ≤ f) : ∀ k, n < 85 ^ k → (b85Loop f n).length ≤ k :=
  b85Loop_induct (P := fun n ds => ∀ k, n < 85 ^ k → ds.length ≤ k) (fun k _ => Nat.zero_le k)
    (fun n _ hpos ih k hk => by
      cases k with
      | zero => exact absurd hk (by omega)
      | succ k =>
        rw [Nat.pow_succ] at hk
        exact Nat.succ_le_succ (ih k ((Nat.div_lt_iff_lt_mul (by decide)).mpr hk))) f n h

/-- The decoder's sum over the characters of the encoder's digits of `n`, least significant first
    from position `i`, adds `85^i * n` (Horner's rule, one digit `n % 85` at a time). -/
theorem b85Sum_loop (f n : Nat) (h : n ≤ f) (rest : List Char) : ∀ i acc,
    b85Sum ((b85Loop f n).map b85Char ++ rest) i acc =
      b85Sum rest (i + (b85Loop f n).length) (acc + 85 ^ i * n) :=
  b85Loop_induct
    (P := fun n ds => ∀ i acc,
      b85Sum (ds.map b85Char ++ rest) i acc = b85Sum rest (i + ds.length) (acc + 85 ^ i * n))
    (fun _ _ => rfl)
    (fun n ds _ ih i acc => by
      simp only [List.map_cons, List.cons_append, b85Sum, b85_dict_char _ (Nat.mod_lt n (by decide)), ih,
        List.length_cons, Nat.pow_succ]
      congr 1
      · omega
      · conv => rhs; rw [← Nat.mod_add_div n 85, Nat.mul_add, ← Nat.mul_assoc, Nat.mul_comm (85 ^ i)]
        omega) f n h

theorem b85Sum_zeros (k : Nat) : ∀ i acc, b85Sum (List.replicate k '0') i acc = .ok acc := by
  induction k with
  | zero => intro i acc; rfl
  | succ k ih =>
    intro i acc
    have h0 : Gen.base85Dict.lookup ('0').toNat = some 0 := by decide +kernel
    simp only [List.replicate_succ, b85Sum, h0, ih, Nat.zero_mul, Nat.add_zero]

theorem b85Sum_bad (l : List Char) (h : ∃ c ∈ l, Gen.base85Dict.lookup c.toNat = none) :
    ∀ i acc, b85Sum l i acc = .error .key := by
  induction l with
  | nil => obtain ⟨c, hc, _⟩ := h; cases hc
  | cons x t ih =>
    intro i acc
    rw [b85Sum]
    split
    · next d hx =>
      obtain ⟨c, hc, hn⟩ := h
      rcases List.mem_cons.mp hc with rfl | hc
      · rw [hx] at hn; cases hn
      · exact ih ⟨c, hc, hn⟩ _ _
    · rfl

theorem base85ToIpv6_of_sum {s : List Char} (hl : s.length = 20) :
    base85ToIpv6 s = match b85Sum s.reverse 0 0 with
      | .ok n => if n < 2 ^ 128 then .ok n else .error .addrFormat
      | .error e => .error e := by
  rw [base85ToIpv6, if_neg (fun h => h hl)]
  cases b85Sum s.reverse 0 0 with
  | error e => rfl
  | ok n =>
    show (if n ≤ 2 ^ 128 - 1 then pure n else Except.error Err.addrFormat) = _
    simp only [Nat.le_sub_one_iff_lt (Nat.two_pow_pos 128)]
    rfl

end NV.Codec
