/-
Lemmas/C14LInplace.lean — the statement-level model of `__iadd__`/`__isub__`
(`Address.Inplace`): its exact event trace, its result, and the discipline "the receiver is
written only after both range checks passed".
-/
import NetaddrVerif.Lemmas.C14L
namespace NV.C14L.Inplace
open NV NV.Address NV.Address.Inplace NV.C14

/-- Python's chained comparison `0 <= x <= m`: the second test behind the first is the conjunction -/
theorem ite_nested {α : Sort _} (p q : Prop) [Decidable p] [Decidable q] (x y : α) :
    (if p then if q then x else y else y) = if p ∧ q then x else y := by
  by_cases hp : p
  · by_cases hq : q
    · rw [if_pos hp, if_pos hq, if_pos ⟨hp, hq⟩]
    · rw [if_pos hp, if_neg hq, if_neg fun c => hq c.2]
  · rw [if_neg hp, if_neg fun c => hp c.1]

/-- the exact new value of `a += n` (`minus = false`) / `a -= n` (`minus = true`) -/
def newValue (minus : Bool) (a : Addr) (n : Int) : Int :=
  if minus then (a.val : Int) - n else (a.val : Int) + n

/-- the three possible executions, written out -/
def specRun (minus : Bool) (a : Addr) (n : Int) : St :=
  if 0 ≤ newValue minus a n then
    if newValue minus a n ≤ (maxInt a.ver : Int) then
      { self := ⟨a.ver, (newValue minus a n).toNat⟩, nv := newValue minus a n, out := some none,
        log := [.readValue a.val, .cmpLo true, .readModule, .cmpHi true,
                .writeValue (newValue minus a n), .ret] }
    else
      { self := a, nv := newValue minus a n, out := some (some .index),
        log := [.readValue a.val, .cmpLo true, .readModule, .cmpHi false, .raise .index] }
  else
    { self := a, nv := newValue minus a n, out := some (some .index),
      log := [.readValue a.val, .cmpLo false, .raise .index] }

/-- the execution of the body is exactly one of the three written-out runs (state, local,
    outcome and the complete event log) -/
theorem run_body (minus : Bool) (a : Addr) (n : Int) :
    run (body minus n) a = specRun minus a n :=
  -- the interpreter unfolds, on these three statements, to the same two tests around the same
  -- three final states
  rfl

theorem log_body (minus : Bool) (a : Addr) (n : Int) :
    (run (body minus n) a).log =
      if 0 ≤ newValue minus a n then
        if newValue minus a n ≤ (maxInt a.ver : Int) then
          [.readValue a.val, .cmpLo true, .readModule, .cmpHi true, .writeValue (newValue minus a n), .ret]
        else [.readValue a.val, .cmpLo true, .readModule, .cmpHi false, .raise .index]
      else [.readValue a.val, .cmpLo false, .raise .index] := by
  rw [run_body, specRun, apply_ite St.log, apply_ite St.log]

/-- the receiver afterwards and the exception are those of the functional model
    (`stepInplace` of `guardInplace`) -/
theorem result_body (minus : Bool) (a : Addr) (n : Int) :
    (run (body minus n) a).result = stepInplace a (guardInplace a (newValue minus a n)) := by
  rw [run_body, specRun, guardInplace, apply_ite St.result, apply_ite St.result, apply_ite (stepInplace a)]
  exact ite_nested _ _ _ _

/-! ### the write discipline, as a property of event logs -/

/-- scan a log keeping "the last `0 <=` test passed" / "the last `<= max` test passed";
    a write is allowed only when both are set -/
def guardedFrom (lo hi : Bool) : List Ev → Bool
  | [] => true
  | .cmpLo ok :: es => guardedFrom ok false es
  | .cmpHi ok :: es => guardedFrom lo ok es
  | .writeValue _ :: es => lo && hi && guardedFrom lo hi es
  | _ :: es => guardedFrom lo hi es

/-- every `writeValue` in the log comes after a passed `cmpLo` and a passed `cmpHi` -/
def Guarded (log : List Ev) : Prop := guardedFrom false false log = true

instance (log : List Ev) : Decidable (Guarded log) := by unfold Guarded; infer_instance

def writes : List Ev → List Int
  | [] => []
  | .writeValue v :: es => v :: writes es
  | _ :: es => writes es

theorem guarded_body (minus : Bool) (a : Addr) (n : Int) : Guarded (run (body minus n) a).log := by
  rw [log_body]
  split
  · split
    · rfl
    · rfl
  · rfl

/-- what is written, and when: on success exactly one write, of the exact in-range new value; on
    either failure nothing is written at all -/
theorem writes_body (minus : Bool) (a : Addr) (n : Int) :
    writes (run (body minus n) a).log =
      if 0 ≤ newValue minus a n ∧ newValue minus a n ≤ (maxInt a.ver : Int)
      then [newValue minus a n] else [] := by
  rw [log_body, apply_ite writes, apply_ite writes]
  exact ite_nested _ _ _ _

/-- a raised exception means no write happened and the receiver is the one we started with -/
theorem raise_untouched (minus : Bool) (a : Addr) (n : Int) (e : Err)
    (h : (run (body minus n) a).out = some (some e)) :
    writes (run (body minus n) a).log = [] ∧ (run (body minus n) a).self = a ∧ e = .index := by
  revert h
  rw [run_body]
  unfold specRun
  split
  · split
    · exact nofun
    · exact fun h => ⟨rfl, rfl, (Option.some.inj (Option.some.inj h)).symm⟩
  · exact fun h => ⟨rfl, rfl, (Option.some.inj (Option.some.inj h)).symm⟩

/-! ### the predicate is discriminating: a body that assigns first -/

/-- `self._value = new_value` moved in front of the test (and `return self` left in the `if`) -/
def eagerBody (minus : Bool) (num : Int) : List Stmt :=
  [.prim (.compute minus num), .prim .assign, .ifInRange [.retSelf], .prim .raiseIndex]

/-- on the top IPv4 address `+= 1` the eager body writes before testing — its log is not
    `Guarded` — and leaves a changed receiver behind the IndexError, unlike the real body -/
example :
    ¬ Guarded (run (eagerBody false 1) ⟨4, 4294967295⟩).log ∧
    (run (eagerBody false 1) ⟨4, 4294967295⟩).result = (⟨4, 4294967296⟩, some .index) ∧
    (run (body false 1) ⟨4, 4294967295⟩).result = (⟨4, 4294967295⟩, some .index) ∧
    (run (body false 1) ⟨4, 4294967295⟩).log =
      [.readValue 4294967295, .cmpLo true, .readModule, .cmpHi false, .raise .index] := by decide

end NV.C14L.Inplace
