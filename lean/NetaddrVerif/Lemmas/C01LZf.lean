/-
Lemmas/C01LZf.lean — the ZEROFILL rewrite `'.'.join(['%d' % int(i) for i in addr.split('.')])` (`AddrParse.zerofill`)
on ARBITRARY strings: it succeeds iff every part converts under `int()`; its output consists of digits, '-' and '.';
its input has no '/'.  Then the rewrite of dot-joined parts that convert to natural numbers: strings of decimal digits
(`C01.IsDigits`) are such parts, and a printed dotted quad is left as it is (`IsDigits` and its lemmas are declared in `NV.C01`, the
namespace of the theorem `C01.zerofill` that is stated with them).  That `'%d' % n` is a C literal of value `n`, so that the
rewritten text is always read in DECIMAL by `inet_aton`, is `Zf.isCLit_dec` in Lemmas/C01LAton.lean.
-/
import NetaddrVerif.Lemmas.C01LCross
import NetaddrVerif.Lemmas.C03LInt
namespace NV.C01L.Zf
open NV NV.Text4 NV.AddrParse NV.C01L

theorem zerofill_iff (s t : List Char) :
    zerofill s = some t ↔ ∃ ns : List Int,
      (s.splitOn '.').map (Py.pyInt 10) = ns.map some ∧ t = ['.'].intercalate (ns.map showInt) := by
  unfold zerofill
  rw [show (s.splitOn '.').mapM (fun i => (Py.pyInt 10 i).map showInt) = _ from mapM_map _ showInt _]
  simp only [Option.map_eq_map, Option.map_eq_some_iff, mapM_eq_some_iff]
  constructor
  · rintro ⟨_, ⟨ns, h, rfl⟩, rfl⟩
    exact ⟨ns, h, rfl⟩
  · rintro ⟨ns, h, rfl⟩
    exact ⟨_, ⟨ns, h, rfl⟩, rfl⟩

theorem zerofill_noslash {s t : List Char} (h : zerofill s = some t) : '/' ∉ s :=
  zerofill_not_mem h '/' (by decide) pyInt_slash

theorem showInt_chars (n : Int) : ∀ c ∈ showInt n, c = '-' ∨ isDec c = true := by
  intro c hc
  unfold showInt at hc
  split at hc
  · rcases List.mem_cons.mp hc with e | e
    · exact Or.inl e
    · exact Or.inr (dec_all _ c e)
  · exact Or.inr (dec_all _ c hc)

theorem showInt_dash (n : Int) : '-' ∈ showInt n ↔ n < 0 := by
  unfold showInt
  by_cases h : n < 0
  · simp [h]
  · simp only [h, if_false, iff_false]
    exact fun hm => absurd (dec_all _ _ hm) (by decide)

theorem zerofill_out_chars (s t : List Char) (h : zerofill s = some t) :
    ∀ c ∈ t, c = '.' ∨ c = '-' ∨ isDec c = true := by
  obtain ⟨ns, _, rfl⟩ := (zerofill_iff s t).mp h
  intro c hc
  rcases mem_intercalate hc with e | ⟨l, hl, hcl⟩
  · exact Or.inl e
  · obtain ⟨n, _, rfl⟩ := List.mem_map.mp hl
    exact Or.inr (showInt_chars n c hcl)

theorem dash_iff (ns : List Int) :
    '-' ∈ ['.'].intercalate (ns.map showInt) ↔ ∃ n ∈ ns, n < 0 := by
  constructor
  · intro h
    rcases mem_intercalate h with e | ⟨l, hl, hcl⟩
    · exact absurd e (by decide)
    · obtain ⟨n, hn, rfl⟩ := List.mem_map.mp hl
      exact ⟨n, hn, (showInt_dash n).mp hcl⟩
  · rintro ⟨n, hn, hneg⟩
    exact mem_intercalate_iff.2 (.inl ⟨_, List.mem_map.mpr ⟨n, hn, rfl⟩, (showInt_dash n).mpr hneg⟩)

theorem dec_no_nul (n : Nat) : Char.ofNat 0 ∉ dec n := not_mem_toDigits_ten (by decide) n

/-- parts joined by single dots; `dots [a, b, c]` unfolds to `a ++ '.' :: (b ++ '.' :: c)`, the
    spelled-out form of the statements in Props/C01.lean and Props/C01b.lean -/
def dots : List (List Char) → List Char
  | [] => []
  | [t] => t
  | t :: r => t ++ '.' :: dots r

theorem dots_eq (ts : List (List Char)) : dots ts = ['.'].intercalate ts := by
  induction ts with
  | nil => rfl
  | cons a r ih =>
    cases r with
    | nil => simp [dots, List.intercalate]
    | cons b r' => rw [List.intercalate_cons_cons, ← ih]; simp [dots]

theorem zerofill_join (ps : List (List Char)) (ns : List Nat) (hne : ps ≠ [])
    (h : ps.map (Py.pyInt 10) = ns.map (fun (n : Nat) => some (n : Int))) :
    zerofill (dots ps) = some (dots (ns.map dec)) := by
  have hdot : ∀ l ∈ ps, '.' ∉ l := by
    intro l hl hd
    have hm : Py.pyInt 10 l ∈ ps.map (Py.pyInt 10) := List.mem_map.mpr ⟨l, hl, rfl⟩
    rw [h, pyInt_dot l hd] at hm
    obtain ⟨n, _, hn⟩ := List.mem_map.mp hm
    cases hn
  rw [dots_eq, dots_eq]
  refine (zerofill_iff _ _).mpr ⟨ns.map (fun (n : Nat) => (n : Int)), ?_, ?_⟩
  · rw [List.splitOn_intercalate (ls := ps) '.' hdot hne, h, List.map_map]; rfl
  · rw [List.map_map]
    exact congrArg (fun f => ['.'].intercalate (ns.map f)) (funext showInt_nat).symm

end NV.C01L.Zf

namespace NV.C01
open NV NV.Text4 NV.AddrParse NV.C01L NV.C01L.Zf

def IsDigits (t : List Char) : Prop := t ≠ [] ∧ ∀ c ∈ t, isDec c = true

theorem pyInt_isDigits (t : List Char) (h : IsDigits t) :
    Py.pyInt 10 t = some ((Nat.ofDigitChars 10 t 0 : Nat) : Int) := by
  refine C03L.pyInt_digits t (fun c hc => ?_) h.1
  obtain ⟨d, hd, rfl⟩ := isDec_digitChar c (h.2 c hc)
  exact C03L.decCh_digitChar d hd

theorem zerofill_ntoa (v : Nat) : AddrParse.zerofill (ntoa v) = some (ntoa v) := by
  have := zerofill_join [dec (v / 16777216), dec (v / 65536 % 256), dec (v / 256 % 256), dec (v % 256)]
    [v / 16777216, v / 65536 % 256, v / 256 % 256, v % 256] (List.cons_ne_nil _ _)
    (by simp only [List.map_cons, List.map_nil, C03L.pyInt_dec])
  rw [dots_eq, dots_eq, ← ntoa_eq] at this
  exact this.trans (congrArg some (ntoa_eq v).symm)

end NV.C01
