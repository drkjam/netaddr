/-
Lemmas/C15LWords.lean — fixed-width words of a number: `wordsLoop k n v` splits v into n words of k bits
(least significant first: the order of the model's loop and of the inductions here), `leValue k` joins them;
`beWords k n v` is the same list most significant first, the tuple `int_to_words` returns, and `beWordsValue k`
the value of such a tuple — what the codecs return is stated with these two.  Also: the words as the digits of
`Nat.toDigits (2 ^ a)`, and the model's two joining loops read as `beWordsValue`.  Core only.
-/
import NetaddrVerif.Model.Codec
namespace NV.Codec

/-- little-endian value of a word list in base 2^k -/
def leValue (k : Nat) : List Nat → Nat
  | [] => 0
  | x :: t => x + 2 ^ k * leValue k t

/-- big-endian value of a word list in base 2^k (the denotation of a `words` tuple) -/
def beWordsValue (k : Nat) (xs : List Nat) : Nat := leValue k xs.reverse

/-- the `n` words of `k` bits of `v`, most significant first: what `int_to_words` returns -/
def beWords (k n v : Nat) : List Nat := (wordsLoop k n v).reverse

theorem wordsLoop_length (ws n v : Nat) : (wordsLoop ws n v).length = n := by
  induction n generalizing v with
  | zero => rfl
  | succ n ih => simp [wordsLoop, ih]

theorem wordsLoop_lt (ws n v : Nat) : ∀ x ∈ wordsLoop ws n v, x < 2 ^ ws := by
  induction n generalizing v with
  | zero => simp [wordsLoop]
  | succ n ih =>
    intro x hx
    simp only [wordsLoop, List.mem_cons] at hx
    rcases hx with h | h
    · subst h; rw [Nat.and_two_pow_sub_one_eq_mod]; exact Nat.mod_lt _ (Nat.two_pow_pos ws)
    · exact ih _ x h

theorem leValue_wordsLoop (ws n v : Nat) : leValue ws (wordsLoop ws n v) = v % 2 ^ (ws * n) := by
  induction n generalizing v with
  | zero => simp [wordsLoop, leValue, Nat.mod_one]
  | succ n ih =>
    simp only [wordsLoop, leValue, ih, Nat.and_two_pow_sub_one_eq_mod, Nat.shiftRight_eq_div_pow]
    rw [Nat.mul_succ, Nat.add_comm (ws * n) ws, Nat.pow_add, Nat.mod_mul]

theorem leValue_lt (k : Nat) (xs : List Nat) (h : ∀ x ∈ xs, x < 2 ^ k) :
    leValue k xs < 2 ^ (k * xs.length) := by
  induction xs with
  | nil => simp [leValue]
  | cons x t ih =>
    have hx := h x (by simp)
    have ht := ih (fun y hy => h y (by simp [hy]))
    simp only [leValue, List.length_cons, Nat.mul_succ]
    rw [Nat.add_comm (k * t.length) k, Nat.pow_add]
    have : 2 ^ k * (leValue k t + 1) ≤ 2 ^ k * 2 ^ (k * t.length) := Nat.mul_le_mul_left _ ht
    rw [Nat.mul_add] at this
    omega

theorem leValue_append (k : Nat) (xs ys : List Nat) :
    leValue k (xs ++ ys) = leValue k xs + 2 ^ (k * xs.length) * leValue k ys := by
  induction xs with
  | nil => simp [leValue]
  | cons x t ih =>
    simp only [List.cons_append, leValue, ih, List.length_cons, Nat.mul_succ]
    rw [Nat.add_comm (k * t.length) k, Nat.pow_add, Nat.mul_add, Nat.mul_assoc]
    omega

theorem wordsLoop_leValue (k : Nat) (xs : List Nat) (h : ∀ x ∈ xs, x < 2 ^ k) :
    wordsLoop k xs.length (leValue k xs) = xs := by
  induction xs with
  | nil => rfl
  | cons x t ih =>
    have hx := h x List.mem_cons_self
    simp only [List.length_cons, wordsLoop, leValue, Nat.and_two_pow_sub_one_eq_mod, Nat.shiftRight_eq_div_pow]
    rw [Nat.add_mul_mod_self_left, Nat.mod_eq_of_lt hx, Nat.add_mul_div_left _ _ (Nat.two_pow_pos k),
      Nat.div_eq_of_lt hx, Nat.zero_add, ih (fun y hy => h y (List.mem_cons_of_mem _ hy))]

theorem wordsLoop_add (ws a b v : Nat) :
    wordsLoop ws (a + b) v = wordsLoop ws a v ++ wordsLoop ws b (v / 2 ^ (ws * a)) := by
  induction a generalizing v with
  | zero => simp [wordsLoop]
  | succ a ih =>
    rw [Nat.succ_add]
    simp only [wordsLoop, ih, List.cons_append, Nat.shiftRight_eq_div_pow]
    rw [Nat.div_div_eq_div_mul, Nat.mul_succ, Nat.add_comm (ws * a) ws, Nat.pow_add]

theorem wordsLoop_mod (ws n v : Nat) : wordsLoop ws n (v % 2 ^ (ws * n)) = wordsLoop ws n v := by
  induction n generalizing v with
  | zero => rfl
  | succ n ih =>
    simp only [wordsLoop, Nat.and_two_pow_sub_one_eq_mod, Nat.shiftRight_eq_div_pow]
    rw [Nat.mul_succ, Nat.add_comm (ws * n) ws, Nat.pow_add]
    rw [Nat.mod_mul_right_div_self, ih]
    congr 1
    rw [Nat.mod_mul]
    simp [Nat.add_mul_mod_self_left]

theorem wordsLoop_zero (ws n : Nat) : wordsLoop ws n 0 = List.replicate n 0 := by
  induction n with
  | zero => rfl
  | succ n ih => simp [wordsLoop, ih, List.replicate_succ]

theorem wordsLoop_range (ws n v : Nat) :
    wordsLoop ws n v = (List.range n).map (fun i => v / 2 ^ (ws * i) % 2 ^ ws) := by
  induction n generalizing v with
  | zero => rfl
  | succ n ih =>
    rw [List.range_succ_eq_map, List.map_cons, List.map_map]
    simp only [wordsLoop, ih, Nat.and_two_pow_sub_one_eq_mod, Nat.shiftRight_eq_div_pow, Nat.mul_zero,
      Nat.pow_zero, Nat.div_one, List.cons.injEq, true_and]
    apply List.map_congr_left
    intro i _
    simp only [Function.comp]
    rw [Nat.div_div_eq_div_mul, Nat.mul_succ, Nat.add_comm (ws * i) ws, Nat.pow_add]

theorem reverse_range (n : Nat) : (List.range n).reverse = (List.range n).map (fun i => n - 1 - i) := by
  have := @List.reverse_range' 0 n
  simpa only [← List.range_eq_range', Nat.zero_add] using this

theorem beWords_length (ws n v : Nat) : (beWords ws n v).length = n := by
  rw [beWords, List.length_reverse, wordsLoop_length]

theorem beWords_lt (ws n v : Nat) : ∀ x ∈ beWords ws n v, x < 2 ^ ws :=
  fun x hx => wordsLoop_lt ws n v x (List.mem_reverse.mp hx)

theorem beWords_lt16 (p n v : Nat) : ∀ w ∈ beWords (4 * p) n v, w < 16 ^ p := by
  intro w hw
  have := beWords_lt (4 * p) n v w hw
  rwa [Nat.pow_mul] at this

theorem beWordsValue_beWords (k n v : Nat) : beWordsValue k (beWords k n v) = v % 2 ^ (k * n) := by
  rw [beWordsValue, beWords, List.reverse_reverse, leValue_wordsLoop]

theorem beWordsValue_words {ws n v : Nat} (hv : v < 2 ^ (n * ws)) : beWordsValue ws (beWords ws n v) = v := by
  rw [beWordsValue_beWords, Nat.mul_comm, Nat.mod_eq_of_lt hv]

theorem words_beWordsValue {k : Nat} {xs : List Nat} (h : ∀ x ∈ xs, x < 2 ^ k) :
    beWords k xs.length (beWordsValue k xs) = xs := by
  have := wordsLoop_leValue k xs.reverse (fun x hx => h x (List.mem_reverse.mp hx))
  rw [List.length_reverse] at this
  rw [beWordsValue, beWords, this, List.reverse_reverse]

theorem beWordsValue_lt {k : Nat} {xs : List Nat} (h : ∀ x ∈ xs, x < 2 ^ k) : beWordsValue k xs < 2 ^ (k * xs.length) := by
  have := leValue_lt k xs.reverse (fun x hx => h x (List.mem_reverse.mp hx))
  rwa [List.length_reverse] at this

theorem beWords_add (k a b v : Nat) : beWords k (a + b) v = beWords k a (v / 2 ^ (k * b)) ++ beWords k b v := by
  rw [beWords, Nat.add_comm, wordsLoop_add, List.reverse_append]; rfl

theorem beWords_mod (k n v : Nat) : beWords k n (v % 2 ^ (k * n)) = beWords k n v := by
  rw [beWords, wordsLoop_mod, beWords]

theorem beWords_zero (k n : Nat) : beWords k n 0 = List.replicate n 0 := by
  rw [beWords, wordsLoop_zero, List.reverse_replicate]

/-- the word list as the model returns it: word i counted from the most significant end -/
theorem beWords_range (ws n v : Nat) :
    beWords ws n v = (List.range n).map (fun i => v / 2 ^ (ws * (n - 1 - i)) % 2 ^ ws) := by
  rw [beWords, wordsLoop_range, ← List.map_reverse, reverse_range, List.map_map]
  rfl

theorem beWords_get (ws n v i : Nat) (h : i < n) :
    (beWords ws n v)[i]? = some (v / 2 ^ (ws * (n - 1 - i)) % 2 ^ ws) := by
  rw [beWords_range, List.getElem?_map, List.getElem?_range h]
  rfl

theorem regroup (a k n v : Nat) :
    ((beWords (a * k) n v).map (beWords a k)).flatten = beWords a (k * n) v := by
  unfold beWords
  induction n generalizing v with
  | zero => simp [wordsLoop]
  | succ n ih =>
    simp only [wordsLoop, List.reverse_cons, List.map_append, List.flatten_append, List.map_cons,
      List.map_nil, List.flatten_cons, List.flatten_nil, List.append_nil, ih,
      Nat.and_two_pow_sub_one_eq_mod, Nat.shiftRight_eq_div_pow]
    rw [Nat.mul_succ, Nat.add_comm (k * n) k, wordsLoop_add, List.reverse_append, wordsLoop_mod]

theorem toDigits_words (a : Nat) (ha : 1 ≤ a) {k : Nat} (hk : 1 ≤ k) (n : Nat) (hn : n < 2 ^ (a * k)) :
    List.replicate (k - (Nat.toDigits (2 ^ a) n).length) '0' ++ Nat.toDigits (2 ^ a) n =
      (beWords a k n).map Nat.digitChar := by
  unfold beWords
  have hb : 1 < 2 ^ a := Nat.one_lt_two_pow (by omega)
  -- on k ≥ 1: the last digit is n % 2^a, the others are the statement for n / 2^a (all zeros when n < 2^a)
  induction hk generalizing n with
  | refl =>
    have hlt : n < 2 ^ a := by rwa [Nat.mul_one] at hn
    rw [Nat.toDigits_of_lt_base hlt]
    simp [wordsLoop, Nat.and_two_pow_sub_one_eq_mod, Nat.mod_eq_of_lt hlt]
  | @step k _ ih =>
    have hw : wordsLoop a (k + 1) n = (n % 2 ^ a) :: wordsLoop a k (n / 2 ^ a) := by
      simp only [wordsLoop, Nat.shiftRight_eq_div_pow, Nat.and_two_pow_sub_one_eq_mod]
    rw [hw, List.reverse_cons, List.map_append]
    by_cases hlt : n < 2 ^ a
    · rw [Nat.div_eq_of_lt hlt, wordsLoop_zero, Nat.mod_eq_of_lt hlt, Nat.toDigits_of_lt_base hlt]
      simp
    · have hq : n / 2 ^ a < 2 ^ (a * k) := by
        rw [Nat.mul_succ, Nat.pow_add] at hn
        exact (Nat.div_lt_iff_lt_mul (Nat.two_pow_pos a)).mpr hn
      rw [← ih (n / 2 ^ a) hq, Nat.toDigits_eq_if hb, if_neg hlt]
      simp only [List.length_append, List.length_singleton, List.map_cons, List.map_nil]
      rw [Nat.succ_sub_succ, List.append_assoc]

theorem orShift_spec (k : Nat) (xs : List Nat) (h : ∀ x ∈ xs, x < 2 ^ k) :
    ∀ i acc, acc < 2 ^ (k * i) → orShift k xs i acc = acc + 2 ^ (k * i) * leValue k xs := by
  induction xs with
  | nil => intro i acc _; simp [orShift, leValue]
  | cons x t ih =>
    intro i acc hacc
    have hx := h x (by simp)
    simp only [orShift, leValue]
    -- the accumulator is below 2^(k·i): OR-ing the word shifted to position i into it is adding it
    have e : acc ||| x <<< (k * i) = x <<< (k * i) + acc := by
      rw [Nat.or_comm]; exact (Nat.shiftLeft_add_eq_or_of_lt hacc x).symm
    rw [e, Nat.shiftLeft_eq]
    have hlt : x * 2 ^ (k * i) + acc < 2 ^ (k * (i + 1)) := by
      rw [Nat.mul_succ, Nat.pow_add]
      have : (x + 1) * 2 ^ (k * i) ≤ 2 ^ k * 2 ^ (k * i) := Nat.mul_le_mul_right _ hx
      rw [Nat.add_mul] at this
      rw [Nat.mul_comm (2 ^ (k * i)) (2 ^ k)]
      omega
    rw [ih (fun y hy => h y (by simp [hy])) (i + 1) _ hlt]
    rw [Nat.mul_succ, Nat.pow_add, Nat.mul_add, Nat.mul_comm x, Nat.mul_assoc]
    omega

/-- the fold as `words_to_int` and `packed_to_int` call it: on the reversed word tuple, from 0 -/
theorem orShift_reverse (k : Nat) {xs : List Nat} (h : ∀ x ∈ xs, x < 2 ^ k) :
    orShift k xs.reverse 0 0 = beWordsValue k xs := by
  rw [orShift_spec k xs.reverse (fun x hx => h x (List.mem_reverse.mp hx)) 0 0 (by simp)]; simp [beWordsValue]

theorem horner_eq (k : Nat) (xs : List Nat) : ∀ acc,
    xs.foldl (fun a n => a * 2 ^ k + n) acc = acc * 2 ^ (k * xs.length) + beWordsValue k xs := by
  unfold beWordsValue
  induction xs with
  | nil => intro acc; simp [leValue]
  | cons b t ih =>
    intro acc
    rw [List.foldl_cons, ih, List.reverse_cons, leValue_append]
    simp only [List.length_reverse, leValue, List.length_cons]
    have e : (2 : Nat) ^ (k * (t.length + 1)) = 2 ^ k * 2 ^ (k * t.length) := by
      rw [Nat.mul_succ, Nat.pow_add, Nat.mul_comm]
    rw [e, Nat.add_mul, Nat.mul_assoc]
    simp only [Nat.mul_zero, Nat.add_zero]
    rw [Nat.mul_comm b]; omega

theorem validWords_iff (words : List Nat) (ws nw : Nat) :
    validWords words ws nw = true ↔ words.length = nw ∧ ∀ x ∈ words, x < 2 ^ ws := by
  simp only [validWords, Bool.and_eq_true, beq_iff_eq, List.all_eq_true, decide_eq_true_eq,
    Nat.le_sub_one_iff_lt (Nat.two_pow_pos ws)]

theorem intToWords_ok {v ws nw : Nat} (hv : v < 2 ^ (nw * ws)) :
    intToWords v ws nw = .ok (beWords ws nw v) := by
  simp only [intToWords]; exact if_pos (by omega)

theorem intToWords_error {v ws nw : Nat} (hv : ¬ v < 2 ^ (nw * ws)) : intToWords v ws nw = .error .index := by
  have := Nat.two_pow_pos (nw * ws)
  simp only [intToWords]; rw [if_neg (by omega)]

end NV.Codec
