/-
Lemmas/C04M.lean — the matching helpers of C04: what the sort order of `sorted()` (`netLe`,
Lemmas/TupleOrder) says about version, first address and prefix; the early `break` is sound; the scan of
`all_matching_cidrs` computes a filter of the sorted list, the `smallest` loop tracks its last element
and the `largest` loop its first.
-/
import NetaddrVerif.Lemmas.C04L
import NetaddrVerif.Lemmas.TupleOrder
namespace NV.Contains
open NV

theorem netLe_facts (a b : Net) (h : netLe a b = true) :
    a.ver ≤ b.ver ∧ (a.ver = b.ver → a.first ≤ b.first ∧ (a.first = b.first → a.plen ≤ b.plen)) := by
  unfold netLe at h
  rw [tupleLe_iff] at h
  simp only [Net.sortKey, LexLe] at h
  omega

/-- `ip in cidr` -/
abbrev hit (ip : Addr) (c : Net) : Bool := netContains c (.addr ip)

theorem hit_iff (ip : Addr) (c : Net) (hc : c.WF) (hip : ip.WF) :
    hit ip c = true ↔ (ip.ver = c.ver ∧ c.first ≤ ip.val ∧ ip.val ≤ c.last) :=
  netContains_iff c (.addr ip) hc hip

theorem network_wf (c : Net) (hc : c.WF) : (network c).WF := ⟨hc.1, netFirst_lt _ _ _ hc.2.1⟩

/-- soundness of the early `break`: once a candidate `c` that sorts after the last match `m`
    has its network address outside `m`, no candidate sorting at or after `c` contains `ip` -/
theorem break_sound (ip : Addr) (m c d : Net) (hm : m.WF) (hc : c.WF) (hd : d.WF) (hip : ip.WF)
    (hmh : hit ip m = true) (hmc : netLe m c = true) (hcd : netLe c d = true)
    (hnot : netContains m (.addr (network c)) = false) : hit ip d = false := by
  cases hdh : hit ip d with
  | false => rfl
  | true =>
    exfalso
    have h1 := (hit_iff ip m hm hip).1 hmh
    have h2 := (hit_iff ip d hd hip).1 hdh
    have f1 := netLe_facts m c hmc
    have f2 := netLe_facts c d hcd
    have hcv : c.ver = m.ver := by omega
    have hcf : m.first ≤ c.first ∧ c.first ≤ m.last := by
      have a1 := (f1.2 hcv.symm).1
      have a2 := (f2.2 (by omega)).1
      omega
    have := (netContains_iff m (.addr (network c)) hm (network_wf c hc)).2 ⟨hcv, hcf.1, hcf.2⟩
    rw [this] at hnot
    cases hnot

/-- The scan keeps (third hypothesis): the last match so far contains `ip` and sorts at or before everything
    still to come — what `break_sound` needs when the early exit fires. -/
theorem allLoop_eq (ip : Addr) (hip : ip.WF) : ∀ (l acc : List Net), (∀ c ∈ l, c.WF) →
    l.Pairwise (fun a b => netLe a b = true) →
    (∀ m, acc.getLast? = some m → m.WF ∧ hit ip m = true ∧ ∀ c ∈ l, netLe m c = true) →
    allLoop ip l acc = acc ++ l.filter (hit ip)
  | [], acc, _, _, _ => by simp [allLoop]
  | c :: rest, acc, hwf, hs, hacc => by
    have hwf' : ∀ d ∈ rest, d.WF := fun d hd => hwf d (List.mem_cons_of_mem _ hd)
    have hcwf : c.WF := hwf c (List.mem_cons_self ..)
    rw [List.pairwise_cons] at hs
    unfold allLoop
    by_cases hh : hit ip c = true
    · rw [if_pos hh, List.filter_cons_of_pos hh, allLoop_eq ip hip rest (acc ++ [c]) hwf' hs.2, List.append_assoc]
      · rfl
      · intro m hm
        rw [List.getLast?_concat] at hm
        cases hm
        exact ⟨hcwf, hh, hs.1⟩
    · rw [if_neg hh, List.filter_cons_of_neg hh]
      -- skipping `c` keeps the invariant: the list to come only got shorter
      have hskip : allLoop ip rest acc = acc ++ rest.filter (hit ip) :=
        allLoop_eq ip hip rest acc hwf' hs.2 fun m hm =>
          ⟨(hacc m hm).1, (hacc m hm).2.1, fun d hd => (hacc m hm).2.2 d (List.mem_cons_of_mem _ hd)⟩
      cases hlast : acc.getLast? with
      | none => exact hskip
      | some m =>
        obtain ⟨hmwf, hmh, hmle⟩ := hacc m hlast
        show (if (!netContains m (.addr (network c))) = true then acc else allLoop ip rest acc) = _
        cases hb : netContains m (.addr (network c)) with
        | true => exact hskip
        | false =>
          -- the break: nothing after `c` contains `ip`
          have hnone : rest.filter (hit ip) = [] :=
            List.filter_eq_nil_iff.2 fun d hd => Bool.not_eq_true _ ▸
              break_sound ip m c d hmwf hcwf (hwf' d hd) hip hmh (hmle c (List.mem_cons_self ..)) (hs.1 d hd) hb
          rw [hnone, List.append_nil]
          rfl

theorem smallLoop_eq (ip : Addr) : ∀ (l acc : List Net),
    smallLoop ip l acc.getLast? = (allLoop ip l acc).getLast?
  | [], acc => by simp [smallLoop, allLoop]
  | c :: rest, acc => by
    unfold smallLoop allLoop
    by_cases hh : netContains c (.addr ip) = true
    · rw [if_pos hh, if_pos hh, ← smallLoop_eq ip rest (acc ++ [c]), List.getLast?_concat]
    · rw [if_neg hh, if_neg hh]
      cases hlast : acc.getLast? with
      | none => simp only; rw [← hlast]; exact smallLoop_eq ip rest acc
      | some m =>
        simp only
        by_cases hb : (!netContains m (.addr (network c))) = true
        · rw [if_pos hb, if_pos hb, hlast]
        · rw [if_neg hb, if_neg hb, ← hlast]; exact smallLoop_eq ip rest acc

theorem largeLoop_eq (ip : Addr) : ∀ (l : List Net), largeLoop ip l = (l.filter (hit ip)).head?
  | [] => rfl
  | c :: rest => by
    unfold largeLoop
    by_cases hh : hit ip c = true
    · rw [if_pos hh, List.filter_cons_of_pos hh]; rfl
    · rw [if_neg hh, List.filter_cons_of_neg hh]; exact largeLoop_eq ip rest

/-- among candidates containing the address, `sort_key` order is least specific first -/
theorem plen_le_of_hits (ip : Addr) (a b : Net) (ha : a.WF) (hb : b.WF) (hip : ip.WF)
    (h1 : hit ip a = true) (h2 : hit ip b = true) (hle : netLe a b = true) : a.plen ≤ b.plen := by
  obtain ⟨e1, i1⟩ := (hit_iff ip a ha hip).1 h1
  obtain ⟨e2, i2⟩ := (hit_iff ip b hb hip).1 h2
  have e : b.ver = a.ver := e2.symm.trans e1
  have f := (netLe_facts a b hle).2 e.symm
  have hbv := hb.2.1
  unfold Net.first Net.last at i1 i2
  unfold Net.first at f
  rw [e] at i2 f hbv
  refine Nat.le_of_not_lt fun hlt => ?_
  -- a shorter prefix around the same address starts no later; the sort order says no earlier; then it sorts first
  have hn := nested_of_share (width a.ver) b.val b.plen a.val a.plen ip.val hbv ha.2.1 (Nat.le_of_lt hlt) i2 i1
  have := f.2 (by omega)
  omega

end NV.Contains
