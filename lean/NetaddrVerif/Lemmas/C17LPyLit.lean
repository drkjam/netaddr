/-
Lemmas/C17LPyLit.lean — CPython's `int(s)` in base 10, for every region that meets it (C01's and C03's readers
as well as the nmap notation of C17): the model `Py.pyInt 10` accepts exactly the strings of the declarative
grammar `IntLit` (Lemmas/C17LPyLitDefs.lean), with the grammar's value; hence the characters whose presence
makes `int()` refuse a text.
-/
import NetaddrVerif.Lemmas.C17LPyLitDefs
import NetaddrVerif.Lemmas.StrLit
import NetaddrVerif.Lemmas.Numerals
namespace NV.C17L.PyLit
open NV

theorem digitVal_iff (c : Char) (d : Nat) : Py.digitVal 10 c = some d ↔ DigitCh c d := by
  constructor
  · intro h
    -- below ten only the first range is left: a letter counts ten or more
    obtain ⟨hd, h | h | h⟩ := PyL.digitVal_cases h
    · exact ⟨hd, by rw [show 48 + d = c.toNat by omega, Char.ofNat_toNat]⟩
    · omega
    · omega
  · rintro ⟨hd, rfl⟩
    exact (by decide +kernel : ∀ d, d < 10 → Py.digitVal 10 (Char.ofNat (48 + d)) = some d) d hd

theorem isWs_iff (c : Char) : Py.isWs c = true ↔ Ws c := by
  simp [Py.isWs, Ws, or_assoc]

theorem ws_ascii (c : Char) (h : Ws c) : c.toNat ≤ 127 := by
  rcases h with h | h | h | h | h | h <;> subst h <;> decide

theorem digitCh_ascii (c : Char) (d : Nat) (h : DigitCh c d) : c.toNat ≤ 127 :=
  Nat.le_of_not_lt (PyL.digit_plain ((digitVal_iff c d).mpr h)).2.2.2.2.2.2

theorem digitCh_plain (c : Char) (d : Nat) (h : DigitCh c d) :
    Py.isWs c = false ∧ c ≠ '_' ∧ c ≠ '+' ∧ c ≠ '-' :=
  have p := PyL.digit_plain ((digitVal_iff c d).mpr h)
  ⟨p.1, p.2.2.2.1, p.2.1, p.2.2.1⟩

/-- the step of `valOf` -/
abbrev step10 (a d : Nat) : Nat := 10 * a + d

theorem digitsVal_nil_true (acc : Nat) : Py.digitsVal 10 [] acc true = some acc := by
  simp [Py.digitsVal]

theorem digitsVal_digit {c : Char} {d : Nat} (h : DigitCh c d) (t : List Char) (acc : Nat) (pd : Bool) :
    Py.digitsVal 10 (c :: t) acc pd = Py.digitsVal 10 t (10 * acc + d) true := by
  have hu : (c == '_') = false := by simpa using (digitCh_plain c d h).2.1
  have hd := (digitVal_iff c d).mpr h
  rw [Py.digitsVal]
  simp only [hu, Bool.false_eq_true, if_false, hd, Nat.mul_comm acc 10]

theorem digitsVal_us (t : List Char) (ht : t ≠ []) (acc : Nat) :
    Py.digitsVal 10 ('_' :: t) acc true = Py.digitsVal 10 t acc false := by
  rw [Py.digitsVal]
  cases t with
  | nil => exact absurd rfl ht
  | cons a r => simp

theorem uDigits_ne_nil {t : List Char} {ds : List Nat} (h : UDigits t ds) : t ≠ [] := by
  cases h <;> simp

theorem digitsVal_of_uDigits {t : List Char} {ds : List Nat} (h : UDigits t ds) :
    ∀ acc pd, Py.digitsVal 10 t acc pd = some (ds.foldl step10 acc) := by
  induction h with
  | one hc => intro acc pd; rw [digitsVal_digit hc, digitsVal_nil_true]; rfl
  | cons hc _ ih => intro acc pd; rw [digitsVal_digit hc, ih]; rfl
  | consU hc ht ih =>
    intro acc pd
    rw [digitsVal_digit hc, digitsVal_us _ (uDigits_ne_nil ht), ih]; rfl

/-- what may follow a digit -/
def Tail (t : List Char) (ds : List Nat) : Prop :=
  (t = [] ∧ ds = []) ∨ UDigits t ds ∨ ∃ t', t = '_' :: t' ∧ UDigits t' ds

theorem uDigits_of_tail {c : Char} {d : Nat} {t : List Char} {ds : List Nat}
    (hc : DigitCh c d) (h : Tail t ds) : UDigits (c :: t) (d :: ds) := by
  rcases h with ⟨rfl, rfl⟩ | h | ⟨t', rfl, h⟩
  · exact UDigits.one hc
  · exact UDigits.cons hc h
  · exact UDigits.consU hc h

theorem uDigits_of_digitsVal (t : List Char) : ∀ acc v,
    (Py.digitsVal 10 t acc false = some v → ∃ ds, UDigits t ds ∧ v = ds.foldl step10 acc) ∧
    (Py.digitsVal 10 t acc true = some v → ∃ ds, Tail t ds ∧ v = ds.foldl step10 acc) := by
  induction t with
  | nil =>
    intro acc v
    constructor
    · intro h; rw [PyL.digitsVal_nil] at h; cases h
    · intro h; rw [digitsVal_nil_true] at h
      injection h with h
      exact ⟨[], Or.inl ⟨rfl, rfl⟩, h.symm⟩
  | cons c t ih =>
    intro acc v
    by_cases hu : c = '_'
    · subst hu
      constructor
      · intro h; simp [Py.digitsVal] at h
      · intro h
        by_cases ht : t = []
        · subst ht; simp [Py.digitsVal] at h
        · rw [digitsVal_us t ht] at h
          obtain ⟨ds, hds, hv⟩ := (ih acc v).1 h
          exact ⟨ds, Or.inr (Or.inr ⟨t, rfl, hds⟩), hv⟩
    · have key : ∀ pd, Py.digitsVal 10 (c :: t) acc pd = some v →
          ∃ ds, UDigits (c :: t) ds ∧ v = ds.foldl step10 acc := by
        intro pd h
        cases hd : Py.digitVal 10 c with
        | none =>
          rw [Py.digitsVal] at h
          simp [hu, hd] at h
        | some d =>
          have hc := (digitVal_iff c d).mp hd
          rw [digitsVal_digit hc] at h
          obtain ⟨ds, hds, hv⟩ := (ih _ v).2 h
          exact ⟨d :: ds, uDigits_of_tail hc hds, hv⟩
      constructor
      · exact key false
      · intro h
        obtain ⟨ds, hds, hv⟩ := key true h
        exact ⟨ds, Or.inr (Or.inl hds), hv⟩

theorem digitsVal_iff (t : List Char) (v : Nat) :
    Py.digitsVal 10 t 0 false = some v ↔ ∃ ds, UDigits t ds ∧ v = valOf ds := by
  constructor
  · exact (uDigits_of_digitsVal t 0 v).1
  · rintro ⟨ds, hds, rfl⟩
    exact digitsVal_of_uDigits hds 0 false

theorem dropPref_ten (t : List Char) : PyL.dropPref 10 t = t := by
  unfold PyL.dropPref
  split <;> rfl

theorem signSplit_spec (t : List Char) (h : (PyL.signSplit t).2 ≠ []) :
    ∃ sg, Sign sg (PyL.signSplit t).1 ∧ t = sg ++ (PyL.signSplit t).2 := by
  cases t with
  | nil => exact absurd rfl h
  | cons c r =>
    by_cases hp : c = '+'
    · subst hp; exact ⟨['+'], Sign.plus, rfl⟩
    · by_cases hm : c = '-'
      · subst hm; exact ⟨['-'], Sign.minus, rfl⟩
      · have e : PyL.signSplit (c :: r) = (false, c :: r) := by simp [PyL.signSplit, hp, hm]
        rw [e]; exact ⟨[], Sign.none, rfl⟩

theorem signSplit_sign {sg body : List Char} {neg : Bool} (hs : Sign sg neg)
    (hb : ∃ c d t', body = c :: t' ∧ DigitCh c d) : PyL.signSplit (sg ++ body) = (neg, body) := by
  obtain ⟨c, d, t', rfl, hc⟩ := hb
  refine PyL.signSplit_append ?_ ((digitVal_iff c d).mpr hc) t'
  cases hs with
  | none => exact Or.inl ⟨rfl, rfl⟩
  | plus => exact Or.inr (Or.inl ⟨rfl, rfl⟩)
  | minus => exact Or.inr (Or.inr ⟨rfl, rfl⟩)

theorem uDigits_head {t : List Char} {ds : List Nat} (h : UDigits t ds) :
    ∃ c d t', t = c :: t' ∧ DigitCh c d := by
  cases h with
  | one hc => exact ⟨_, _, _, rfl, hc⟩
  | cons hc _ => exact ⟨_, _, _, rfl, hc⟩
  | consU hc _ => exact ⟨_, _, _, rfl, hc⟩

theorem uDigits_last {t : List Char} {ds : List Nat} (h : UDigits t ds) :
    ∃ t' c d, t = t' ++ [c] ∧ DigitCh c d := by
  induction h with
  | one hc => exact ⟨[], _, _, rfl, hc⟩
  | cons _ _ ih =>
    obtain ⟨t', c, d, rfl, hc⟩ := ih
    exact ⟨_ :: t', c, d, rfl, hc⟩
  | consU _ _ ih =>
    obtain ⟨t', c, d, rfl, hc⟩ := ih
    exact ⟨_ :: '_' :: t', c, d, rfl, hc⟩

theorem uDigits_charset {t : List Char} {ds : List Nat} (h : UDigits t ds) :
    ∀ c ∈ t, c = '_' ∨ ∃ d, DigitCh c d := by
  induction h with
  | one hc => intro x hx; simp at hx; subst hx; exact Or.inr ⟨_, hc⟩
  | cons hc _ ih =>
    intro x hx
    rcases List.mem_cons.mp hx with e | e
    · subst e; exact Or.inr ⟨_, hc⟩
    · exact ih x e
  | consU hc _ ih =>
    intro x hx
    rcases List.mem_cons.mp hx with e | e
    · subst e; exact Or.inr ⟨_, hc⟩
    · rcases List.mem_cons.mp e with e | e
      · exact Or.inl e
      · exact ih x e

theorem sign_charset {sg : List Char} {neg : Bool} (h : Sign sg neg) : ∀ c ∈ sg, c = '+' ∨ c = '-' := by
  cases h <;> simp

theorem intLit_charset (s : List Char) (z : Int) (h : IntLit s z) :
    ∀ c ∈ s, Ws c ∨ c = '+' ∨ c = '-' ∨ c = '_' ∨ ∃ d, DigitCh c d := by
  obtain ⟨pre, sg, body, post, neg, ds, rfl, hpre, hpost, hsg, hbody, _⟩ := h
  intro c hc
  simp only [List.mem_append] at hc
  rcases hc with ((hc | hc) | hc) | hc
  · exact Or.inl (hpre c hc)
  · rcases sign_charset hsg c hc with e | e
    · exact Or.inr (Or.inl e)
    · exact Or.inr (Or.inr (Or.inl e))
  · rcases uDigits_charset hbody c hc with e | e
    · exact Or.inr (Or.inr (Or.inr (Or.inl e)))
    · exact Or.inr (Or.inr (Or.inr (Or.inr e)))
  · exact Or.inl (hpost c hc)

theorem intLit_nonneg (s : List Char) (z : Int) (h : IntLit s z) (hm : '-' ∉ s) : 0 ≤ z := by
  obtain ⟨pre, sg, body, post, neg, ds, rfl, _, _, hsg, _, rfl⟩ := h
  cases hsg with
  | none => simp
  | plus => simp
  | minus => exact absurd (by simp) hm

theorem intLit_ascii (s : List Char) (z : Int) (h : IntLit s z) :
    s.any (fun c => decide (c.toNat > 127)) = false := by
  rw [List.any_eq_false]
  intro c hc
  have : c.toNat ≤ 127 := by
    rcases intLit_charset s z h c hc with e | e | e | e | ⟨d, e⟩
    · exact ws_ascii c e
    · subst e; decide
    · subst e; decide
    · subst e; decide
    · exact digitCh_ascii c d e
  simp; omega

theorem pyInt_iff (s : List Char) (z : Int) : Py.pyInt 10 s = some z ↔ IntLit s z := by
  rw [PyL.pyInt_eq]
  simp only [dropPref_ten]
  constructor
  · intro h
    split at h
    · cases h
    · obtain ⟨pre, post, hs, hpre, hpost⟩ := stripWs_decomp s
      generalize Py.stripWs s = m at h hs
      cases hv : Py.digitsVal 10 (PyL.signSplit m).2 0 false with
      | none => rw [hv] at h; cases h
      | some v =>
        rw [hv] at h
        obtain ⟨ds, hds, rfl⟩ := (digitsVal_iff _ v).mp hv
        obtain ⟨sg, hsg, hm⟩ := signSplit_spec m (uDigits_ne_nil hds)
        refine ⟨pre, sg, (PyL.signSplit m).2, post, (PyL.signSplit m).1, ds, ?_, ?_, ?_, hsg, hds, ?_⟩
        · rw [hs, List.append_assoc pre sg, ← hm]
        · exact fun c hc => (isWs_iff c).mp (hpre c hc)
        · exact fun c hc => (isWs_iff c).mp (hpost c hc)
        · injection h with h; exact h.symm
  · intro h
    rw [intLit_ascii s z h]
    obtain ⟨pre, sg, body, post, neg, ds, rfl, hpre, hpost, hsg, hbody, rfl⟩ := h
    have hhead := uDigits_head hbody
    have hstrip : Py.stripWs (pre ++ sg ++ body ++ post) = sg ++ body := by
      rw [List.append_assoc pre sg body]
      apply stripWs_mid
      · exact fun c hc => (isWs_iff c).mpr (hpre c hc)
      · exact fun c hc => (isWs_iff c).mpr (hpost c hc)
      · obtain ⟨c, d, t', rfl, hc⟩ := hhead
        cases hsg with
        | none => exact ⟨c, t', rfl, (digitCh_plain c d hc).1⟩
        | plus => exact ⟨'+', c :: t', rfl, by decide⟩
        | minus => exact ⟨'-', c :: t', rfl, by decide⟩
      · obtain ⟨t', c, d, rfl, hc⟩ := uDigits_last hbody
        exact ⟨sg ++ t', c, by rw [List.append_assoc], (digitCh_plain c d hc).1⟩
    rw [hstrip, signSplit_sign hsg hhead]
    simp only [Bool.false_eq_true, if_false]
    rw [(digitsVal_iff body (valOf ds)).mpr ⟨ds, hbody, rfl⟩]

example : IntLit " +0_7 ".toList 7 :=
  (pyInt_iff _ _).mp (by decide_lit)
example : IntLit "-0".toList 0 :=
  (pyInt_iff _ _).mp (by decide_lit)
example : ¬ ∃ z, IntLit "1__0".toList z := by
  rintro ⟨z, h⟩
  have hn : Py.pyInt 10 "1__0".toList = none := by decide_lit
  rw [(pyInt_iff _ _).mpr h] at hn
  cases hn
example : ¬ ∃ z, IntLit "_1".toList z := by
  rintro ⟨z, h⟩
  have hn : Py.pyInt 10 "_1".toList = none := by decide_lit
  rw [(pyInt_iff _ _).mpr h] at hn
  cases hn

end NV.C17L.PyLit

/-! ### what `int()` refuses (used by the readers of C01 and C03, hence in `NV.C01L`) -/
namespace NV.C01L

/-- CPython's `int()` refuses anything containing a character that is not whitespace, sign,
    underscore or digit -/
theorem pyInt_bad (x : Char) (hws : Py.isWs x = false) (hxp : (x == '+') = false) (hxm : (x == '-') = false)
    (hu : (x == '_') = false) (hd : Py.digitVal 10 x = none) (s : List Char) (h : x ∈ s) : Py.pyInt 10 s = none := by
  cases hp : Py.pyInt 10 s with
  | none => rfl
  | some z =>
    rcases C17L.PyLit.intLit_charset s z ((C17L.PyLit.pyInt_iff s z).mp hp) x h with e | e | e | e | ⟨d, e⟩
    · rw [(C17L.PyLit.isWs_iff x).mpr e] at hws; cases hws
    · subst e; cases hxp
    · subst e; cases hxm
    · subst e; cases hu
    · rw [(C17L.PyLit.digitVal_iff x d).mpr e] at hd; cases hd

theorem pyInt_colon (s : List Char) (h : ':' ∈ s) : Py.pyInt 10 s = none :=
  pyInt_bad ':' (by decide) (by decide) (by decide) (by decide) (by decide) s h

theorem pyInt_dot (s : List Char) (h : '.' ∈ s) : Py.pyInt 10 s = none :=
  pyInt_bad '.' (by decide) (by decide) (by decide) (by decide) (by decide) s h

namespace Zf
theorem pyInt_slash (s : List Char) (h : '/' ∈ s) : Py.pyInt 10 s = none :=
  pyInt_bad '/' (by decide) (by decide) (by decide) (by decide) (by decide) s h
end Zf

end NV.C01L
