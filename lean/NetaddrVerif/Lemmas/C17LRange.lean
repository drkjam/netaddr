/-
Lemmas/C17LRange.lean — `_iprange_to_glob`: what it prints, when the result is a valid glob, and
that it then denotes exactly the range it was given.
-/
import NetaddrVerif.Lemmas.C17LConv
namespace NV.C17
open NV NV.Glob

/-- the kind of octet `_iprange_to_glob` emits for an octet pair -/
def cls (p : Nat × Nat) : Oct :=
  if p.1 = p.2 then .lit p.1 else if p.1 = 0 ∧ p.2 = 255 then .star else .hyp p.1 p.2

def printOct : Oct → List Char
  | .lit n => dec n
  | .hyp a b => dec a ++ '-' :: dec b
  | .star => ['*']

theorem cls_cases (a b : Nat) :
    (a = b ∧ cls (a, b) = .lit a) ∨ (a = 0 ∧ b = 255 ∧ cls (a, b) = .star) ∨
    (a ≠ b ∧ cls (a, b) = .hyp a b) := by
  unfold cls
  by_cases h1 : a = b
  · exact Or.inl ⟨h1, if_pos h1⟩
  · by_cases h2 : a = 0 ∧ b = 255
    · exact Or.inr (Or.inl ⟨h2.1, h2.2, by rw [if_neg h1, if_pos h2]⟩)
    · exact Or.inr (Or.inr ⟨h1, by rw [if_neg h1, if_neg h2]⟩)

theorem cls_lo_hi (p : Nat × Nat) : (cls p).lo = p.1 ∧ (cls p).hi = p.2 := by
  obtain ⟨a, b⟩ := p
  rcases cls_cases a b with ⟨rfl, hc⟩ | ⟨rfl, rfl, hc⟩ | ⟨-, hc⟩
  all_goals rw [hc]; exact ⟨rfl, rfl⟩

theorem rangeStep_eq (st : GSt) (a b : Nat) :
    rangeStep st a b =
      match cls (a, b) with
      | .lit _ => .ok { st with tokens := st.tokens ++ [printOct (cls (a, b))] }
      | .star => .ok { st with tokens := st.tokens ++ [printOct (cls (a, b))], ast := true }
      | .hyp _ _ =>
        if st.ast || st.hyph then .error .addrConversion
        else .ok { st with tokens := st.tokens ++ [printOct (cls (a, b))], hyph := true } := by
  unfold rangeStep
  rcases cls_cases a b with ⟨rfl, hc⟩ | ⟨rfl, rfl, hc⟩ | ⟨h1, hc⟩
  · rw [hc, if_pos rfl]
    rfl
  · rw [hc]
    rfl
  · have h2 : ¬ (a = 0 ∧ b = 255) := fun h => by
      obtain ⟨rfl, rfl⟩ := h
      cases hc
    rw [hc, if_neg h1, if_neg h2]
    cases st.ast <;> cases st.hyph <;> rfl

theorem rangeLoop_cases : ∀ (ps : List (Nat × Nat)) (st : GSt),
    rangeLoop st ps = .error .addrConversion ∨
    ∃ st', rangeLoop st ps = .ok st' ∧ st'.tokens = st.tokens ++ ps.map fun p => printOct (cls p)
  | [], st => Or.inr ⟨st, rfl, (List.append_nil _).symm⟩
  | (a, b) :: r, st => by
    have step : rangeStep st a b = .error .addrConversion ∨
        ∃ st1, rangeStep st a b = .ok st1 ∧ st1.tokens = st.tokens ++ [printOct (cls (a, b))] := by
      rw [rangeStep_eq]
      split
      · exact Or.inr ⟨_, rfl, rfl⟩
      · exact Or.inr ⟨_, rfl, rfl⟩
      · split
        · exact Or.inl rfl
        · exact Or.inr ⟨_, rfl, rfl⟩
    rw [rangeLoop]
    rcases step with e | ⟨st1, e, ht⟩
    · rw [e]
      exact Or.inl rfl
    · rw [e]
      rcases rangeLoop_cases r st1 with e' | ⟨st', e', ht'⟩
      · exact Or.inl e'
      · exact Or.inr ⟨st', e', by rw [ht', ht, List.append_assoc]; rfl⟩

/-- `_iprange_to_glob` accepts whatever `valid_glob`'s second loop accepts (and literals after a
    hyphen or an asterisk besides, which is why its result is checked by `valid_glob`) -/
theorem rangeStep_of_stepKind {toks : List (List Char)} {s s' : St} {a b : Nat}
    (hk : stepKind s (cls (a, b)) = some s') :
    rangeStep ⟨toks, s.hyph, s.ast⟩ a b = .ok ⟨toks ++ [printOct (cls (a, b))], s'.hyph, s'.ast⟩ := by
  rw [rangeStep_eq]
  generalize cls (a, b) = oc at hk ⊢
  obtain ⟨hy, as⟩ := s
  cases oc <;> cases hy <;> cases as <;> cases hk <;> rfl

theorem rangeLoop_shape : ∀ (ps : List (Nat × Nat)) (toks : List (List Char)) (s : St),
    shapeFrom (s.hyph || s.ast) (ps.map cls) = true → ∃ st', rangeLoop ⟨toks, s.hyph, s.ast⟩ ps = .ok st'
  | [], _, _, _ => ⟨_, rfl⟩
  | (a, b) :: r, toks, s, h => by
    rw [List.map_cons, shapeFrom_step] at h
    cases hk : stepKind s (cls (a, b)) with
    | none => rw [hk] at h; exact nomatch h
    | some s' =>
      rw [hk] at h
      rw [rangeLoop, rangeStep_of_stepKind hk]
      exact rangeLoop_shape r _ s' h

theorem print_no_dot (a b : Nat) : '.' ∉ printOct (cls (a, b)) := by
  rcases cls_cases a b with ⟨-, hc⟩ | ⟨-, -, hc⟩ | ⟨-, hc⟩
  · rw [hc]
    exact not_mem_toDigits_ten (by decide) a
  · rw [hc]
    decide
  · rw [hc, printOct, List.mem_append, List.mem_cons, not_or, not_or]
    exact ⟨not_mem_toDigits_ten (by decide) a, by decide, not_mem_toDigits_ten (by decide) b⟩

theorem parse_print (a b : Nat) (ha : a < 256) (hb : b < 256) :
    parseOct (printOct (cls (a, b))) = if a ≤ b then some (cls (a, b)) else none := by
  obtain ⟨pa, va⟩ := dec_plain a
  obtain ⟨pb, vb⟩ := dec_plain b
  rcases cls_cases a b with ⟨rfl, hc⟩ | ⟨rfl, rfl, hc⟩ | ⟨hne, hc⟩
  · rw [hc, printOct, parseOct_plain pa, va, if_pos (Nat.le_of_lt_succ ha), if_pos (Nat.le_refl _)]
  · rw [hc]
    rfl
  · rw [hc, printOct, parseOct_hyp pa pb, va, vb]
    by_cases hlt : a < b
    · rw [if_pos ⟨hlt, Nat.le_of_lt_succ hb⟩, if_pos (Nat.le_of_lt hlt)]
    · rw [if_neg fun h => hlt h.1, if_neg fun h => hlt (Nat.lt_of_le_of_ne h hne)]

/-- the glob text `_iprange_to_glob` prints when its loop succeeds -/
def joined (lo hi : Nat) : List Char :=
  ['.'].intercalate (((octets4 lo).zip (octets4 hi)).map (fun p => printOct (cls p)))

def kinds (lo hi : Nat) : List Oct := ((octets4 lo).zip (octets4 hi)).map cls

def ordered (lo hi : Nat) : Prop := ∀ p ∈ (octets4 lo).zip (octets4 hi), p.1 ≤ p.2

instance (lo hi : Nat) : Decidable (ordered lo hi) := by unfold ordered; infer_instance

/-- "glob-shaped" (the property's word for the bounds of one glob): octet by octet `lo ≤ hi`, and the octet kinds are
    literals, then at most one hyphenated octet, then only asterisks; exactly when `_iprange_to_glob` gives back a
    valid glob (`singleGlob_eq`) -/
def GlobShaped (lo hi : Nat) : Prop := ordered lo hi ∧ shapeOk (kinds lo hi) = true

instance (lo hi : Nat) : Decidable (GlobShaped lo hi) :=
  inferInstanceAs (Decidable (ordered lo hi ∧ shapeOk (kinds lo hi) = true))

theorem parse_prints : ∀ {ps : List (Nat × Nat)}, (∀ p ∈ ps, p.1 < 256 ∧ p.2 < 256) →
    mapOpt parseOct (ps.map fun p => printOct (cls p)) =
      if ∀ p ∈ ps, p.1 ≤ p.2 then some (ps.map cls) else none
  | [], _ => by simp [mapOpt]
  | (a, b) :: r, h => by
    have hab := h _ (List.mem_cons_self ..)
    rw [List.map_cons, mapOpt, parse_print a b hab.1 hab.2,
      parse_prints fun p hp => h p (List.mem_cons_of_mem _ hp)]
    simp only [List.forall_mem_cons]
    by_cases h1 : a ≤ b
    · by_cases h2 : ∀ p ∈ r, p.1 ≤ p.2
      · rw [if_pos h1, if_pos h2, if_pos ⟨h1, h2⟩]; rfl
      · rw [if_pos h1, if_neg h2, if_neg fun h : _ ∧ _ => h2 h.2]
    · rw [if_neg h1, if_neg fun h : _ ∧ _ => h1 h.1]

theorem globParse_joined (lo hi : Nat) :
    globParse (joined lo hi) = if GlobShaped lo hi then some (kinds lo hi) else none := by
  have hb : ∀ p ∈ (octets4 lo).zip (octets4 hi), p.1 < 256 ∧ p.2 < 256 := fun (a, b) hp =>
    ⟨octets4_lt lo a (List.of_mem_zip hp).1, octets4_lt hi b (List.of_mem_zip hp).2⟩
  unfold globParse joined
  rw [List.splitOn_intercalate '.' ?_ (by simp [octets4]), parse_prints hb]
  · show _ = if ordered lo hi ∧ shapeOk (kinds lo hi) = true then some (kinds lo hi) else none
    unfold ordered kinds
    by_cases h : ∀ p ∈ (octets4 lo).zip (octets4 hi), p.1 ≤ p.2
    · have hl : (((octets4 lo).zip (octets4 hi)).map cls).length = 4 := rfl
      simp only [eq_true h, if_true, hl, true_and]
    · rw [if_neg h, if_neg fun hh : _ ∧ _ => h hh.1]
  · intro l hl
    obtain ⟨p, hp, rfl⟩ := List.mem_map.1 hl
    exact print_no_dot _ _

theorem iprangeToGlob_cases (lo hi : Nat) :
    iprangeToGlob lo hi = .ok (joined lo hi) ∨ iprangeToGlob lo hi = .error .addrConversion := by
  unfold iprangeToGlob joined
  rcases rangeLoop_cases ((octets4 lo).zip (octets4 hi)) ⟨[], false, false⟩ with e | ⟨st, e, ht⟩
  · rw [e]
    exact Or.inr rfl
  · rw [e]
    exact Or.inl (congrArg (fun t => Except.ok (['.'].intercalate t)) ht)

theorem iprangeToGlob_shape (lo hi : Nat) (h : shapeOk (kinds lo hi) = true) :
    iprangeToGlob lo hi = .ok (joined lo hi) := by
  obtain ⟨st, hst⟩ := rangeLoop_shape ((octets4 lo).zip (octets4 hi)) [] ⟨false, false⟩ h
  rcases iprangeToGlob_cases lo hi with h' | h'
  · exact h'
  · unfold iprangeToGlob at h'; rw [hst] at h'; exact absurd h' (by simp)

theorem validGlob_joined (lo hi : Nat) :
    validGlob (joined lo hi) = true ↔ GlobShaped lo hi := by
  rw [validGlob_iff_parse, globParse_joined]
  by_cases hc : GlobShaped lo hi <;> simp [hc]

theorem singleGlob_eq (lo hi : Nat) :
    singleGlob lo hi = if GlobShaped lo hi then .ok (joined lo hi)
      else .error .addrConversion := by
  unfold singleGlob
  by_cases hc : GlobShaped lo hi
  · simp [iprangeToGlob_shape lo hi hc.2, (validGlob_joined lo hi).2 hc, hc]
  · have hv : validGlob (joined lo hi) = false := Bool.eq_false_iff.2 (mt (validGlob_joined lo hi).1 hc)
    rcases iprangeToGlob_cases lo hi with h' | h' <;> simp [h', hv, hc]

/-- "a single glob when the range is glob-shaped" -/
theorem singleGlob_ok_iff (lo hi : Nat) : (∃ g, singleGlob lo hi = .ok g) ↔ GlobShaped lo hi := by
  rw [singleGlob_eq]
  by_cases h : GlobShaped lo hi
  · rw [if_pos h]; exact ⟨fun _ => h, fun _ => ⟨_, rfl⟩⟩
  · rw [if_neg h]; exact ⟨fun ⟨_, e⟩ => (nomatch e), fun h' => absurd h' h⟩

theorem joined_denotes (lo hi : Nat) (hlo : lo < 2 ^ 32) (hhi : hi < 2 ^ 32)
    (hc : GlobShaped lo hi) :
    validGlob (joined lo hi) = true ∧ globToIptuple (joined lo hi) = .ok (lo, hi) := by
  have hp : globParse (joined lo hi) = some (kinds lo hi) := by rw [globParse_joined, if_pos hc]
  have hv := (validGlob_joined lo hi).2 hc
  refine ⟨hv, ?_⟩
  obtain ⟨o0, o1, o2, o3, e, _, _, hip⟩ := globToIptuple_of_parse _ _ hp
  simp only [kinds, octets4, List.zip_cons_cons, List.zip_nil_right, List.map_cons, List.map_nil,
    List.cons.injEq, and_true] at e
  obtain ⟨rfl, rfl, rfl, rfl⟩ := e
  simp only [cls_lo_hi] at hip
  rwa [← octets4, ofOctets_octets4 lo hlo, ← octets4, ofOctets_octets4 hi hhi] at hip

end NV.C17
