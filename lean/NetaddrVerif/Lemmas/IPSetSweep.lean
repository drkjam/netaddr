/-
Lemmas/IPSetSweep.lean — the sweeps of `difference` and `symmetric_difference` over two
ascending key lists, and the `_subtract` they call (C07/C06).

Both sweeps make the same tests on the two heads (`sweep_cases`); what each case does to
"first list minus second list" is a fact about ascending lists alone (`sdiff_*`).  What a sweep
has produced so far is an invariant of its own (`DiffOut`, `XorOut`) with one lemma per kind
of step.
-/
import NetaddrVerif.Lemmas.IPSetIntervals
namespace NV.IPSet
open NV NV.Blk

/-! ### `_subtract` -/

/-- the tuples `_subtract` appends for the addresses `lo ≤ · < hi` of family `ver`: one, or
    none when there is no such address -/
def gapR (ver lo hi : Nat) : List VR := if lo < hi then [(ver, lo, hi - 1)] else []

theorem mem_gapR {ver lo hi : Nat} {r : VR} (h : r ∈ gapR ver lo hi) : r = (ver, lo, hi - 1) ∧ lo < hi := by
  unfold gapR at h
  split at h
  · exact ⟨List.mem_singleton.1 h, ‹_›⟩
  · exact absurd h List.not_mem_nil

theorem pairwise_gapR (ver lo hi : Nat) (R : VR → VR → Prop) : (gapR ver lo hi).Pairwise R := by
  unfold gapR
  split
  · exact List.pairwise_singleton ..
  · exact List.Pairwise.nil

theorem append_gapR (l : List VR) (ver lo hi : Nat) :
    l ++ gapR ver lo hi = if lo < hi then l ++ [(ver, lo, hi - 1)] else l := by
  unfold gapR
  split
  · rfl
  · exact List.append_nil l

theorem rden_gapR (ver lo hi x : Nat) : rden (gapR ver lo hi) x ↔ off ver + lo ≤ x ∧ x < off ver + hi := by
  unfold gapR
  split
  · rw [rden_cons]; simp only [rden_nil, or_false, VR.L, VR.H]; omega
  · simp only [rden_nil, false_iff]; omega

/-- `new` lists, as valid tuples (`VROK`) inside `[lo, hi]`, ascending and without overlap, exactly the part
    of `[lo, hi]` that the keys `pre`, themselves inside `[lo, hi]`, leave free -/
def Compl (lo hi : Nat) (pre : List Net) (new : List VR) : Prop :=
  (∀ x, nden pre x → lo ≤ x ∧ x ≤ hi) ∧
  (∀ r ∈ new, VROK r ∧ lo ≤ r.L ∧ r.H ≤ hi) ∧ new.Pairwise (fun r r' => r.H < r'.L) ∧
  ∀ x, rden new x ↔ (lo ≤ x ∧ x ≤ hi ∧ ¬ nden pre x)

theorem compl_nil {sup : Net} (hs : sup.WF) (p : Nat) :
    Compl (off sup.ver + p) (H sup) [] (gapR sup.ver p (sup.last + 1)) := by
  refine ⟨fun x h => absurd h (nden_nil x), fun r hr => ?_, ?_, fun x => ?_⟩
  · obtain ⟨rfl, hlt⟩ := mem_gapR hr
    exact ⟨⟨hs.1, Nat.le_of_lt_succ hlt, last_lt sup hs⟩, Nat.le_refl _, Nat.le_refl _⟩
  · exact pairwise_gapR ..
  · simp only [rden_gapR, nden_nil, not_false_eq_true, and_true, H]; omega

/-- cutting `[l, h]` out of `[lo, hi]` when what else is cut out (`P`) lies above `h` -/
theorem cut_iff {lo l h hi x : Nat} {P : Prop} (h1 : lo ≤ l) (h2 : l ≤ h) (h3 : h ≤ hi)
    (hP : P → h + 1 ≤ x ∧ x ≤ hi) :
    (lo ≤ x ∧ x < l) ∨ (h + 1 ≤ x ∧ x ≤ hi ∧ ¬ P) ↔ lo ≤ x ∧ x ≤ hi ∧ ¬ ((l ≤ x ∧ x ≤ h) ∨ P) := by
  by_cases p : P
  · have := hP p
    simp only [p, not_true_eq_false, and_false, or_true, or_false, iff_false]; omega
  · simp only [p, not_false_eq_true, and_true, or_false]; omega

theorem compl_cons {ver p hi : Nat} {c : Net} {pre : List Net} {new : List VR} (hc : c.WF)
    (hv : c.ver = ver) (hp : p ≤ c.first) (hhi : H c ≤ hi) (h : Compl (H c + 1) hi pre new) :
    Compl (off ver + p) hi (c :: pre) (gapR ver p c.first ++ new) := by
  obtain ⟨hin, hnew, hpw, hden⟩ := h
  have hLc : L c = off ver + c.first := by rw [← hv]; rfl
  have hl := L_le_H c
  refine ⟨fun x hx => ?_, fun r hr => ?_, ?_, fun x => ?_⟩
  · rcases (nden_cons c pre x).1 hx with h | h
    · omega
    · have := hin x h; omega
  · rcases List.mem_append.1 hr with hr | hr
    · obtain ⟨rfl, hlt⟩ := mem_gapR hr
      have hlast : c.first - 1 < 2 ^ width c.ver :=
        Nat.lt_of_le_of_lt (Nat.sub_le _ _) (Nat.lt_of_le_of_lt (first_le_last c) (last_lt c hc))
      exact ⟨⟨hv ▸ hc.1, Nat.le_sub_one_of_lt hlt, hv ▸ hlast⟩, Nat.le_refl _,
        Nat.le_trans (Nat.add_le_add_left (Nat.sub_le _ _) _) (hLc ▸ Nat.le_trans hl hhi)⟩
    · obtain ⟨q1, q2, q3⟩ := hnew r hr
      exact ⟨q1, by omega, q3⟩
  · refine List.pairwise_append.2 ⟨pairwise_gapR .., hpw, fun r hr r' hr' => ?_⟩
    obtain ⟨rfl, hlt⟩ := mem_gapR hr
    have := (hnew r' hr').2.1
    simp only [VR.H]; omega
  · rw [rden_append, rden_gapR, hden x, nden_cons, ← hLc]
    exact cut_iff (by omega) hl hhi (hin x)

theorem subtractLoop_in {sup prev c : Net} (rest : List Net) (acc : List VR) (h : netIn c sup = true)
    (hlt : prev.last < c.first) :
    subtractLoop sup prev (c :: rest) acc =
      subtractLoop sup c rest (acc ++ gapR sup.ver (prev.last + 1) c.first) := by
  rw [subtractLoop, h, append_gapR]
  by_cases e : prev.last + 1 = c.first
  · simp [e]
  · have : prev.last + 1 < c.first := by omega
    simp [e, this]

/-- the last step of `_subtract`: what is free between the last consumed key and the end -/
def closeGap (sup : Net) (o : List Net × List VR × Net) : List Net × List VR :=
  (o.1, o.2.1 ++ gapR sup.ver (o.2.2.last + 1) (sup.last + 1))

theorem subtract_cons (sup sub : Net) (rest : List Net) (ranges : List VR) :
    subtract sup (sub :: rest) ranges =
      closeGap sup (subtractLoop sup sub rest (ranges ++ gapR sup.ver sup.first sub.first)) := by
  simp only [subtract, closeGap, append_gapR, Nat.lt_succ_iff, Nat.add_sub_cancel, gt_iff_lt]

theorem H_succ_of_in {prev sup : Net} (h : netIn prev sup = true) :
    H prev + 1 = off sup.ver + (prev.last + 1) := by
  rw [← netIn_ver _ _ h]; rfl

/-- the `while` loop of `_subtract` followed by its last step: the keys consumed are a prefix
    `pre` of `subs`, the tuples appended are what `pre` leaves free above `prev` in `sup`, and
    every key left over lies entirely above `sup` -/
theorem subtractLoop_spec (sup : Net) (hsup : Good sup) : ∀ (subs : List Net) (prev : Net) (acc : List VR),
    Asc (prev :: subs) → netIn prev sup = true →
    ∃ pre new rest', closeGap sup (subtractLoop sup prev subs acc) = (rest', acc ++ new) ∧
      subs = pre ++ rest' ∧ (∀ c ∈ rest', H sup < L c) ∧ Compl (H prev + 1) (H sup) pre new := by
  intro subs
  induction subs with
  | nil =>
    intro prev acc _ hin
    exact ⟨[], _, [], rfl, rfl, fun c hc => absurd hc List.not_mem_nil, H_succ_of_in hin ▸ compl_nil hsup.1 _⟩
  | cons c rest ih =>
    intro prev acc hasc hin
    have hvp : prev.ver = sup.ver := netIn_ver _ _ hin
    have hcg : Good c := hasc.1 c (by simp)
    have hlt : H prev < L c := asc_lt hasc c (List.mem_cons_self ..)
    have hcl := L_le_H c
    by_cases h1 : netIn c sup = true
    · have hvc : c.ver = sup.ver := netIn_ver _ _ h1
      have hlt' : prev.last < c.first := by unfold H L at hlt; rw [hvp, hvc] at hlt; omega
      obtain ⟨pre, new, rest', e, hsplit, habove, hc⟩ := ih c _ (asc_tail hasc) h1
      rw [subtractLoop_in rest acc h1 hlt', e, List.append_assoc]
      exact ⟨c :: pre, _, rest', rfl, by rw [hsplit]; rfl, habove,
        H_succ_of_in hin ▸ compl_cons hcg.1 hvc hlt' ((netIn_LH c sup hcg.1 hsup.1).1 h1).2 hc⟩
    · have k := (netIn_LH prev sup (asc_head hasc).1 hsup.1).1 hin
      have hl := L_le_H prev
      have hc : H sup < L c := by
        rcases laminar c sup hcg.1 hsup.1 with h | h | h | h
        · exact absurd h h1
        · have := (netIn_LH sup c hsup.1 hcg.1).1 h; omega
        · omega
        · exact h
      refine ⟨[], _, c :: rest, by rw [subtractLoop, Bool.eq_false_iff.2 h1]; rfl, rfl, fun d hd => ?_,
        H_succ_of_in hin ▸ compl_nil hsup.1 _⟩
      rcases List.mem_cons.1 hd with rfl | hd
      · exact hc
      · have := asc_lt (asc_tail hasc) d hd; omega

/-- `_subtract(sup, subs, idx, ranges)` on the suffix `sub :: rest` of `subs`; the last four conjuncts are
    `Compl (L sup) (H sup) pre new`, spelled out -/
theorem subtract_spec (sup : Net) (hsup : Good sup) (sub : Net) (rest : List Net) (ranges : List VR)
    (hasc : Asc (sub :: rest)) (hin : netIn sub sup = true) :
    ∃ pre new rest', subtract sup (sub :: rest) ranges = (rest', ranges ++ new) ∧
      sub :: rest = pre ++ rest' ∧ rest'.length ≤ rest.length ∧
      (∀ c ∈ rest', H sup < L c) ∧ (∀ x, nden pre x → L sup ≤ x ∧ x ≤ H sup) ∧
      (∀ r ∈ new, VROK r ∧ L sup ≤ r.L ∧ r.H ≤ H sup) ∧ new.Pairwise (fun r r' => r.H < r'.L) ∧
      ∀ x, rden new x ↔ (L sup ≤ x ∧ x ≤ H sup ∧ ¬ nden pre x) := by
  obtain ⟨pre, new, rest', e, hsplit, habove, hc⟩ :=
    subtractLoop_spec sup hsup rest sub (ranges ++ gapR sup.ver sup.first sub.first) hasc hin
  have hsg := asc_head hasc
  have k := (netIn_LH sub sup hsg.1 hsup.1).1 hin
  have hvs : sub.ver = sup.ver := netIn_ver _ _ hin
  have hsf : sup.first ≤ sub.first := by have := k.1; unfold L at this; rw [hvs] at this; omega
  have hlen : rest'.length ≤ rest.length := by
    have := congrArg List.length hsplit; simp at this; omega
  rw [subtract_cons, e, List.append_assoc]
  exact ⟨sub :: pre, _, rest', rfl, by rw [hsplit]; rfl, hlen, habove, compl_cons hsg.1 hvs hsf k.2 hc⟩

/-! ### the heads of two ascending lists -/

/-- the tests of the sweeps on two heads, in the order made, with what each outcome means on
    the line: same block, nested one way or the other, or apart one way or the other -/
theorem sweep_cases (a b : Net) (ha : a.WF) (hb : b.WF) :
    (keyEq a b = true ∧ L a = L b ∧ H a = H b) ∨
    (keyEq a b = false ∧ netIn a b = true ∧ L b ≤ L a ∧ H a ≤ H b) ∨
    (keyEq a b = false ∧ netIn a b = false ∧ netIn b a = true ∧ L a ≤ L b ∧ H b ≤ H a) ∨
    (keyEq a b = false ∧ netIn a b = false ∧ netIn b a = false ∧ netLt a b = true ∧ H a < L b) ∨
    (keyEq a b = false ∧ netIn a b = false ∧ netIn b a = false ∧ netLt a b = false ∧ H b < L a) := by
  cases h1 : keyEq a b
  case true => exact Or.inl ⟨rfl, (keyEq_LH a b ha hb).1 h1⟩
  cases h2 : netIn a b
  case true => exact Or.inr (Or.inl ⟨rfl, rfl, (netIn_LH a b ha hb).1 h2⟩)
  cases h3 : netIn b a
  case true => exact Or.inr (Or.inr (Or.inl ⟨rfl, rfl, rfl, (netIn_LH b a hb ha).1 h3⟩))
  have hapart : H a < L b ∨ H b < L a := by
    rcases laminar a b ha hb with h | h | h | h
    · rw [h2] at h; exact absurd h Bool.false_ne_true
    · rw [h3] at h; exact absurd h Bool.false_ne_true
    · exact Or.inl h
    · exact Or.inr h
  have e4 := netLt_LH a b ha hb hapart
  cases h4 : netLt a b
  case true => exact Or.inr (Or.inr (Or.inr (Or.inl ⟨rfl, rfl, rfl, rfl, e4.1 h4⟩)))
  refine Or.inr (Or.inr (Or.inr (Or.inr ⟨rfl, rfl, rfl, rfl, hapart.resolve_left fun h => ?_⟩)))
  rw [e4.2 h] at h4; exact Bool.noConfusion h4

/-! ### first list minus second list, case by case -/

/-- equal heads cancel: nothing of `as` lies in the head (`asc_above`), so the head decides alone -/
theorem sdiff_same {a b : Net} {as bs : List Net} (hA : Asc (a :: as)) (e1 : L a = L b) (e2 : H a = H b)
    (x : Nat) : nden (a :: as) x ∧ ¬ nden (b :: bs) x ↔ nden as x ∧ ¬ nden bs x := by
  have := asc_above hA x
  rw [nden_cons, nden_cons, e1, e2] at *
  grind

/-- a head inside the other head contributes nothing to the difference -/
theorem sdiff_inside {a b : Net} (as bs : List Net) (h : L b ≤ L a ∧ H a ≤ H b) (x : Nat) :
    nden (a :: as) x ∧ ¬ nden (b :: bs) x ↔ nden as x ∧ ¬ nden (b :: bs) x := by
  rw [nden_cons a, nden_cons b]
  grind

/-- a head entirely below the other list survives whole: everything of `b :: bs` lies at or above `L b` (`asc_ge`) -/
theorem sdiff_below {a b : Net} (as : List Net) {bs : List Net} (hB : Asc (b :: bs)) (h : H a < L b) (x : Nat) :
    nden (a :: as) x ∧ ¬ nden (b :: bs) x ↔ (L a ≤ x ∧ x ≤ H a) ∨ (nden as x ∧ ¬ nden (b :: bs) x) := by
  have := asc_ge hB x
  rw [nden_cons a]
  grind

/-- a head of the second list entirely below the first list takes nothing away: everything of `a :: as` lies at or
    above `L a` (`asc_ge`) -/
theorem sdiff_skip {a b : Net} {as : List Net} (bs : List Net) (hA : Asc (a :: as)) (h : H b < L a) (x : Nat) :
    nden (a :: as) x ∧ ¬ nden (b :: bs) x ↔ nden (a :: as) x ∧ ¬ nden bs x := by
  have := asc_ge hA x
  rw [nden_cons b]
  grind

/-- the second list begins with keys inside the first head and continues above it: the head
    loses those keys, the rest is compared with the rest -/
theorem sdiff_cut {a : Net} {as pre rest : List Net} (hA : Asc (a :: as))
    (hpre : ∀ x, nden pre x → L a ≤ x ∧ x ≤ H a) (hrest : ∀ c ∈ rest, H a < L c) (x : Nat) :
    (nden (a :: as) x ∧ ¬ nden (pre ++ rest) x ↔
      (L a ≤ x ∧ x ≤ H a ∧ ¬ nden pre x) ∨ (nden as x ∧ ¬ nden rest x)) ∧
    (nden (pre ++ rest) x ∧ ¬ nden (a :: as) x ↔ nden rest x ∧ ¬ nden as x) := by
  have k1 := asc_above hA x
  have k2 := hpre x
  have k3 : nden rest x → H a < x := by
    rintro ⟨c, hc, q, _⟩; have := hrest c hc; omega
  rw [nden_cons, nden_append]
  grind

/-! ### the tuples a sweep appends -/

def Within (S : Net → Prop) (r : VR) : Prop := VROK r ∧ ∃ c, S c ∧ L c ≤ r.L ∧ r.H ≤ H c

theorem within_mono {S T : Net → Prop} {r : VR} (h : ∀ c, S c → T c) : Within S r → Within T r
  | ⟨q, c, hc, q'⟩ => ⟨q, c, h c hc, q'⟩

theorem within_above {S : Net → Prop} {r : VR} {t : Nat} (h : ∀ c, S c → t < L c) : Within S r → t < r.L
  | ⟨_, c, hc, q, _⟩ => Nat.lt_of_lt_of_le (h c hc) q

theorem within_net {S : Net → Prop} {c : Net} (hc : c.WF) (h : S c) : Within S (vrOf c) :=
  ⟨vrok_of_net c hc, c, h, Nat.le_refl _, Nat.le_refl _⟩

section
variable {S : Net → Prop} {D D' : Nat → Prop} {a b : Net} {as as' bs pre rest cn : List Net} {new rn : List VR}

/-- what `_subtract` cut out of the head `a`, then tuples inside keys that all lie above `a`:
    inside keys of `S` again, and ascending -/
theorem cut_append (ha : S a) (hc : Compl (L a) (H a) pre new) (hrn : ∀ r ∈ rn, Within S r)
    (hS : ∀ r ∈ rn, H a < r.L) (hpw : rn.Pairwise (fun r r' => r.H < r'.L)) :
    (∀ r ∈ new ++ rn, Within S r) ∧ (new ++ rn).Pairwise (fun r r' => r.H < r'.L) := by
  obtain ⟨_, hnew, hpwn, _⟩ := hc
  refine ⟨fun r hr => ?_, List.pairwise_append.2
    ⟨hpwn, hpw, fun r hr r' hr' => Nat.lt_of_le_of_lt (hnew r hr).2.2 (hS r' hr')⟩⟩
  rcases List.mem_append.1 hr with hr | hr
  · exact ⟨(hnew r hr).1, a, ha, (hnew r hr).2⟩
  · exact hrn r hr

/-! ### `difference` -/

theorem diffSweep_cons (fuel : Nat) (a b : Net) (as bs : List Net) (cs : St) (rs : List VR) :
    diffSweep (fuel + 1) (a :: as) (b :: bs) cs rs =
      if keyEq a b then diffSweep fuel as bs cs rs
      else if netIn a b then diffSweep fuel as (b :: bs) cs rs
      else if netIn b a then
        diffSweep fuel as (subtract a (b :: bs) rs).1 cs (subtract a (b :: bs) rs).2
      else if netLt a b then diffSweep fuel as (b :: bs) (dInsert cs a) rs
      else diffSweep fuel (a :: as) bs cs rs := by
  rw [diffSweep]

/-- what the sweep of `difference` yields from first-operand keys `as` when the addresses to
    produce are `D`: the keys `cn` put into `result_cidrs` are among `as`; the tuples `rn`
    appended to `result_ranges` are valid, ascending, not overlapping, each inside a key of
    `as` and apart from every key in `cn`; together they denote `D` -/
def DiffOut (as : List Net) (D : Nat → Prop) (cn : List Net) (rn : List VR) : Prop :=
  (∀ n ∈ cn, n ∈ as) ∧
  (∀ r ∈ rn, Within (· ∈ as) r) ∧
  rn.Pairwise (fun r r' => r.H < r'.L) ∧
  (∀ n ∈ cn, ∀ r ∈ rn, H n < r.L ∨ r.H < L n) ∧
  ∀ x, (nden cn x ∨ rden rn x) ↔ D x

theorem diffOut_mono (hs : ∀ c, c ∈ as → c ∈ as') (hD : ∀ x, D' x ↔ D x) : DiffOut as D cn rn → DiffOut as' D' cn rn
  | ⟨h1, h2, h3, h4, h5⟩ =>
    ⟨fun n hn => hs n (h1 n hn), fun r hr => within_mono hs (h2 r hr), h3, h4, fun x => (h5 x).trans (hD x).symm⟩

/-- one more key, lying below `as`, kept whole -/
theorem diffOut_keep (hA : Asc (a :: as)) (hD : ∀ x, D' x ↔ (L a ≤ x ∧ x ≤ H a) ∨ D x) :
    DiffOut as D cn rn → DiffOut (a :: as) D' (a :: cn) rn
  | ⟨h1, h2, h3, h4, h5⟩ =>
    ⟨List.forall_mem_cons.2 ⟨List.mem_cons_self .., fun n hn => List.mem_cons_of_mem _ (h1 n hn)⟩,
      fun r hr => within_mono (fun c => List.mem_cons_of_mem a) (h2 r hr), h3,
      List.forall_mem_cons.2 ⟨fun r hr => Or.inl (within_above (asc_lt hA) (h2 r hr)), h4⟩,
      fun x => by rw [nden_cons, or_assoc, h5 x, hD x]⟩

/-- one more key, lying below `as`, of which `_subtract` left the tuples `new` -/
theorem diffOut_cut (hA : Asc (a :: as)) (hc : Compl (L a) (H a) pre new)
    (hD : ∀ x, D' x ↔ (L a ≤ x ∧ x ≤ H a ∧ ¬ nden pre x) ∨ D x) :
    DiffOut as D cn rn → DiffOut (a :: as) D' cn (new ++ rn)
  | ⟨h1, h2, h3, h4, h5⟩ => by
    obtain ⟨q1, q2⟩ := cut_append (S := (· ∈ a :: as)) (List.mem_cons_self ..) hc
      (fun r hr => within_mono (fun c => List.mem_cons_of_mem a) (h2 r hr))
      (fun r hr => within_above (asc_lt hA) (h2 r hr)) h3
    refine ⟨fun n hn => List.mem_cons_of_mem _ (h1 n hn), q1, q2, fun n hn r hr => ?_, fun x => ?_⟩
    · rcases List.mem_append.1 hr with hr | hr
      · exact Or.inr (Nat.lt_of_le_of_lt (hc.2.1 r hr).2.2 (asc_lt hA n (h1 n hn)))
      · exact h4 n hn r hr
    · rw [rden_append, or_left_comm, h5 x, hc.2.2.2 x, hD x]

end

/-- the sweep of `difference`: `DiffOut`, spelled out, for the first operand minus the second -/
theorem diffSweep_spec : ∀ (fuel : Nat) (as bs : List Net) (cs : St) (rs : List VR),
    Asc as → Asc bs → as.length + bs.length < fuel →
    ∃ cn rn, diffSweep fuel as bs cs rs = (cn.foldl dInsert cs, rs ++ rn) ∧
      (∀ n ∈ cn, n ∈ as) ∧
      (∀ r ∈ rn, VROK r ∧ ∃ a ∈ as, L a ≤ r.L ∧ r.H ≤ H a) ∧
      rn.Pairwise (fun r r' => r.H < r'.L) ∧
      (∀ n ∈ cn, ∀ r ∈ rn, H n < r.L ∨ r.H < L n) ∧
      ∀ x, (nden cn x ∨ rden rn x) ↔ (nden as x ∧ ¬ nden bs x) := by
  intro fuel
  induction fuel with
  | zero => intro as bs cs rs _ _ h; omega
  | succ fuel ih =>
    intro as bs cs rs hA hB hlen
    match as, bs with
    | [], bs =>
      exact ⟨[], [], by simp [diffSweep], nofun, nofun, List.Pairwise.nil, nofun,
        fun x => by simp [nden_nil, rden_nil]⟩
    | a :: as, [] =>
      exact ⟨a :: as, [], by simp [diffSweep], fun n h => h, nofun, List.Pairwise.nil, fun _ _ _ h => (nomatch h),
        fun x => by simp [nden_nil, rden_nil]⟩
    | a :: as, b :: bs =>
      have hA' := asc_tail hA
      have hB' := asc_tail hB
      simp only [List.length_cons] at hlen
      rw [diffSweep_cons]
      rcases sweep_cases a b (asc_head hA).1 (asc_head hB).1 with
        ⟨t1, e1, e2⟩ | ⟨t1, t2, g⟩ | ⟨t1, t2, t3, g⟩ | ⟨t1, t2, t3, t4, g⟩ | ⟨t1, t2, t3, t4, g⟩
      · -- the same block in both operands
        rw [if_pos t1]
        obtain ⟨cn, rn, e, h⟩ := ih as bs cs rs hA' hB' (by omega)
        exact ⟨cn, rn, e, diffOut_mono (fun c => List.mem_cons_of_mem a) (sdiff_same hA e1 e2) h⟩
      · -- own block inside a block of the other operand: dropped
        simp only [t1, t2, Bool.false_eq_true, if_false, if_true]
        obtain ⟨cn, rn, e, h⟩ := ih as (b :: bs) cs rs hA' hB (by simp only [List.length_cons]; omega)
        exact ⟨cn, rn, e, diffOut_mono (fun c => List.mem_cons_of_mem a) (sdiff_inside as bs g) h⟩
      · -- blocks of the other operand inside an own block: `_subtract`
        simp only [t1, t2, t3, Bool.false_eq_true, if_false, if_true]
        obtain ⟨pre, new, rest', es, hsplit, hl, habove, hc⟩ := subtract_spec a (asc_head hA) b bs rs hB t3
        obtain ⟨cn, rn, e, h⟩ := ih as rest' cs (rs ++ new) hA' (asc_suffix pre (hsplit ▸ hB)) (by omega)
        rw [es, hsplit]
        exact ⟨cn, new ++ rn, by rw [e, List.append_assoc],
          diffOut_cut hA hc (fun x => (sdiff_cut hA hc.1 habove x).1) h⟩
      · -- own block entirely below: kept whole
        simp only [t1, t2, t3, t4, Bool.false_eq_true, if_false, if_true]
        obtain ⟨cn, rn, e, h⟩ := ih as (b :: bs) (dInsert cs a) rs hA' hB
          (by simp only [List.length_cons]; omega)
        exact ⟨a :: cn, rn, e, diffOut_keep hA (sdiff_below as hB g) h⟩
      · -- block of the other operand entirely below: skipped
        simp only [t1, t2, t3, t4, Bool.false_eq_true, if_false]
        obtain ⟨cn, rn, e, h⟩ := ih (a :: as) bs cs rs hA hB' (by simp only [List.length_cons]; omega)
        exact ⟨cn, rn, e, diffOut_mono (fun c hc => hc) (sdiff_skip bs hA g) h⟩

/-! ### `symmetric_difference` -/

theorem xorSweep_nil_right (fuel : Nat) (as : List Net) (rs : List VR) :
    xorSweep (fuel + 1) as [] rs = rs ++ as.map vrOf := by
  cases as <;> rfl

theorem xorSweep_cons (fuel : Nat) (a b : Net) (as bs : List Net) (rs : List VR) :
    xorSweep (fuel + 1) (a :: as) (b :: bs) rs =
      if keyEq a b then xorSweep fuel as bs rs
      else if netIn a b then
        xorSweep fuel (subtract b (a :: as) rs).1 bs (subtract b (a :: as) rs).2
      else if netIn b a then
        xorSweep fuel as (subtract a (b :: bs) rs).1 (subtract a (b :: bs) rs).2
      else if netLt a b then xorSweep fuel as (b :: bs) (rs ++ [vrOf a])
      else xorSweep fuel (a :: as) bs (rs ++ [vrOf b]) := by
  rw [xorSweep]

/-- what the sweep of `symmetric_difference` appends for the keys `as`, `bs` of the two
    operands: valid tuples, ascending, not overlapping, each inside a key of one operand,
    denoting the addresses in exactly one of them.  Nothing in it tells the operands apart,
    so each step of the sweep is proved for one operand and holds for the other -/
def XorOut (as bs : List Net) (rn : List VR) : Prop :=
  (∀ r ∈ rn, Within (fun c => c ∈ as ∨ c ∈ bs) r) ∧
  rn.Pairwise (fun r r' => r.H < r'.L) ∧
  ∀ x, rden rn x ↔ (nden as x ∧ ¬ nden bs x) ∨ (nden bs x ∧ ¬ nden as x)

section
variable {a b : Net} {as bs pre rest : List Net} {new rn : List VR}

theorem xorOut_symm : XorOut as bs rn → XorOut bs as rn
  | ⟨h1, h2, h3⟩ => ⟨fun r hr => within_mono (fun _ => Or.symm) (h1 r hr), h2, fun x => (h3 x).trans Or.comm⟩

theorem xorOut_nil (hA : Asc as) : XorOut as [] (as.map vrOf) := by
  refine ⟨fun r hr => ?_, List.pairwise_map.2 hA.2, fun x => by rw [rden_map_vrOf]; simp [nden_nil]⟩
  obtain ⟨n, hn, rfl⟩ := List.mem_map.1 hr
  exact within_net (hA.1 n hn).1 (Or.inl hn)

theorem xorOut_same (hA : Asc (a :: as)) (hB : Asc (b :: bs)) (e1 : L a = L b) (e2 : H a = H b) :
    XorOut as bs rn → XorOut (a :: as) (b :: bs) rn
  | ⟨h1, h2, h3⟩ =>
    ⟨fun r hr => within_mono (fun _ => Or.imp (List.mem_cons_of_mem a) (List.mem_cons_of_mem b)) (h1 r hr), h2,
      fun x => (h3 x).trans (or_congr (sdiff_same hA e1 e2 x) (sdiff_same hB e1.symm e2.symm x)).symm⟩

/-- the keys `pre` of the other operand lie inside the head `a`, the rest of them above it:
    `_subtract` leaves the tuples `new` of `a` -/
theorem xorOut_cut (hA : Asc (a :: as)) (hc : Compl (L a) (H a) pre new) (hrest : ∀ c ∈ rest, H a < L c) :
    XorOut as rest rn → XorOut (a :: as) (pre ++ rest) (new ++ rn)
  | ⟨h1, h2, h3⟩ => by
    obtain ⟨q1, q2⟩ := cut_append (S := fun c => c ∈ a :: as ∨ c ∈ pre ++ rest) (Or.inl (List.mem_cons_self ..)) hc
      (fun r hr => within_mono (fun _ => Or.imp (List.mem_cons_of_mem a) (List.mem_append_right pre)) (h1 r hr))
      (fun r hr => within_above (fun c hc => hc.elim (asc_lt hA c) (hrest c)) (h1 r hr)) h2
    have k := sdiff_cut hA hc.1 hrest
    exact ⟨q1, q2, fun x => by rw [rden_append, h3 x, hc.2.2.2 x, (k x).1, (k x).2, or_assoc]⟩

theorem xorOut_emit (hA : Asc (a :: as)) (hB : Asc (b :: bs)) (g : H a < L b) :
    XorOut as (b :: bs) rn → XorOut (a :: as) (b :: bs) (vrOf a :: rn)
  | ⟨h1, h2, h3⟩ =>
    ⟨List.forall_mem_cons.2 ⟨within_net (asc_head hA).1 (Or.inl (List.mem_cons_self ..)),
        fun r hr => within_mono (fun _ => Or.imp_left (List.mem_cons_of_mem a)) (h1 r hr)⟩,
      List.pairwise_cons.2 ⟨fun r hr => within_above (fun c hc => hc.elim (asc_lt hA c)
        fun hc => Nat.lt_of_lt_of_le g (asc_le hB c hc)) (h1 r hr), h2⟩,
      fun x => by rw [rden_cons, h3 x, sdiff_below as hB g x, sdiff_skip as hB g x, or_assoc]; exact Iff.rfl⟩

end

/-- the sweep of `symmetric_difference`: `XorOut`, spelled out -/
theorem xorSweep_spec : ∀ (fuel : Nat) (as bs : List Net) (rs : List VR),
    Asc as → Asc bs → as.length + bs.length < fuel →
    ∃ rn, xorSweep fuel as bs rs = rs ++ rn ∧
      (∀ r ∈ rn, VROK r ∧ ∃ c, (c ∈ as ∨ c ∈ bs) ∧ L c ≤ r.L ∧ r.H ≤ H c) ∧
      rn.Pairwise (fun r r' => r.H < r'.L) ∧
      ∀ x, rden rn x ↔ (nden as x ∧ ¬ nden bs x) ∨ (nden bs x ∧ ¬ nden as x) := by
  intro fuel
  induction fuel with
  | zero => intro as bs rs _ _ h; omega
  | succ fuel ih =>
    intro as bs rs hA hB hlen
    match as, bs with
    | as, [] => exact ⟨as.map vrOf, xorSweep_nil_right fuel as rs, xorOut_nil hA⟩
    | [], b :: bs => exact ⟨(b :: bs).map vrOf, rfl, xorOut_symm (xorOut_nil hB)⟩
    | a :: as, b :: bs =>
      have hA' := asc_tail hA
      have hB' := asc_tail hB
      simp only [List.length_cons] at hlen
      rw [xorSweep_cons]
      rcases sweep_cases a b (asc_head hA).1 (asc_head hB).1 with
        ⟨t1, e1, e2⟩ | ⟨t1, t2, g⟩ | ⟨t1, t2, t3, g⟩ | ⟨t1, t2, t3, t4, g⟩ | ⟨t1, t2, t3, t4, g⟩
      · -- the same block in both operands
        rw [if_pos t1]
        obtain ⟨rn, e, h⟩ := ih as bs rs hA' hB' (by omega)
        exact ⟨rn, e, xorOut_same hA hB e1 e2 h⟩
      · -- own blocks inside a block of the other operand
        simp only [t1, t2, Bool.false_eq_true, if_false, if_true]
        obtain ⟨pre, new, rest', es, hsplit, hl, habove, hc⟩ := subtract_spec b (asc_head hB) a as rs hA t2
        obtain ⟨rn, e, h⟩ := ih rest' bs (rs ++ new) (asc_suffix pre (hsplit ▸ hA)) hB' (by omega)
        rw [es, hsplit]
        exact ⟨new ++ rn, by rw [e, List.append_assoc], xorOut_symm (xorOut_cut hB hc habove (xorOut_symm h))⟩
      · -- blocks of the other operand inside an own block
        simp only [t1, t2, t3, Bool.false_eq_true, if_false, if_true]
        obtain ⟨pre, new, rest', es, hsplit, hl, habove, hc⟩ := subtract_spec a (asc_head hA) b bs rs hB t3
        obtain ⟨rn, e, h⟩ := ih as rest' (rs ++ new) hA' (asc_suffix pre (hsplit ▸ hB)) (by omega)
        rw [es, hsplit]
        exact ⟨new ++ rn, by rw [e, List.append_assoc], xorOut_cut hA hc habove h⟩
      · -- own block entirely below
        simp only [t1, t2, t3, t4, Bool.false_eq_true, if_false, if_true]
        obtain ⟨rn, e, h⟩ := ih as (b :: bs) (rs ++ [vrOf a]) hA' hB (by simp only [List.length_cons]; omega)
        exact ⟨vrOf a :: rn, by rw [e, List.append_assoc]; rfl, xorOut_emit hA hB g h⟩
      · -- block of the other operand entirely below
        simp only [t1, t2, t3, t4, Bool.false_eq_true, if_false]
        obtain ⟨rn, e, h⟩ := ih (a :: as) bs (rs ++ [vrOf b]) hA hB' (by simp only [List.length_cons]; omega)
        exact ⟨vrOf b :: rn, by rw [e, List.append_assoc]; rfl, xorOut_symm (xorOut_emit hB hA g (xorOut_symm h))⟩

end NV.IPSet
