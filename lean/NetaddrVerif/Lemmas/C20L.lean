import NetaddrVerif.Model.Splitter
import NetaddrVerif.Props.C09
/-! Lemmas/C20L.lean — for C20 (SubnetSplitter): address sets of block lists, the set operations of
    the model (`unionSet`, `moveToFront`), and the repeated `cidr_exclude` of
    `extract_subnet`.  `keyEq_iff`, `keyEq_refl` are about `Splitter.keyEq`; the IPSet model has a copy of
    that function with the same two lemmas (Lemmas/IPSetState). -/
namespace NV.C20L
open NV NV.Splitter NV.C09L

def nmem (n : Net) (a : Nat) : Prop := n.first ≤ a ∧ a ≤ n.last
def Dj (x y : Net) : Prop := ∀ a, ¬ (nmem x a ∧ nmem y a)
def Cov (l : List Net) (a : Nat) : Prop := ∃ n ∈ l, nmem n a

theorem dj_symm {x y : Net} (h : Dj x y) : Dj y x := fun a ⟨h1, h2⟩ => h a ⟨h2, h1⟩

theorem cov_append (l₁ l₂ : List Net) (a : Nat) : Cov (l₁ ++ l₂) a ↔ Cov l₁ a ∨ Cov l₂ a := by
  simp only [Cov, List.mem_append, or_and_right, exists_or]

theorem cov_cons (x : Net) (l : List Net) (a : Nat) : Cov (x :: l) a ↔ nmem x a ∨ Cov l a := by
  simp [Cov]

theorem cov_perm {l₁ l₂ : List Net} (h : l₁.Perm l₂) (a : Nat) : Cov l₁ a ↔ Cov l₂ a := by
  simp only [Cov]
  constructor
  · rintro ⟨n, hn, hm⟩; exact ⟨n, h.mem_iff.1 hn, hm⟩
  · rintro ⟨n, hn, hm⟩; exact ⟨n, h.mem_iff.2 hn, hm⟩

theorem pairwise_dj_perm {l₁ l₂ : List Net} (h : l₁.Perm l₂) (hp : l₁.Pairwise Dj) : l₂.Pairwise Dj :=
  (h.pairwise_iff (fun h => dj_symm h)).1 hp

theorem keyEq_iff (a b : Net) : keyEq a b = true ↔ a.ver = b.ver ∧ a.first = b.first ∧ a.last = b.last := by
  simp [keyEq, and_assoc]

theorem keyEq_refl (a : Net) : keyEq a a = true := (keyEq_iff a a).2 ⟨rfl, rfl, rfl⟩

theorem nmem_of_keyEq {a b : Net} (h : keyEq a b = true) (x : Nat) : nmem a x ↔ nmem b x := by
  obtain ⟨_, h1, h2⟩ := (keyEq_iff a b).1 h
  simp only [nmem, h1, h2]

/-! ### `self._subnets.union(set(remaining))` -/

theorem unionSet_cons (s : List Net) (r : Net) (rem : List Net) :
    unionSet s (r :: rem) = unionSet (if s.any (keyEq r) then s else s ++ [r]) rem := by
  simp [unionSet]

theorem unionSet_sublist : ∀ (rem s : List Net), (unionSet s rem).Sublist (s ++ rem) := by
  intro rem
  induction rem with
  | nil => intro s; simp [unionSet]
  | cons r rem ih =>
    intro s
    rw [unionSet_cons]
    by_cases h : s.any (keyEq r)
    · rw [if_pos h]
      exact (ih s).trans (List.Sublist.append_left (List.sublist_cons_self r rem) s)
    · rw [if_neg h]
      have := ih (s ++ [r])
      simpa [List.append_assoc] using this

theorem unionSet_cov : ∀ (rem s : List Net) (a : Nat), Cov (unionSet s rem) a ↔ Cov s a ∨ Cov rem a := by
  intro rem
  induction rem with
  | nil => intro s a; simp [unionSet, Cov]
  | cons r rem ih =>
    intro s a
    rw [unionSet_cons, ih, cov_cons]
    by_cases h : s.any (keyEq r)
    · obtain ⟨x, hx, hk⟩ := List.any_eq_true.1 h
      have hr : nmem r a → Cov s a := fun h1 => ⟨x, hx, (nmem_of_keyEq hk a).1 h1⟩
      rw [if_pos h, ← or_assoc, or_iff_left_of_imp hr]
    · have : Cov [r] a ↔ nmem r a := by simp [Cov]
      rw [if_neg h, cov_append, this, or_assoc]

/-! ### `moveToFront` only changes the modelled iteration order -/

theorem moveToFront_perm (s : List Net) (h : Net) : (moveToFront s h).Perm s := by
  unfold moveToFront
  cases hf : s.find? (keyEq h) with
  | none => exact List.Perm.refl _
  | some x => exact find_cons_eraseP_perm _ s x hf

theorem reorder_perm (s : List Net) (h : Option Net) : (reorder s h).Perm s := by
  cases h with
  | none => exact List.Perm.refl _
  | some x => exact moveToFront_perm s x

/-! ### repeated `cidr_exclude` -/

/-- pairwise disjoint list of networks of width `w` -/
def PD (w : Nat) (l : List Pfx) : Prop := l.Pairwise (fun x y => ∀ a, ¬ (x.mem w a ∧ y.mem w a))
def pcov (w : Nat) (l : List Pfx) (a : Nat) : Prop := ∃ x ∈ l, x.mem w a

/-- one `cidr_exclude`: disjoint pieces of T, well-formed, covering exactly T \ E -/
theorem exclude_facts (w : Nat) (t e : Pfx) (ht : PWF w t) (he : PWF w e) :
    PD w (cidrExclude w t e) ∧ (∀ x ∈ cidrExclude w t e, PWF w x) ∧
    (∀ a, pcov w (cidrExclude w t e) a ↔ t.mem w a ∧ ¬ e.mem w a) := by
  obtain ⟨hden, hcan, hwf⟩ := C09.exclude_spec w t e ht he
  have hmem : ∀ x ∈ cidrExclude w t e, ∀ a, x.mem w a ↔ (blk w x).mem a :=
    fun x hx a => aligned_mem w x.val x.plen a (hwf x hx).1.val_lt (hwf x hx).2.2
  refine ⟨?_, fun x hx => (hwf x hx).1, ?_⟩
  · have hp := hcan.pairwise_disj
    unfold blks at hp
    rw [List.pairwise_map] at hp
    unfold PD
    apply List.Pairwise.imp_of_mem _ hp
    intro x y hx hy hd a ⟨h1, h2⟩
    exact hd a ⟨(hmem x hx a).1 h1, (hmem y hy a).1 h2⟩
  · intro a
    rw [← hden a]
    simp only [pcov, den, blks, List.mem_map]
    constructor
    · rintro ⟨x, hx, hm⟩; exact ⟨blk w x, ⟨x, hx, rfl⟩, (hmem x hx a).1 hm⟩
    · rintro ⟨b, ⟨x, hx, rfl⟩, hm⟩; exact ⟨x, hx, (hmem x hx a).2 hm⟩

/-- one turn of the `for merged in …` loop: every remaining block is cut around `m` -/
theorem flatMap_exclude (w : Nat) (m : Pfx) (hm : PWF w m) (l : List Pfx) (hpd : PD w l) (hwf : ∀ x ∈ l, PWF w x) :
    PD w (l.flatMap (fun b => cidrExclude w b m)) ∧
    (∀ x ∈ l.flatMap (fun b => cidrExclude w b m), PWF w x) ∧
    (∀ a, pcov w (l.flatMap (fun b => cidrExclude w b m)) a ↔ pcov w l a ∧ ¬ m.mem w a) := by
  refine ⟨?_, ?_, ?_⟩
  · unfold PD
    rw [List.pairwise_flatMap]
    refine ⟨fun b hb => (exclude_facts w b m (hwf b hb) hm).1, ?_⟩
    apply List.Pairwise.imp_of_mem _ hpd
    intro b c hb hc hd x hx y hy a ⟨h1, h2⟩
    have hx' := ((exclude_facts w b m (hwf b hb) hm).2.2 a).1 ⟨x, hx, h1⟩
    have hy' := ((exclude_facts w c m (hwf c hc) hm).2.2 a).1 ⟨y, hy, h2⟩
    exact hd a ⟨hx'.1, hy'.1⟩
  · intro x hx
    obtain ⟨b, hb, hxb⟩ := List.mem_flatMap.1 hx
    exact (exclude_facts w b m (hwf b hb) hm).2.1 x hxb
  · intro a
    constructor
    · rintro ⟨x, hx, hma⟩
      obtain ⟨b, hb, hxb⟩ := List.mem_flatMap.1 hx
      have := ((exclude_facts w b m (hwf b hb) hm).2.2 a).1 ⟨x, hxb, hma⟩
      exact ⟨⟨b, hb, this.1⟩, this.2⟩
    · rintro ⟨⟨b, hb, hba⟩, hnm⟩
      obtain ⟨x, hx, hxa⟩ := ((exclude_facts w b m (hwf b hb) hm).2.2 a).2 ⟨hba, hnm⟩
      exact ⟨x, List.mem_flatMap.2 ⟨b, hb, hx⟩, hxa⟩

/-- the whole loop: what remains is the start list minus every merged block -/
theorem subtract_fold (w : Nat) : ∀ (ms : List Net) (l : List Pfx),
    (∀ m ∈ ms, PWF w ⟨m.val, m.plen⟩) → PD w l → (∀ x ∈ l, PWF w x) →
    let r := ms.foldl (fun rem m => rem.flatMap (fun b => cidrExclude w b ⟨m.val, m.plen⟩)) l
    PD w r ∧ (∀ x ∈ r, PWF w x) ∧
    (∀ a, pcov w r a ↔ pcov w l a ∧ ¬ ∃ m ∈ ms, (Pfx.mk m.val m.plen).mem w a) := by
  intro ms
  induction ms with
  | nil => intro l _ hpd hwf; simp only [List.foldl_nil]; exact ⟨hpd, hwf, by simp⟩
  | cons m ms ih =>
    intro l hms hpd hwf
    simp only [List.foldl_cons]
    obtain ⟨h1, h2, h3⟩ := flatMap_exclude w ⟨m.val, m.plen⟩ (hms m (by simp)) l hpd hwf
    obtain ⟨i1, i2, i3⟩ := ih _ (fun m' hm' => hms m' (List.mem_cons_of_mem _ hm')) h1 h2
    refine ⟨i1, i2, ?_⟩
    intro a
    rw [i3 a, h3 a]
    simp only [List.mem_cons, exists_eq_or_imp]
    constructor
    · rintro ⟨⟨hl, hnm⟩, hn⟩; exact ⟨hl, fun h => h.elim hnm hn⟩
    · rintro ⟨hl, hn⟩; exact ⟨⟨hl, fun h => hn (Or.inl h)⟩, fun h => hn (Or.inr h)⟩

end NV.C20L
