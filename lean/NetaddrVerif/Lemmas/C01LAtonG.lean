/-
Lemmas/C01LAtonG.lean — the modelled `inet_aton` accepts EXACTLY the BSD shorthand texts:
`Text4.aton s = some v ↔ AtonText s v`, where `AtonText` is a declarative description (1-4 dot-separated C literals
with the conventional ranges and value, optionally followed by a C-locale whitespace character and then anything, no
NUL anywhere).  `aton` is the NUL check, the part loop, the range of the last part and the packing of the parts; "if" is
the four per-count readings of Lemmas/C01LAton.lean, "only if" inverts `strtoul` and one round of the part loop.  Read
off the grammar: the body consists of hex digits, `x`, `X` and dots, so a character outside these is accepted only
behind a blank; and the value is below 2^32.
-/
import NetaddrVerif.Lemmas.C01LAton
namespace NV.C01L.AtonG
open NV NV.Text4 NV.C01L

/-- the dotted body: one to four C literals; non-last parts are bytes, the last part fills
    the remaining 32 / 24 / 16 / 8 bits -/
inductive Body : List Char → Nat → Prop
  | one (l0 : List Char) (a : Nat) (h0 : IsCLit l0 a) (ha : a ≤ 0xffffffff) : Body l0 a
  | two (l0 l1 : List Char) (a b : Nat) (h0 : IsCLit l0 a) (h1 : IsCLit l1 b)
      (ha : a ≤ 255) (hb : b ≤ 0xffffff) : Body (l0 ++ '.' :: l1) (a * 16777216 + b)
  | three (l0 l1 l2 : List Char) (a b c : Nat) (h0 : IsCLit l0 a) (h1 : IsCLit l1 b) (h2 : IsCLit l2 c)
      (ha : a ≤ 255) (hb : b ≤ 255) (hc : c ≤ 0xffff) :
      Body (l0 ++ '.' :: (l1 ++ '.' :: l2)) (a * 16777216 + b * 65536 + c)
  | four (l0 l1 l2 l3 : List Char) (a b c d : Nat) (h0 : IsCLit l0 a) (h1 : IsCLit l1 b) (h2 : IsCLit l2 c)
      (h3 : IsCLit l3 d) (ha : a ≤ 255) (hb : b ≤ 255) (hc : c ≤ 255) (hd : d ≤ 255) :
      Body (l0 ++ '.' :: (l1 ++ '.' :: (l2 ++ '.' :: l3))) (a * 16777216 + b * 65536 + c * 256 + d)

def AtonText (s : List Char) (v : Nat) : Prop :=
  Char.ofNat 0 ∉ s ∧ ∃ body tail, s = body ++ tail ∧ Body body v ∧ Tail tail

theorem aton_eq_some (s : List Char) (v : Nat) : Text4.aton s = some v ↔
    Char.ofNat 0 ∉ s ∧ ∃ parts val, atonLoop 4 s [] = some (parts, val) ∧ val ≤ maxLast parts.length ∧
      v = hiOf parts ||| val := by
  rw [← no_nul_iff, aton_eq]
  cases s.any (fun c => c.toNat == 0) with
  | true => exact ⟨fun h => (nomatch h), fun h => (nomatch h.1)⟩
  | false =>
    cases atonLoop 4 s [] with
    | none => exact ⟨fun h => (nomatch h), fun ⟨_, _, _, h, _⟩ => (nomatch h)⟩
    | some r =>
      obtain ⟨parts, val⟩ := r
      simp only [Bool.false_eq_true, if_false, true_and, Option.some.injEq, Prod.mk.injEq]
      constructor
      · intro h
        split at h
        · cases h
        · rename_i hle
          exact ⟨parts, val, ⟨rfl, rfl⟩, Nat.le_of_not_gt hle, (Option.some.inj h).symm⟩
      · rintro ⟨_, _, ⟨rfl, rfl⟩, hle, rfl⟩
        rw [if_neg (Nat.not_lt.mpr hle)]

theorem aton_of_text (s : List Char) (v : Nat) (h : AtonText s v) : Text4.aton s = some v := by
  obtain ⟨hnul, body, tail, rfl, hb, ht⟩ := h
  have hn : Char.ofNat 0 ∉ tail := fun h => hnul (List.mem_append_right _ h)
  cases hb with
  | one _ _ h0 ha => rw [aton_one body v tail h0 ht hn, if_pos ha]
  | two l0 l1 a b h0 h1 ha hb =>
    rw [List.append_assoc, List.cons_append, aton_two l0 l1 a b tail h0 h1 ha ht hn, if_pos hb]
  | three l0 l1 l2 a b c h0 h1 h2 ha hb hc =>
    rw [List.append_assoc, List.cons_append, List.append_assoc, List.cons_append,
      aton_three l0 l1 l2 a b c tail h0 h1 h2 ha hb ht hn, if_pos hc]
  | four l0 l1 l2 l3 a b c d h0 h1 h2 h3 ha hb hc hd =>
    rw [List.append_assoc, List.cons_append, List.append_assoc, List.cons_append, List.append_assoc, List.cons_append,
      aton_four l0 l1 l2 l3 a b c d tail h0 h1 h2 h3 ha hb hc ht hn, if_pos hd]

/-- whatever `strtoul` consumed from a string starting with a digit is a C literal of the value
    returned, unless it stopped right at the `x` of a bare `0x` -/
theorem strtoul_inv (c : Char) (t : List Char) (hc : isDec c = true) (val : Nat) (rest : List Char)
    (h : strtoul (c :: t) = (val, rest)) (hrest : ∀ c' r', rest = c' :: r' → c' ≠ 'x' ∧ c' ≠ 'X') :
    ∃ lit, IsCLit lit val ∧ c :: t = lit ++ rest := by
  by_cases h0 : c = '0'
  · subst h0
    by_cases hx : ∃ x r, t = x :: r ∧ (x == 'x' || x == 'X') = true
    · obtain ⟨x, r, rfl, hx⟩ := hx
      rw [strtoul_hex x r hx] at h
      split at h
      · cases h
        obtain ⟨n1, n2⟩ := hrest x r rfl
        rw [Bool.or_eq_true, beq_iff_eq, beq_iff_eq] at hx
        exact absurd hx (not_or.mpr ⟨n1, n2⟩)
      · rename_i hne
        cases h
        refine ⟨'0' :: x :: r.takeWhile isHexC, .hex x _ (by simpa using hx) ?_ (List.all_eq_true.mp List.all_takeWhile), ?_⟩
        · exact fun e => hne (List.isEmpty_iff.mpr e)
        · rw [List.cons_append, List.cons_append, List.takeWhile_append_dropWhile]
    · rw [strtoul_oct t fun x r e => Bool.eq_false_iff.mpr fun hxx => hx ⟨x, r, e, hxx⟩] at h
      cases h
      exact ⟨'0' :: t.takeWhile isOct, .oct _ (List.all_eq_true.mp List.all_takeWhile),
        by rw [List.cons_append, List.takeWhile_append_dropWhile]⟩
  · rw [strtoul_dec c t hc h0] at h
    cases h
    exact ⟨c :: t.takeWhile isDec, .dec c _ hc h0 (List.all_eq_true.mp List.all_takeWhile),
      by rw [List.cons_append, List.takeWhile_append_dropWhile]⟩

theorem atonLoop_inv (f : Nat) (s : List Char) (parts ps : List Nat) (val : Nat)
    (h : atonLoop (f + 1) s parts = some (ps, val)) :
    ∃ lit x, IsCLit lit x ∧ x ≤ 0xffffffff ∧
      ((∃ tail, s = lit ++ tail ∧ Tail tail ∧ ps = parts ∧ val = x) ∨
       (∃ r, s = lit ++ '.' :: r ∧ parts.length < 3 ∧ x ≤ 255 ∧ atonLoop f r (parts ++ [x]) = some (ps, val))) := by
  cases s with
  | nil => cases h
  | cons c t =>
    by_cases hc : isDec c = true
    · generalize hst : strtoul (c :: t) = st
      obtain ⟨x, rest⟩ := st
      rw [atonLoop_cons f c t parts hc x rest hst, afterPart.eq_def] at h
      by_cases hx : x > 0xffffffff
      · rw [if_pos hx] at h; cases h
      · rw [if_neg hx] at h
        -- wherever the loop goes on or returns, `strtoul` has stopped at a stopping point
        have lit_of : Stop rest → ∃ lit, IsCLit lit x ∧ c :: t = lit ++ rest := fun hs =>
          strtoul_inv c t hc x rest hst (stop_not_x rest hs)
        cases rest with
        | nil =>
          cases h
          obtain ⟨lit, hl, e⟩ := lit_of (Or.inl rfl)
          exact ⟨lit, _, hl, Nat.le_of_not_gt hx, Or.inl ⟨[], e, Or.inl rfl, rfl, rfl⟩⟩
        | cons c' rest' =>
          dsimp only at h
          by_cases hdot : c' = '.'
          · subst hdot
            rw [if_pos (beq_self_eq_true _)] at h
            by_cases hg : parts.length ≥ 3 || x > 255
            · rw [if_pos hg] at h; cases h
            · rw [if_neg hg] at h
              simp only [Bool.or_eq_true, decide_eq_true_eq, not_or] at hg
              obtain ⟨lit, hl, e⟩ := lit_of (stop_dot rest')
              exact ⟨lit, x, hl, Nat.le_of_not_gt hx, Or.inr ⟨rest', e, by omega, by omega, h⟩⟩
          · rw [if_neg (by rwa [beq_iff_eq])] at h
            by_cases hsp : isCSpace c' = true
            · rw [if_pos hsp] at h
              cases h
              have ht : Tail (c' :: rest') := Or.inr ⟨c', rest', rfl, hsp⟩
              obtain ⟨lit, hl, e⟩ := lit_of (stop_of_tail _ ht)
              exact ⟨lit, _, hl, Nat.le_of_not_gt hx, Or.inl ⟨c' :: rest', e, ht, rfl, rfl⟩⟩
            · rw [if_neg hsp] at h; cases h
    · rw [atonLoop, if_pos (by rw [Bool.not_eq_true']; exact Bool.eq_false_iff.mpr hc)] at h
      cases h

/-- the value is not followed backwards through the packing: some `v'` will do, because the forward direction
    (`aton_of_text`) makes the value a function of the text and `aton_iff` reads `v' = v` off it -/
theorem text_of_aton (s : List Char) (v : Nat) (h : Text4.aton s = some v) : ∃ v', AtonText s v' := by
  obtain ⟨hnul, parts, val, hloop, hmax, _⟩ := (aton_eq_some s v).mp h
  obtain ⟨l0, a, h0, ha, ⟨tail, rfl, ht, rfl, rfl⟩ | ⟨r1, rfl, _, ha', hloop⟩⟩ := atonLoop_inv 3 s [] parts val hloop
  · exact ⟨_, hnul, l0, tail, rfl, .one l0 _ h0 ha, ht⟩
  obtain ⟨l1, b, h1, hb, ⟨tail, rfl, ht, rfl, rfl⟩ | ⟨r2, rfl, _, hb', hloop⟩⟩ := atonLoop_inv 2 r1 _ parts val hloop
  · exact ⟨_, hnul, l0 ++ '.' :: l1, tail, by simp, .two l0 l1 a _ h0 h1 ha' hmax, ht⟩
  obtain ⟨l2, c, h2, hc, ⟨tail, rfl, ht, rfl, rfl⟩ | ⟨r3, rfl, _, hc', hloop⟩⟩ := atonLoop_inv 1 r2 _ parts val hloop
  · exact ⟨_, hnul, l0 ++ '.' :: (l1 ++ '.' :: l2), tail, by simp, .three l0 l1 l2 a b _ h0 h1 h2 ha' hb' hmax, ht⟩
  obtain ⟨l3, d, h3, hd, ⟨tail, rfl, ht, rfl, rfl⟩ | ⟨r4, _, hlen, _⟩⟩ := atonLoop_inv 0 r3 _ parts val hloop
  · exact ⟨_, hnul, l0 ++ '.' :: (l1 ++ '.' :: (l2 ++ '.' :: l3)), tail, by simp,
      .four l0 l1 l2 l3 a b c _ h0 h1 h2 h3 ha' hb' hc' hmax, ht⟩
  · exact absurd hlen (by simp)

theorem aton_iff (s : List Char) (v : Nat) : Text4.aton s = some v ↔ AtonText s v := by
  constructor
  · intro h
    obtain ⟨v', h'⟩ := text_of_aton s v h
    have := aton_of_text s v' h'
    rw [h] at this
    injection this with e
    subst e; exact h'
  · exact aton_of_text s v

theorem atonText_functional (s : List Char) (v v' : Nat) (h : AtonText s v) (h' : AtonText s v') : v = v' := by
  have a := aton_of_text s v h
  have b := aton_of_text s v' h'
  rw [a] at b; injection b

theorem litChar_dot {l r : List Char} (hl : ∀ c ∈ l, LitChar c) (hr : ∀ c ∈ r, LitChar c) :
    ∀ c ∈ l ++ '.' :: r, LitChar c := by
  intro c hc
  rcases List.mem_append.mp hc with e | e
  · exact hl c e
  · rcases List.mem_cons.mp e with rfl | e
    · exact Or.inr (Or.inr (Or.inr rfl))
    · exact hr c e

theorem body_chars (b : List Char) (v : Nat) (h : Body b v) : ∀ c ∈ b, LitChar c := by
  cases h with
  | one _ _ h0 _ => exact lit_chars _ _ h0
  | two _ _ _ _ h0 h1 _ _ => exact litChar_dot (lit_chars _ _ h0) (lit_chars _ _ h1)
  | three _ _ _ _ _ _ h0 h1 h2 _ _ _ =>
    exact litChar_dot (lit_chars _ _ h0) (litChar_dot (lit_chars _ _ h1) (lit_chars _ _ h2))
  | four _ _ _ _ _ _ _ _ h0 h1 h2 h3 _ _ _ _ =>
    exact litChar_dot (lit_chars _ _ h0)
      (litChar_dot (lit_chars _ _ h1) (litChar_dot (lit_chars _ _ h2) (lit_chars _ _ h3)))

/-- `inet_aton` reads literal characters up to the first C whitespace: a character that is neither
    has a whitespace character before it -/
theorem aton_stop (l : List Char) (c : Char) (r : List Char) (v : Nat) (hc : ¬ LitChar c)
    (h : Text4.aton (l ++ c :: r) = some v) : isCSpace c = true ∨ ∃ d ∈ l, isCSpace d = true := by
  obtain ⟨_, body, tail, e, hb, ht⟩ := (aton_iff _ v).mp h
  have first : ∀ d t', tail = d :: t' → isCSpace d = true := by
    rintro d t' rfl
    rcases ht with e | ⟨_, _, e, hsp⟩
    · cases e
    · cases e; exact hsp
  -- `c` is not in the body, so the tail begins at `c` or inside `l`
  rcases List.append_eq_append_iff.mp e with ⟨a', rfl, e2⟩ | ⟨c', rfl, e2⟩
  · cases a' with
    | nil => exact Or.inl (first c r e2.symm)
    | cons a a'' => cases e2; exact absurd (body_chars _ v hb _ (by simp)) hc
  · cases c' with
    | nil => exact Or.inl (first c r e2)
    | cons d c'' => exact Or.inr ⟨d, by simp, first d _ e2⟩

theorem aton_bad (l : List Char) (c : Char) (r : List Char) (hc : ¬ LitChar c) (hsp : isCSpace c = false)
    (hl : ∀ d ∈ l, isCSpace d = false) : Text4.aton (l ++ c :: r) = none := by
  cases h : Text4.aton (l ++ c :: r) with
  | none => rfl
  | some v =>
    rcases aton_stop l c r v hc h with e | ⟨d, hd, e⟩
    · rw [hsp] at e; cases e
    · rw [hl d hd] at e; cases e

theorem aton_lt {s : List Char} {v : Nat} (h : Text4.aton s = some v) : v < 2 ^ 32 := by
  obtain ⟨_, body, tail, _, hb, _⟩ := (aton_iff s v).mp h
  cases hb <;> omega
end NV.C01L.AtonG
