/-
Lemmas/C17LOctets.lean — a 32-bit number and its four octets: `ofOctets` (most significant first)
is inverse to `Glob.octets4`, whose members are below 256.
-/
import NetaddrVerif.Model.Glob
import NetaddrVerif.Lemmas.Numerals
namespace NV.C17
open NV NV.Glob

def ofOctets : List Nat → Nat
  | [] => 0
  | a :: r => a * 256 ^ r.length + ofOctets r

theorem ofOctets4 (a b c d : Nat) : ofOctets [a, b, c, d] = a * 2 ^ 24 + b * 2 ^ 16 + c * 2 ^ 8 + d := by
  simp only [ofOctets, List.length_cons, List.length_nil, Nat.reducePow, Nat.reduceAdd]
  omega

theorem ofOctets_lt : ∀ {ds : List Nat}, (∀ d ∈ ds, d < 256) → ofOctets ds < 256 ^ ds.length
  | [], _ => Nat.one_pos
  | a :: r, h => by
    have ha := h a (List.mem_cons_self ..)
    have hr := ofOctets_lt fun d hd => h d (List.mem_cons_of_mem _ hd)
    have := Nat.mul_le_mul_right (256 ^ r.length) (show a + 1 ≤ 256 from ha)
    rw [Nat.add_mul, Nat.one_mul] at this
    rw [ofOctets, List.length_cons, Nat.pow_succ, Nat.mul_comm _ 256]
    omega

theorem ofOctets_octets4 (v : Nat) (h : v < 2 ^ 32) : ofOctets (octets4 v) = v := by
  have hm : ∀ n : Nat, n % 256 < 256 := fun n => Nat.mod_lt n (by decide)
  rw [octets4, ofOctets4]
  exact ((quad_digits (hm _) (hm _) (hm _) (hm _) v).2 ⟨h, rfl, rfl, rfl, rfl⟩).symm

theorem octets4_ofOctets {a b c d : Nat} (ha : a < 256) (hb : b < 256) (hc : c < 256) (hd : d < 256) :
    octets4 (ofOctets [a, b, c, d]) = [a, b, c, d] := by
  obtain ⟨-, e1, e2, e3, e4⟩ := (quad_digits ha hb hc hd _).1 rfl
  rw [ofOctets4, octets4, e1, e2, e3, e4]

theorem octets4_lt (v : Nat) : ∀ x ∈ octets4 v, x < 256 := by
  intro x hx
  simp only [octets4, List.mem_cons, List.not_mem_nil, or_false] at hx
  rcases hx with rfl | rfl | rfl | rfl <;> omega

end NV.C17
