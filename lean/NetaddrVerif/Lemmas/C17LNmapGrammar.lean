/-
Lemmas/C17LNmapGrammar.lean — an independent grammar of the nmap octet-list form, written with
explicit productions (nothing here is defined through `Py.pyInt` or through the model's own
first-hyphen split), and its equivalence with what the model of `_nmap_octet_target_values` /
`_generate_nmap_octet_ranges` accepts.

    spec     ::= octets '.' octets '.' octets '.' octets
    octets   ::= element ( ',' element )*
    element  ::= natlit                        -- one value, 0..255
               | lo '-' hi                     -- lo <= hi <= 255
    lo       ::= ε (= 0)   | natlit
    hi       ::= ε (= 255) | natlit | negzero  -- "0--0" is the octet 0: int('-0') = 0
    natlit   ::= ws* '+'? udigits ws*          -- int() leniencies: blanks around, a plus sign,
    negzero  ::= ws* '-' udigits ws*  (value 0)   leading zeros, single '_' between digits
    udigits  ::= digit ( '_'? digit )*

`'*'` is NOT accepted (int('*') raises), an empty element is not accepted ("1,,2", "1,").
-/
import NetaddrVerif.Lemmas.C17LNmap
import NetaddrVerif.Lemmas.C17LPyLit
namespace NV.C17L.Grammar
open NV NV.Nmap NV.C17 NV.C17L.PyLit

/-- `ws* '+'? udigits ws*` with its value -/
def NatLit (s : List Char) (n : Nat) : Prop :=
  ∃ (pre sg body post : List Char) (ds : List Nat),
    s = pre ++ sg ++ body ++ post ∧ (∀ c ∈ pre, Ws c) ∧ (∀ c ∈ post, Ws c) ∧ (sg = [] ∨ sg = ['+']) ∧
    UDigits body ds ∧ n = valOf ds

/-- `ws* '-' udigits ws*` of value zero ("-0", " -00", "-0_0") -/
def NegZero (s : List Char) : Prop :=
  ∃ (pre body post : List Char) (ds : List Nat),
    s = pre ++ ['-'] ++ body ++ post ∧ (∀ c ∈ pre, Ws c) ∧ (∀ c ∈ post, Ws c) ∧ UDigits body ds ∧ valOf ds = 0

/-- left side of a hyphen -/
inductive LoLit : List Char → Nat → Prop
  | empty : LoLit [] 0
  | lit {l : List Char} {a : Nat} : NatLit l a → LoLit l a

/-- right side of a hyphen -/
inductive HiLit : List Char → Nat → Prop
  | empty : HiLit [] 255
  | lit {r : List Char} {b : Nat} : NatLit r b → HiLit r b
  | negzero {r : List Char} : NegZero r → HiLit r 0

/-- one comma-separated element and the closed octet interval it denotes -/
inductive Element : List Char → Nat → Nat → Prop
  | single {t : List Char} {n : Nat} : NatLit t n → n ≤ 255 → Element t n n
  | range {l r : List Char} {a b : Nat} : LoLit l a → HiLit r b → a ≤ b → b ≤ 255 → Element (l ++ '-' :: r) a b

/-- `element (',' element)*` -/
def OctetList (tok : List Char) : Prop :=
  ∃ els : List (List Char), els ≠ [] ∧ tok = [','].intercalate els ∧ ∀ el ∈ els, ∃ lo hi, Element el lo hi

def OctetListDen (tok : List Char) (v : Nat) : Prop :=
  ∃ els : List (List Char), tok = [','].intercalate els ∧ (∀ el ∈ els, ∃ lo hi, Element el lo hi) ∧
    ∃ el ∈ els, ∃ lo hi, Element el lo hi ∧ lo ≤ v ∧ v ≤ hi

/-- `octets '.' octets '.' octets '.' octets` -/
def OctetsSpec (spec : List Char) : Prop :=
  ∃ t0 t1 t2 t3, spec = ['.'].intercalate [t0, t1, t2, t3] ∧ OctetList t0 ∧ OctetList t1 ∧ OctetList t2 ∧ OctetList t3

def OctetsSpecDen (spec : List Char) (a : Nat) : Prop :=
  ∃ t0 t1 t2 t3, spec = ['.'].intercalate [t0, t1, t2, t3] ∧ a < 2 ^ 32 ∧ OctetListDen t0 (a / 2 ^ 24 % 256) ∧
    OctetListDen t1 (a / 2 ^ 16 % 256) ∧ OctetListDen t2 (a / 2 ^ 8 % 256) ∧ OctetListDen t3 (a % 256)

/-- the separators of the notation -/
def Special (c : Char) : Prop := c = '.' ∨ c = ',' ∨ c = '/' ∨ c = ':'

theorem ws_not_special {c : Char} (h : Ws c) : ¬ Special c := by
  rcases h with h | h | h | h | h | h <;> subst h <;> unfold Special <;> decide

theorem ws_not_hyphen {c : Char} (h : Ws c) : c ≠ '-' := by
  rcases h with h | h | h | h | h | h <;> subst h <;> decide

theorem digit_not_special {c : Char} {d : Nat} (h : DigitCh c d) : ¬ Special c := by
  obtain ⟨hd, rfl⟩ := h
  exact (by unfold Special; decide +kernel : ∀ d, d < 10 → ¬ Special (Char.ofNat (48 + d))) d hd

theorem intLit_nat_iff (s : List Char) (n : Nat) : IntLit s (n : Int) ↔ NatLit s n ∨ (NegZero s ∧ n = 0) := by
  constructor
  · rintro ⟨pre, sg, body, post, neg, ds, rfl, hpre, hpost, hsg, hbody, hz⟩
    cases hsg with
    | none =>
      left
      simp only [Bool.false_eq_true, if_false] at hz
      exact ⟨pre, [], body, post, ds, rfl, hpre, hpost, Or.inl rfl, hbody, by omega⟩
    | plus =>
      left
      simp only [Bool.false_eq_true, if_false] at hz
      exact ⟨pre, ['+'], body, post, ds, rfl, hpre, hpost, Or.inr rfl, hbody, by omega⟩
    | minus =>
      right
      simp only [if_true] at hz
      exact ⟨⟨pre, body, post, ds, rfl, hpre, hpost, hbody, by omega⟩, by omega⟩
  · rintro (⟨pre, sg, body, post, ds, rfl, hpre, hpost, hsg, hbody, rfl⟩ | ⟨⟨pre, body, post, ds, rfl, hpre, hpost, hbody, h0⟩, rfl⟩)
    · rcases hsg with e | e <;> subst e
      · exact ⟨pre, [], body, post, false, ds, rfl, hpre, hpost, .none, hbody, by simp⟩
      · exact ⟨pre, ['+'], body, post, false, ds, rfl, hpre, hpost, .plus, hbody, by simp⟩
    · exact ⟨pre, ['-'], body, post, true, ds, rfl, hpre, hpost, .minus, hbody, by simp [h0]⟩

theorem intLit_not_special {s : List Char} {z : Int} (h : IntLit s z) : ∀ c ∈ s, ¬ Special c := by
  intro c hc
  rcases intLit_charset s z h c hc with e | e | e | e | ⟨d, e⟩
  · exact ws_not_special e
  · subst e; unfold Special; decide
  · subst e; unfold Special; decide
  · subst e; unfold Special; decide
  · exact digit_not_special e

theorem natLit_no_hyphen {s : List Char} {n : Nat} (h : NatLit s n) : '-' ∉ s := by
  obtain ⟨pre, sg, body, post, ds, rfl, hpre, hpost, hsg, hbody, _⟩ := h
  intro hc
  simp only [List.mem_append] at hc
  rcases hc with ((hc | hc) | hc) | hc
  · exact ws_not_hyphen (hpre _ hc) rfl
  · rcases hsg with rfl | rfl <;> cases hc
    rename_i h; cases h
  · rcases uDigits_charset hbody _ hc with e | ⟨d, e⟩
    · cases e
    · exact (digitCh_plain _ d e).2.2.2 rfl
  · exact ws_not_hyphen (hpost _ hc) rfl

theorem natLit_ne_nil {s : List Char} {n : Nat} (h : NatLit s n) : s ≠ [] := by
  obtain ⟨pre, sg, body, post, ds, rfl, _, _, _, hbody, _⟩ := h
  have := uDigits_ne_nil hbody
  intro e
  simp only [List.append_eq_nil_iff] at e
  exact this e.1.2

theorem negZero_ne_nil {s : List Char} (h : NegZero s) : s ≠ [] := by
  obtain ⟨pre, body, post, ds, rfl, _, _, _, _⟩ := h
  simp

theorem element_chars {el : List Char} {lo hi : Nat} (h : Element el lo hi) : ∀ c ∈ el, ¬ Special c := by
  have nat : ∀ {t : List Char} {n : Nat}, NatLit t n → ∀ c ∈ t, ¬ Special c :=
    fun hn => intLit_not_special ((intLit_nat_iff _ _).2 (Or.inl hn))
  cases h with
  | single hn _ => exact nat hn
  | range hl hr _ _ =>
    intro c hc
    simp only [List.mem_append, List.mem_cons] at hc
    rcases hc with hc | hc | hc
    · cases hl with
      | empty => cases hc
      | lit hn => exact nat hn c hc
    · subst hc; unfold Special; decide
    · cases hr with
      | empty => cases hc
      | lit hn => exact nat hn c hc
      | negzero hz => exact intLit_not_special ((intLit_nat_iff _ 0).2 (Or.inr ⟨hz, rfl⟩)) c hc

theorem element_ne_nil {el : List Char} {lo hi : Nat} (h : Element el lo hi) : el ≠ [] := by
  cases h with
  | single hn _ => exact natLit_ne_nil hn
  | range _ _ _ _ => simp

theorem negZero_hyphen {s : List Char} (h : NegZero s) : '-' ∈ s := by
  obtain ⟨pre, body, post, ds, rfl, _⟩ := h
  simp

theorem pyInt_nat_iff (t : List Char) (ht : '-' ∉ t) (n : Nat) : Py.pyInt 10 t = some (n : Int) ↔ NatLit t n := by
  rw [pyInt_iff, intLit_nat_iff]
  constructor
  · rintro (h | ⟨h, _⟩)
    · exact h
    · exact absurd (negZero_hyphen h) ht
  · exact Or.inl

theorem pyInt_nonneg_of_no_hyphen (t : List Char) (ht : '-' ∉ t) (z : Int) (h : Py.pyInt 10 t = some z) : 0 ≤ z :=
  intLit_nonneg t z ((pyInt_iff t z).1 h) ht

/-- `if not t: t = d` … `int(t)` in `_nmap_octet_target_values` -/
theorem intOr_eq_some (t : List Char) (d n : Int) :
    (if t = [] then some d else Py.pyInt 10 t) = some n ↔ (t = [] ∧ n = d) ∨ (t ≠ [] ∧ Py.pyInt 10 t = some n) := by
  by_cases he : t = []
  · rw [if_pos he, Option.some.injEq]
    exact ⟨fun h => Or.inl ⟨he, h.symm⟩, fun h => h.elim (fun h => h.2.symm) fun h => absurd he h.1⟩
  · rw [if_neg he]
    exact ⟨fun h => Or.inr ⟨he, h⟩, fun h => h.elim (fun h => absurd h.1 he) And.right⟩

/-- `if not left: left = 0 ... int(left)` on a text without '-' -/
theorem lo_iff (l : List Char) (hl : '-' ∉ l) (n : Nat) :
    (if l = [] then some (0 : Int) else Py.pyInt 10 l) = some (n : Int) ↔ LoLit l n := by
  rw [intOr_eq_some]
  constructor
  · rintro (⟨rfl, h⟩ | ⟨-, h⟩)
    · obtain rfl : n = 0 := by omega
      exact .empty
    · exact .lit ((pyInt_nat_iff l hl n).1 h)
  · intro h
    cases h with
    | empty => exact Or.inl ⟨rfl, rfl⟩
    | lit hn => exact Or.inr ⟨natLit_ne_nil hn, (pyInt_nat_iff l hl n).2 hn⟩

/-- `if not right: right = 255 ... int(right)` -/
theorem hi_iff (r : List Char) (n : Nat) :
    (if r = [] then some (255 : Int) else Py.pyInt 10 r) = some (n : Int) ↔ HiLit r n := by
  rw [intOr_eq_some, pyInt_iff, intLit_nat_iff]
  constructor
  · rintro (⟨rfl, h⟩ | ⟨-, h | ⟨h, rfl⟩⟩)
    · obtain rfl : n = 255 := by omega
      exact .empty
    · exact .lit h
    · exact .negzero h
  · intro h
    cases h with
    | empty => exact Or.inl ⟨rfl, rfl⟩
    | lit hn => exact Or.inr ⟨natLit_ne_nil hn, Or.inl hn⟩
    | negzero hz => exact Or.inr ⟨negZero_ne_nil hz, Or.inr ⟨hz, rfl⟩⟩

theorem elemBounds_iff (el : List Char) (lo hi : Nat) : elemBounds el = some (lo, hi) ↔ Element el lo hi := by
  constructor
  · intro h
    unfold elemBounds at h
    by_cases hm : '-' ∈ el
    · simp only [hm, if_true] at h
      obtain ⟨hel, hl⟩ := cut_of_mem hm
      generalize el.takeWhile (· != '-') = l at h hel hl
      generalize (el.dropWhile (· != '-')).drop 1 = r at h hel
      subst hel
      cases ha : (if l = [] then some (0 : Int) else Py.pyInt 10 l) with
      | none => simp [ha] at h
      | some a =>
        cases hb : (if r = [] then some (255 : Int) else Py.pyInt 10 r) with
        | none => simp [ha, hb] at h
        | some b =>
          simp only [ha, hb] at h
          split at h
          · rename_i hc
            simp only [Option.some.injEq, Prod.mk.injEq] at h
            obtain ⟨rfl, rfl⟩ := h
            obtain ⟨n, rfl⟩ := Int.eq_ofNat_of_zero_le hc.1
            obtain ⟨m, rfl⟩ := Int.eq_ofNat_of_zero_le (by omega : 0 ≤ b)
            simp only [Int.toNat_natCast]
            exact .range ((lo_iff l hl n).1 ha) ((hi_iff r m).1 hb) (by omega) (by omega)
          · cases h
    · simp only [hm, if_false] at h
      cases ha : Py.pyInt 10 el with
      | none => simp [ha] at h
      | some a =>
        simp only [ha] at h
        split at h
        · rename_i hc
          simp only [Option.some.injEq, Prod.mk.injEq] at h
          obtain ⟨rfl, rfl⟩ := h
          obtain ⟨n, rfl⟩ := Int.eq_ofNat_of_zero_le hc.1
          simp only [Int.toNat_natCast]
          exact .single ((pyInt_nat_iff el hm n).1 ha) (by omega)
        · cases h
  · intro h
    cases h with
    | single hn hle =>
      have hm : '-' ∉ el := natLit_no_hyphen hn
      have hp := (pyInt_nat_iff el hm lo).2 hn
      have hc : (0 : Int) ≤ (lo : Int) ∧ (lo : Int) ≤ 255 := by omega
      simp only [elemBounds, hm, if_false, hp, hc, and_self, if_true, Int.toNat_natCast]
    | @range l r a b hl hr hab hb =>
      have hlm : '-' ∉ l := by
        cases hl with
        | empty => simp
        | lit hn => exact natLit_no_hyphen hn
      have hm : '-' ∈ l ++ '-' :: r := by simp
      obtain ⟨e1, e2⟩ := Prod.mk.inj (split1_app '-' l r hlm)
      have ha := (lo_iff l hlm lo).2 hl
      have hb' := (hi_iff r hi).2 hr
      have hc : (0 : Int) ≤ (lo : Int) ∧ (lo : Int) ≤ (hi : Int) ∧ (hi : Int) ≤ 255 := by omega
      simp only [elemBounds, hm, if_true, e1, e2, ha, hb', hc, and_self, Int.toNat_natCast]

theorem no_comma_of_elements (els : List (List Char)) (h : ∀ el ∈ els, ∃ lo hi, Element el lo hi) :
    ∀ el ∈ els, ',' ∉ el := by
  intro el hel hc
  obtain ⟨lo, hi, he⟩ := h el hel
  exact element_chars he _ hc (Or.inr (Or.inl rfl))

theorem octetWF_iff (tok : List Char) : OctetWF tok ↔ OctetList tok := by
  constructor
  · intro h
    refine ⟨tok.splitOn ',', List.splitOn_ne_nil ',' tok, (List.intercalate_splitOn ',').symm, ?_⟩
    intro el hel
    have := h el hel
    cases hb : elemBounds el with
    | none => rw [hb] at this; cases this
    | some p => exact ⟨p.1, p.2, (elemBounds_iff el p.1 p.2).1 hb⟩
  · rintro ⟨els, hne, rfl, h⟩
    intro el hel
    rw [List.splitOn_intercalate ',' (no_comma_of_elements els h) hne] at hel
    obtain ⟨lo, hi, he⟩ := h el hel
    rw [(elemBounds_iff el lo hi).2 he]; rfl

theorem octetDen_iff (tok : List Char) (hwf : OctetWF tok) (v : Nat) : OctetDen tok v ↔ OctetListDen tok v := by
  obtain ⟨els, hne, rfl, h⟩ := (octetWF_iff tok).1 hwf
  have hsp := List.splitOn_intercalate ',' (no_comma_of_elements els h) hne
  constructor
  · rintro ⟨el, hel, lo, hi, hb, hv⟩
    rw [hsp] at hel
    exact ⟨els, rfl, h, el, hel, lo, hi, (elemBounds_iff el lo hi).1 hb, hv⟩
  · rintro ⟨els', e, h', el, hel, lo, hi, he, hv⟩
    have hne' : els' ≠ [] := by intro e'; subst e'; cases hel
    have hsp' := List.splitOn_intercalate ',' (no_comma_of_elements els' h') hne'
    rw [← e, hsp] at hsp'
    subst hsp'
    exact ⟨el, by rw [hsp]; exact hel, lo, hi, (elemBounds_iff el lo hi).2 he, hv⟩

theorem octetList_chars {tok : List Char} (h : OctetList tok) : ∀ c ∈ tok, c ≠ '.' ∧ c ≠ '/' ∧ c ≠ ':' := by
  obtain ⟨els, _, rfl, h⟩ := h
  intro c hc
  have key : ¬ Special c ∨ c = ',' := by
    rcases mem_intercalate hc with e | ⟨el, hel, he⟩
    · exact Or.inr e
    · obtain ⟨lo, hi, hE⟩ := h el hel
      exact Or.inl (element_chars hE c he)
  rcases key with k | k
  · exact ⟨fun e => k (Or.inl e), fun e => k (Or.inr (Or.inr (Or.inl e))), fun e => k (Or.inr (Or.inr (Or.inr e)))⟩
  · subst k; decide

theorem octetLists_chars {t0 t1 t2 t3 : List Char} (h0 : OctetList t0) (h1 : OctetList t1) (h2 : OctetList t2)
    (h3 : OctetList t3) : ∀ t ∈ [t0, t1, t2, t3], ∀ c ∈ t, c ≠ '.' ∧ c ≠ '/' ∧ c ≠ ':' := by
  intro t ht
  simp only [List.mem_cons, List.not_mem_nil, or_false] at ht
  rcases ht with rfl | rfl | rfl | rfl
  · exact octetList_chars h0
  · exact octetList_chars h1
  · exact octetList_chars h2
  · exact octetList_chars h3

theorem octetsSpec_chars {spec : List Char} (h : OctetsSpec spec) : '/' ∉ spec ∧ ':' ∉ spec := by
  obtain ⟨t0, t1, t2, t3, rfl, h0, h1, h2, h3⟩ := h
  have hc := octetLists_chars h0 h1 h2 h3
  exact ⟨not_mem_intercalate (by decide) fun t ht hm => (hc t ht _ hm).2.1 rfl,
    not_mem_intercalate (by decide) fun t ht hm => (hc t ht _ hm).2.2 rfl⟩

theorem split_of_octetsSpec {t0 t1 t2 t3 : List Char} (h0 : OctetList t0) (h1 : OctetList t1) (h2 : OctetList t2)
    (h3 : OctetList t3) : (['.'].intercalate [t0, t1, t2, t3]).splitOn '.' = [t0, t1, t2, t3] :=
  List.splitOn_intercalate '.' (fun t ht hm => (octetLists_chars h0 h1 h2 h3 t ht _ hm).1 rfl) (List.cons_ne_nil _ _)

theorem octetList_of_den {tok : List Char} {v : Nat} (h : OctetListDen tok v) : OctetList tok := by
  obtain ⟨els, e, h', el, hel, _⟩ := h
  exact ⟨els, List.ne_nil_of_mem hel, e, h'⟩

/-- the four lists are determined by the text (`split_of_octetsSpec`) -/
theorem octetsSpecDen_iff {t0 t1 t2 t3 : List Char} (h0 : OctetList t0) (h1 : OctetList t1) (h2 : OctetList t2)
    (h3 : OctetList t3) (a : Nat) :
    OctetsSpecDen (['.'].intercalate [t0, t1, t2, t3]) a ↔ a < 2 ^ 32 ∧ OctetListDen t0 (a / 2 ^ 24 % 256) ∧
      OctetListDen t1 (a / 2 ^ 16 % 256) ∧ OctetListDen t2 (a / 2 ^ 8 % 256) ∧ OctetListDen t3 (a % 256) := by
  constructor
  · rintro ⟨u0, u1, u2, u3, e, ha, m0, m1, m2, m3⟩
    have hs := split_of_octetsSpec (octetList_of_den m0) (octetList_of_den m1) (octetList_of_den m2) (octetList_of_den m3)
    rw [← e, split_of_octetsSpec h0 h1 h2 h3] at hs
    cases hs
    exact ⟨ha, m0, m1, m2, m3⟩
  · exact fun h => ⟨t0, t1, t2, t3, rfl, h⟩

end NV.C17L.Grammar
