/-
Lemmas/C15LBytes.lean — big-endian byte strings: `beBytes` and `beValue` as words of 8 bits,
chunking, and the struct.pack / struct.unpack compositions of the four families.  Core only.
-/
import NetaddrVerif.Lemmas.C15LWords
import NetaddrVerif.Lemmas.MapM
namespace NV.Codec

theorem leBytes_eq (n v : Nat) : leBytes n v = wordsLoop 8 n v := by
  induction n generalizing v with
  | zero => rfl
  | succ n ih =>
    simp only [leBytes, wordsLoop, ih, Nat.shiftRight_eq_div_pow]
    rw [Nat.and_two_pow_sub_one_eq_mod]

theorem beBytes_eq (n v : Nat) : beBytes n v = beWords 8 n v := by rw [beBytes, leBytes_eq, beWords]

theorem beBytes_length (n v : Nat) : (beBytes n v).length = n := by
  rw [beBytes_eq, beWords_length]

theorem beBytes_lt (n v : Nat) : ∀ b ∈ beBytes n v, b < 256 := by
  rw [beBytes_eq]
  exact beWords_lt 8 n v

theorem beValue_eq (bs : List Nat) : beValue bs = beWordsValue 8 bs :=
  (horner_eq 8 bs 0).trans (by rw [Nat.zero_mul, Nat.zero_add])

theorem beValue_beBytes (n v : Nat) : beValue (beBytes n v) = v % 2 ^ (8 * n) := by
  rw [beValue_eq, beBytes_eq, beWordsValue_beWords]

theorem beValue_lt (bs : List Nat) (h : ∀ b ∈ bs, b < 256) : beValue bs < 2 ^ (8 * bs.length) := by
  rw [beValue_eq]
  exact beWordsValue_lt h

theorem beValue_append (xs ys : List Nat) :
    beValue (xs ++ ys) = beValue xs * 2 ^ (8 * ys.length) + beValue ys := by
  simp only [beValue_eq, beWordsValue, List.reverse_append, leValue_append, List.length_reverse]
  rw [Nat.mul_comm]; omega

theorem beBytes_add (a b v : Nat) :
    beBytes (a + b) v = beBytes a (v / 2 ^ (8 * b)) ++ beBytes b v := by
  simp only [beBytes_eq, beWords_add]

theorem beBytes_mod (n v : Nat) : beBytes n (v % 2 ^ (8 * n)) = beBytes n v := by
  simp only [beBytes_eq, beWords_mod]

theorem flatten_beBytes_words (k n v : Nat) :
    ((beWords (8 * k) n v).map (beBytes k)).flatten = beBytes (k * n) v := by
  rw [beBytes_eq, ← regroup, funext (beBytes_eq k)]

theorem chunks_length (k n : Nat) (bs : List Nat) : (chunks k n bs).length = n := by
  induction n generalizing bs with
  | zero => rfl
  | succ n ih => simp [chunks, ih]

theorem leValue_chunks (k n : Nat) (bs : List Nat) (hl : bs.length = k * n) :
    beWordsValue (8 * k) ((chunks k n bs).map beValue) = beValue bs := by
  unfold beWordsValue
  induction n generalizing bs with
  | zero =>
    have : bs = [] := List.length_eq_zero_iff.mp (by simpa using hl)
    subst this; simp [chunks, leValue, beValue]
  | succ n ih =>
    simp only [chunks, List.map_cons, List.reverse_cons, leValue_append, leValue, List.length_reverse,
      List.length_map, chunks_length]
    have hd : (bs.drop k).length = k * n := by simp [hl, Nat.mul_succ]
    rw [ih _ hd]
    conv => rhs; rw [← List.take_append_drop k bs, beValue_append]
    rw [hd, Nat.mul_assoc]
    simp only [Nat.mul_zero, Nat.add_zero]
    rw [Nat.mul_comm]; omega

theorem chunk_values_lt (k n : Nat) (bs : List Nat) (hb : ∀ b ∈ bs, b < 256) :
    ∀ x ∈ (chunks k n bs).map beValue, x < 2 ^ (8 * k) := by
  induction n generalizing bs with
  | zero => simp [chunks]
  | succ n ih =>
    intro x hx
    simp only [chunks, List.map_cons, List.mem_cons] at hx
    rcases hx with h | h
    · subst h
      have h1 := beValue_lt (bs.take k) (fun b hb' => hb b (List.mem_of_mem_take hb'))
      have h2 : (bs.take k).length ≤ k := by simp [List.length_take]; omega
      exact Nat.lt_of_lt_of_le h1 (Nat.pow_le_pow_right (by decide) (Nat.mul_le_mul_left 8 h2))
    · exact ih _ (fun b hb' => hb b (List.mem_of_mem_drop hb')) x h

/-- `struct.pack` of one k-byte field, with the bound as a power of two -/
theorem packField_eq (k v : Nat) :
    packField k v = if v < 2 ^ (8 * k) then .ok (beBytes k v) else .error .other := by
  rw [packField, Nat.pow_mul]

theorem packFields_ok (k : Nat) (words : List Nat) (h : ∀ x ∈ words, x < 2 ^ (8 * k)) :
    packFields k words = .ok (words.map (beBytes k)).flatten := by
  rw [packFields, mapM_eq_pure_map (packField k) (beBytes k) words (fun x hx => (packField_eq k x).trans (if_pos (h x hx)))]
  rfl

/-- two fields holding the high `a` bytes and the low `b` bytes of v
    (`struct.pack('>HI', v >> 32, v & 0xffffffff)` of eui48): the `a + b` bytes of v -/
theorem packField_hi_lo (a b v : Nat) :
    (do let hi ← packField a (v >>> (8 * b))
        let lo ← packField b (v &&& (2 ^ (8 * b) - 1))
        pure (hi ++ lo)) =
      if v < 2 ^ (8 * (a + b)) then .ok (beBytes (a + b) v) else .error .other := by
  have hlo : v % 2 ^ (8 * b) < 2 ^ (8 * b) := Nat.mod_lt v (Nat.two_pow_pos _)
  have hhi : v / 2 ^ (8 * b) < 2 ^ (8 * a) ↔ v < 2 ^ (8 * (a + b)) := by
    rw [Nat.div_lt_iff_lt_mul (Nat.two_pow_pos _), ← Nat.pow_add, Nat.mul_add]
  rw [Nat.shiftRight_eq_div_pow, Nat.and_two_pow_sub_one_eq_mod, packField_eq, packField_eq, if_pos hlo]
  by_cases h : v < 2 ^ (8 * (a + b))
  · rw [if_pos (hhi.mpr h), if_pos h, beBytes_add, beBytes_mod]
    rfl
  · rw [if_neg (mt hhi.mp h), if_neg h]
    rfl

theorem flatten_beBytes (k : Nat) (words : List Nat) (h : ∀ x ∈ words, x < 2 ^ (8 * k)) :
    ((words.map (beBytes k)).flatten).length = k * words.length ∧
    beValue ((words.map (beBytes k)).flatten) = beWordsValue (8 * k) words := by
  -- bounded words are the words of their value
  have e : (words.map (beBytes k)).flatten = beBytes (k * words.length) (beWordsValue (8 * k) words) := by
    rw [← flatten_beBytes_words, words_beWordsValue h]
  rw [e, beBytes_length, beValue_beBytes, ← Nat.mul_assoc]
  exact ⟨rfl, Nat.mod_eq_of_lt (beWordsValue_lt h)⟩

/-- `int_to_words` into n words of k bytes, then `struct.pack` of the words (`int_to_packed` of
    ipv6 and eui64): the k·n big-endian bytes of v, IndexError out of range -/
theorem intToWords_packFields (k n v : Nat) :
    (intToWords v (8 * k) n >>= packFields k) =
      if v < 2 ^ (n * (8 * k)) then .ok (beBytes (k * n) v) else .error .index := by
  by_cases h : v < 2 ^ (n * (8 * k))
  · rw [if_pos h, intToWords_ok h, ← flatten_beBytes_words]
    exact packFields_ok k _ (beWords_lt (8 * k) n v)
  · rw [if_neg h, intToWords_error h]
    rfl

theorem unpackFields_one (k : Nat) (bs : List Nat) :
    unpackFields k 1 bs = if bs.length = k then .ok [beValue bs] else .error .other := by
  simp only [unpackFields, Nat.mul_one, chunks, List.map_cons, List.map_nil]
  by_cases h : bs.length = k
  · rw [if_neg (fun h' => h' h), if_pos h, List.take_of_length_le (Nat.le_of_eq h)]
  · rw [if_pos h, if_neg h]

/-- `struct.unpack` of n fields of k bytes followed by the or/shift fold (`packed_to_int` of
    ipv6, eui48, eui64): the big-endian value of exactly the strings of k·n bytes -/
theorem unpack_orShift_eq (k n : Nat) (bs : List Nat) (hb : ∀ b ∈ bs, b < 256) :
    (unpackFields k n bs >>= fun ws => pure (orShift (8 * k) ws.reverse 0 0)) =
      if bs.length = k * n then .ok (beValue bs) else .error .other := by
  by_cases h : bs.length = k * n
  · rw [unpackFields, if_neg (fun h' => h' h), if_pos h]
    show Except.ok (orShift (8 * k) ((chunks k n bs).map beValue).reverse 0 0) = _
    rw [orShift_reverse _ (chunk_values_lt k n bs hb), leValue_chunks k n bs h]
  · rw [unpackFields, if_pos h, if_neg h]
    rfl

theorem chunks_beBytes (k n v : Nat) :
    (chunks k n (beBytes (k * n) v)).map beValue = beWords (8 * k) n v := by
  -- the chunk values are bounded words, n of them, with the value of v: so they are the words of v
  have := words_beWordsValue (chunk_values_lt k n _ (beBytes_lt (k * n) v))
  rw [List.length_map, chunks_length, leValue_chunks k n _ (beBytes_length _ v), beValue_beBytes, ← Nat.mul_assoc,
    beWords_mod] at this
  exact this.symm

theorem unpackFields_beBytes (k n v : Nat) :
    unpackFields k n (beBytes (k * n) v) = .ok (beWords (8 * k) n v) := by
  rw [unpackFields, if_neg (fun h => h (beBytes_length _ v)), chunks_beBytes]

end NV.Codec
