/-
Lemmas/Digits.lean — a hexadecimal reader over definitions of its own (`NV.hexVal`, `NV.ofHex`: `int(s, 16)` on a
digits-only string), not the model's; `NV.ofHex_toHex`: it reads back what `Nat.toDigits 16` prints.
-/
import NetaddrVerif.Lemmas.Numerals
namespace NV

def hexVal (c : Char) : Option Nat :=
  if '0' ≤ c ∧ c ≤ '9' then some (c.toNat - '0'.toNat)
  else if 'a' ≤ c ∧ c ≤ 'f' then some (c.toNat - 'a'.toNat + 10)
  else if 'A' ≤ c ∧ c ≤ 'F' then some (c.toNat - 'A'.toNat + 10)
  else none

/-- left fold, as `int(s, 16)` on a digits-only string -/
def ofHexAux : List Char → Nat → Option Nat
  | [], acc => some acc
  | c :: cs, acc => match hexVal c with
    | some d => ofHexAux cs (acc * 16 + d)
    | none => none

def ofHex (s : List Char) : Option Nat := if s = [] then none else ofHexAux s 0

theorem hexVal_digitChar : ∀ d, d < 16 → hexVal (Nat.digitChar d) = some d := by decide

theorem ofHexAux_digits (s : List Char) (h : ∀ c ∈ s, ∃ d, d < 16 ∧ c = Nat.digitChar d) (acc : Nat) :
    ofHexAux s acc = some (s.foldl (fun a c => a * 16 + (hexVal c).getD 0) acc) := by
  induction s generalizing acc with
  | nil => rfl
  | cons c cs ih =>
    obtain ⟨d, hd, rfl⟩ := h c (List.mem_cons_self ..)
    rw [ofHexAux, List.foldl_cons, hexVal_digitChar d hd]
    exact ih (fun x hx => h x (List.mem_cons_of_mem _ hx)) _

theorem ofHex_digits (s : List Char) (hne : s ≠ []) (h : ∀ c ∈ s, ∃ d, d < 16 ∧ c = Nat.digitChar d) :
    ofHex s = some (s.foldl (fun a c => a * 16 + (hexVal c).getD 0) 0) := by
  rw [ofHex, if_neg hne, ofHexAux_digits s h]

theorem ofHex_toHex (n : Nat) : ofHex (Nat.toDigits 16 n) = some n := by
  rw [ofHex_digits _ Nat.toDigits_ne_nil (toDigits_digitChar (by decide) n),
    foldl_toDigits_zero (by decide) _ (fun d hd => by rw [hexVal_digitChar d hd]; rfl)]

example : Nat.toDigits 16 0xbeef = ['b','e','e','f'] := by decide

end NV
