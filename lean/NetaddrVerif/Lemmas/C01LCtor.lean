/-
Lemmas/C01LCtor.lean — `IPAddress(s, version, flags)` on the `Err` level (Model/AddrParse.lean) is the '/' refusal
round a partial reader (`Raw.ctor`).  The IPv4 reader is `Raw.body4`, which the flags turn into `inet_aton`,
`inet_pton(AF_INET, ·)`, or either of them after the ZEROFILL rewrite; the IPv6 reader ignores the flags.  The two
families of texts are disjoint, so without a version the IPv4 attempt never shadows an IPv6 reading; and what the
constructor returns is a well-formed address of the family asked for, from a text without '/'.
The namespace is `NV.C01L.Raw` although nothing here mentions the raw-exception model (that is Lemmas/C01LRaw.lean,
which builds on this file): `Raw.body4`, `Raw.ipAddress4_ok`, … is how the property files of seven regions name these.
-/
import NetaddrVerif.Model.AddrRaw
import NetaddrVerif.Lemmas.C01LZf

namespace NV.C01b
open NV NV.AddrParse

/-- default mode: neither ZEROFILL nor INET_PTON is set -/
def DefaultMode (fl : Nat) : Prop := hasFlag fl ZEROFILL = false ∧ hasFlag fl INET_PTON = false
/-- strict mode: INET_PTON without ZEROFILL -/
def StrictMode (fl : Nat) : Prop := hasFlag fl ZEROFILL = false ∧ hasFlag fl INET_PTON = true

/-- `| ZEROFILL` sets ZEROFILL and keeps INET_PTON, for every `g` (so not by evaluation) -/
theorem hasFlag_or_zf (g : Nat) :
    hasFlag (g ||| ZEROFILL) ZEROFILL = true ∧ hasFlag (g ||| ZEROFILL) INET_PTON = hasFlag g INET_PTON := by
  unfold hasFlag ZEROFILL INET_PTON
  constructor
  · have : (g ||| 2) &&& 2 = 2 := by
      apply Nat.eq_of_testBit_eq; intro i
      simp only [Nat.testBit_and, Nat.testBit_or]
      cases h : Nat.testBit 2 i <;> simp
    rw [this]; rfl
  · have : (g ||| 2) &&& 1 = g &&& 1 := by
      apply Nat.eq_of_testBit_eq; intro i
      simp only [Nat.testBit_and, Nat.testBit_or]
      cases i with
      | zero => simp
      | succ j => simp [Nat.testBit_succ]
    rw [this]

end NV.C01b

namespace NV.C01L
theorem none_iff {α : Type} {o : Option α} {P : α → Prop} (h : ∀ v, o = some v ↔ P v) :
    o = none ↔ ¬ ∃ v, P v := by
  cases o with
  | none => exact ⟨fun _ ⟨v, hv⟩ => (nomatch (h v).mpr hv), fun _ => rfl⟩
  | some w => exact ⟨fun e => (nomatch e), fun hn => absurd ⟨w, (h w).mp rfl⟩ hn⟩
end NV.C01L

namespace NV.C01L.Raw
open NV NV.Text4 NV.AddrParse NV.AddrRaw

/-! ### the IPv4 reader and its modes -/

/-- the `Option` reading of the statements inside `str_to_int`'s `try` -/
def body4 (be : Backend) (s : List Char) (fl : Nat) : Option Nat :=
  (if hasFlag fl ZEROFILL then zerofill s else some s) >>= fun a =>
    if hasFlag fl INET_PTON then inetPton4 be a else Text4.aton a

theorem strToInt4_eq (be : Backend) (s : List Char) (fl : Nat) :
    strToInt4 be s fl = match body4 be s fl with | some v => .ok v | none => .error .addrFormat := by
  unfold strToInt4 body4
  generalize (if hasFlag fl ZEROFILL = true then zerofill s else some s) = z
  cases z <;> rfl

theorem body4_nozf (be : Backend) (t : List Char) (g : Nat) (hg : hasFlag g ZEROFILL = false) :
    body4 be t g = if hasFlag g INET_PTON then inetPton4 be t else Text4.aton t := by
  unfold body4; rw [hg]; rfl

theorem body4_zf (be : Backend) (s : List Char) (f : Nat) (hf : hasFlag f ZEROFILL = true) :
    body4 be s f =
      (zerofill s).bind fun t => if hasFlag f INET_PTON then inetPton4 be t else Text4.aton t := by
  unfold body4; rw [hf]; rfl

theorem body4_default (be : Backend) (s : List Char) (fl : Nat) (h : C01b.DefaultMode fl) :
    body4 be s fl = Text4.aton s := by
  rw [body4_nozf be s fl h.1, h.2]; rfl

theorem body4_strict (be : Backend) (s : List Char) (fl : Nat) (h : C01b.StrictMode fl) :
    body4 be s fl = inetPton4 be s := by
  rw [body4_nozf be s fl h.1, h.2]; rfl

theorem validStr4_isSome (be : Backend) (s : List Char) (fl : Nat) (hs : s ≠ []) :
    validStr4 be s fl = .ok (body4 be s fl).isSome := by
  unfold validStr4
  rw [strToInt4_eq, if_neg (by rw [beq_iff_eq]; exact hs)]
  cases body4 be s fl <;> rfl

theorem validStr6_isSome (be : Backend) (s : List Char) (hs : s ≠ []) :
    validStr6 be s = .ok (inetPton6 be s).isSome := by
  unfold validStr6
  rw [if_neg (by rw [beq_iff_eq]; exact hs)]
  cases inetPton6 be s <;> rfl

/-! ### the constructor is the '/' refusal round a reader -/

/-- ValueError on '/', otherwise the address a reader found, or AddrFormatError -/
def ctor (s : List Char) (o : Option Addr) : R Addr :=
  if s.contains '/' then .error .value else match o with | some a => .ok a | none => .error .addrFormat

theorem ctor_ok (s : List Char) (o : Option Addr) (a : Addr) : ctor s o = .ok a ↔ '/' ∉ s ∧ o = some a := by
  unfold ctor
  rw [← List.contains_iff_mem]
  generalize s.contains '/' = b
  cases b <;> cases o <;> simp

theorem ctor_error (s : List Char) (o : Option Addr) (e : Err) :
    ctor s o = .error e ↔ (e = .value ∧ '/' ∈ s) ∨ (e = .addrFormat ∧ '/' ∉ s ∧ o = none) := by
  unfold ctor
  rw [← List.contains_iff_mem]
  generalize s.contains '/' = b
  cases b <;> cases o <;> simp [eq_comm]

theorem ctor_noslash {s : List Char} (hs : s.contains '/' = false) (o : Option Addr) :
    ctor s o = match o with | some a => .ok a | none => .error .addrFormat := by
  unfold ctor; rw [hs]; rfl

theorem ipAddress2_some4 (be4 be6 : Backend) (s : List Char) (fl : Nat) :
    ipAddress2 be4 be6 s (some 4) fl = ctor s ((body4 be4 s fl).map (Addr.mk 4)) := by
  unfold ipAddress2 ctor
  simp only [show ¬ ((4 : Nat) ≠ 4 ∧ (4 : Nat) ≠ 6) by decide, if_false, strToInt2, if_true, strToInt4_eq]
  cases body4 be4 s fl <;> rfl

theorem ipAddress2_some6 (be4 be6 : Backend) (s : List Char) (fl : Nat) :
    ipAddress2 be4 be6 s (some 6) fl = ctor s ((inetPton6 be6 s).map (Addr.mk 6)) := by
  unfold ipAddress2 ctor
  simp only [show ¬ ((6 : Nat) ≠ 4 ∧ (6 : Nat) ≠ 6) by decide, show ¬ (6 : Nat) = 4 by decide, if_false, strToInt2,
    strToInt6]
  cases inetPton6 be6 s <;> rfl

theorem ipAddress2_none (be4 be6 : Backend) (s : List Char) (fl : Nat) :
    ipAddress2 be4 be6 s none fl =
      ctor s (((body4 be4 s fl).map (Addr.mk 4)).or ((inetPton6 be6 s).map (Addr.mk 6))) := by
  unfold ipAddress2 ctor
  simp only [strToInt4_eq, strToInt6]
  cases body4 be4 s fl <;> cases inetPton6 be6 s <;> rfl

theorem map_mk_eq (n : Nat) (o : Option Nat) (a : Addr) :
    o.map (Addr.mk n) = some a ↔ a.ver = n ∧ o = some a.val := by
  obtain ⟨ver, val⟩ := a
  cases o <;> simp [eq_comm]

theorem ipAddress2_slash (be4 be6 : Backend) (s : List Char) (ver : Option Nat) (fl : Nat)
    (hs : s.contains '/' = true) : ipAddress2 be4 be6 s ver fl = .error .value := by
  unfold ipAddress2
  cases ver with
  | none => exact if_pos hs
  | some v =>
    dsimp only
    by_cases hv : v ≠ 4 ∧ v ≠ 6
    · rw [if_pos hv]
    · rw [if_neg hv, if_pos hs]

theorem ipAddress2_bad (be4 be6 : Backend) (s : List Char) (v : Nat) (fl : Nat) (h : v ≠ 4 ∧ v ≠ 6) :
    ipAddress2 be4 be6 s (some v) fl = .error .value := by
  unfold ipAddress2; exact if_pos h

theorem ipAddress2_self (be : Backend) (s : List Char) (ver : Option Nat) (fl : Nat) :
    ipAddress2 be be s ver fl = ipAddress be s ver fl := by
  unfold ipAddress2 ipAddress strToInt2 strToInt; rfl

theorem ipAddress_some4 (be : Backend) (s : List Char) (fl : Nat) :
    ipAddress be s (some 4) fl = ctor s ((body4 be s fl).map (Addr.mk 4)) := by
  rw [← ipAddress2_self, ipAddress2_some4]

theorem ipAddress_some6 (be : Backend) (s : List Char) (fl : Nat) :
    ipAddress be s (some 6) fl = ctor s ((inetPton6 be s).map (Addr.mk 6)) := by
  rw [← ipAddress2_self, ipAddress2_some6]

theorem ipAddress_none (be : Backend) (s : List Char) (fl : Nat) :
    ipAddress be s none fl =
      ctor s (((body4 be s fl).map (Addr.mk 4)).or ((inetPton6 be s).map (Addr.mk 6))) := by
  rw [← ipAddress2_self, ipAddress2_none]

theorem ipAddress_slash (be : Backend) (s : List Char) (ver : Option Nat) (fl : Nat) (hs : s.contains '/' = true) :
    ipAddress be s ver fl = .error .value :=
  ipAddress2_self be s ver fl ▸ ipAddress2_slash be be s ver fl hs

theorem noslash_of_ok {be : Backend} {s : List Char} {ver : Option Nat} {fl : Nat} {a : Addr}
    (h : ipAddress be s ver fl = .ok a) : '/' ∉ s := fun hm =>
  nomatch (ipAddress_slash be s ver fl (List.contains_iff_mem.mpr hm)).symm.trans h

theorem ipAddress4_ok (be : Backend) (s : List Char) (fl : Nat) (a : Addr) :
    ipAddress be s (some 4) fl = .ok a ↔ a.ver = 4 ∧ '/' ∉ s ∧ body4 be s fl = some a.val := by
  rw [ipAddress_some4, ctor_ok, map_mk_eq, and_left_comm]

theorem ipAddress4_error (be : Backend) (s : List Char) (fl : Nat) (e : Err) :
    ipAddress be s (some 4) fl = .error e ↔
      (e = .value ∧ '/' ∈ s) ∨ (e = .addrFormat ∧ '/' ∉ s ∧ body4 be s fl = none) := by
  rw [ipAddress_some4, ctor_error, Option.map_eq_none_iff]

theorem ipAddress6_ok (be : Backend) (s : List Char) (fl : Nat) (a : Addr) :
    ipAddress be s (some 6) fl = .ok a ↔ a.ver = 6 ∧ '/' ∉ s ∧ inetPton6 be s = some a.val := by
  rw [ipAddress_some6, ctor_ok, map_mk_eq, and_left_comm]

theorem ipAddressNone_ok (be : Backend) (s : List Char) (fl : Nat) (a : Addr) :
    ipAddress be s none fl = .ok a ↔
      '/' ∉ s ∧ ((a.ver = 4 ∧ body4 be s fl = some a.val) ∨
        (body4 be s fl = none ∧ a.ver = 6 ∧ inetPton6 be s = some a.val)) := by
  rw [ipAddress_none, ctor_ok, Option.or_eq_some_iff, map_mk_eq, map_mk_eq, Option.map_eq_none_iff]

theorem ipAddressNone_error (be : Backend) (s : List Char) (fl : Nat) (e : Err) :
    ipAddress be s none fl = .error e ↔
      (e = .value ∧ '/' ∈ s) ∨
      (e = .addrFormat ∧ '/' ∉ s ∧ body4 be s fl = none ∧ inetPton6 be s = none) := by
  rw [ipAddress_none, ctor_error, Option.or_eq_none_iff, Option.map_eq_none_iff, Option.map_eq_none_iff]

theorem ipAddress6_error (be : Backend) (s : List Char) (fl : Nat) (e : Err) :
    ipAddress be s (some 6) fl = .error e ↔
      (e = .value ∧ '/' ∈ s) ∨ (e = .addrFormat ∧ '/' ∉ s ∧ inetPton6 be s = none) := by
  rw [ipAddress_some6, ctor_error, Option.map_eq_none_iff]

theorem ipAddress2_ctor (be4 be6 : Backend) (s : List Char) (ver : Option Nat) (fl : Nat)
    (hver : ver = none ∨ ver = some 4 ∨ ver = some 6) : ∃ o, ipAddress2 be4 be6 s ver fl = ctor s o := by
  rcases hver with rfl | rfl | rfl
  · exact ⟨_, ipAddress2_none be4 be6 s fl⟩
  · exact ⟨_, ipAddress2_some4 be4 be6 s fl⟩
  · exact ⟨_, ipAddress2_some6 be4 be6 s fl⟩

theorem error_addrFormat {be : Backend} {s : List Char} {ver : Option Nat} {fl : Nat} {e : Err}
    (hver : ver = none ∨ ver = some 4 ∨ ver = some 6) (hs : s.contains '/' = false)
    (h : ipAddress be s ver fl = .error e) : e = .addrFormat := by
  obtain ⟨o, ho⟩ := ipAddress2_ctor be be s ver fl hver
  rw [← ipAddress2_self, ho] at h
  rcases (ctor_error s o e).mp h with ⟨_, hm⟩ | ⟨he, _⟩
  · exact absurd hm (not_mem_of_contains_false hs)
  · exact he

/-! ### the two families of texts are disjoint; from a reader's verdict to the constructor's -/

theorem body4_colon (be : Backend) (pre r : List Char) (hpre : ∀ c ∈ pre, isHexC c = true) (fl : Nat) :
    body4 be (pre ++ ':' :: r) fl = none := by
  have hmem : ':' ∈ pre ++ ':' :: r := List.mem_append_right _ (List.mem_cons_self ..)
  unfold body4
  by_cases hz : hasFlag fl ZEROFILL = true
  · rw [if_pos hz]
    cases hzf : AddrParse.zerofill (pre ++ ':' :: r) with
    | none => rfl
    | some t => exact absurd hmem (zerofill_nocolon hzf)
  · rw [if_neg hz]
    show (if hasFlag fl INET_PTON = true then _ else _) = none
    split
    · exact inetPton4_colon be _ hmem
    · exact aton_colon pre r hpre

/-- the two families of texts are disjoint: what `inet_pton(AF_INET6, ·)` reads has a ':' after hex digits
    only, and no IPv4 reader takes that, whatever the flags -/
theorem body4_none_of_pton6 (be : Backend) (s : List Char) (v fl : Nat) (h : inetPton6 be s = some v) :
    body4 be s fl = none := by
  obtain ⟨pre, r, he, hpre⟩ := inetPton6_shape h
  exact he ▸ body4_colon be pre r hpre fl

/-- so without a version the IPv4 attempt never shadows an IPv6 reading -/
theorem ipAddressNone_iff (be : Backend) (s : List Char) (fl : Nat) (a : Addr) :
    ipAddress be s none fl = .ok a ↔
      '/' ∉ s ∧ ((a.ver = 4 ∧ body4 be s fl = some a.val) ∨ (a.ver = 6 ∧ inetPton6 be s = some a.val)) := by
  rw [ipAddressNone_ok]
  exact and_congr_right fun _ => or_congr_right
    ⟨fun h => h.2, fun h => ⟨body4_none_of_pton6 be s _ fl h.2, h⟩⟩

theorem ipAddress_of_body4 (be : Backend) (s : List Char) (v : Nat) (ver : Option Nat) (fl : Nat)
    (hs : '/' ∉ s) (h : body4 be s fl = some v) (hver : ver = none ∨ ver = some 4) :
    ipAddress be s ver fl = .ok ⟨4, v⟩ := by
  rcases hver with rfl | rfl
  · exact (ipAddressNone_iff be s fl _).mpr ⟨hs, Or.inl ⟨rfl, h⟩⟩
  · exact (ipAddress4_ok be s fl _).mpr ⟨rfl, hs, h⟩

theorem ipAddress_of_pton6 (be : Backend) (s : List Char) (v : Nat) (ver : Option Nat) (fl : Nat)
    (hs : '/' ∉ s) (h : inetPton6 be s = some v) (hver : ver = none ∨ ver = some 6) :
    ipAddress be s ver fl = .ok ⟨6, v⟩ := by
  rcases hver with rfl | rfl
  · exact (ipAddressNone_iff be s fl _).mpr ⟨hs, Or.inr ⟨rfl, h⟩⟩
  · exact (ipAddress6_ok be s fl _).mpr ⟨rfl, hs, h⟩

theorem body4_ntoa (be : Backend) (v : Nat) (hv : v < 2 ^ 32) (fl : Nat) : body4 be (ntoa v) fl = some v := by
  have hz : (if hasFlag fl ZEROFILL = true then AddrParse.zerofill (ntoa v) else some (ntoa v)) = some (ntoa v) := by
    split
    · exact C01.zerofill_ntoa v
    · rfl
  unfold body4
  rw [hz]
  show (if hasFlag fl INET_PTON = true then _ else _) = some v
  split
  · exact inetPton4_ntoa be v hv
  · exact aton_ntoa v hv

theorem reject (be : Backend) (s : List Char) (ver : Option Nat) (hver : ver = none ∨ ver = some 4) (fl : Nat)
    (hb : body4 be s fl = none) (hs : '/' ∉ s) (hc : ':' ∉ s) : ipAddress be s ver fl = .error .addrFormat := by
  rcases hver with rfl | rfl
  · exact (ipAddressNone_error be s fl _).mpr
      (Or.inr ⟨rfl, hs, hb, inetPton6_no_colon be s hc⟩)
  · exact (ipAddress4_error be s fl _).mpr (Or.inr ⟨rfl, hs, hb⟩)

/-! ### what the constructor returns -/

theorem body4_lt {be : Backend} {s : List Char} {fl v : Nat} (h : body4 be s fl = some v) : v < 2 ^ 32 := by
  unfold body4 at h
  obtain ⟨a, _, h⟩ := Option.bind_eq_some_iff.mp h
  split at h
  · exact ((inetPton4_iff be a v).mp h).1
  · exact AtonG.aton_lt h

/-- **whatever `IPAddress(s, version, flags)` returns is a well-formed address of the family asked for, and `s`
    has no '/'** — for every version argument and flags value -/
theorem ipAddress_wf (be : Backend) (s : List Char) (ver : Option Nat) (fl : Nat) (a : Addr)
    (h : ipAddress be s ver fl = .ok a) : a.WF ∧ '/' ∉ s ∧ ∀ n, ver = some n → a.ver = n := by
  have w4 : a.ver = 4 → body4 be s fl = some a.val → a.WF := fun e h4 => ⟨Or.inl e, by rw [e]; exact body4_lt h4⟩
  have w6 : a.ver = 6 → inetPton6 be s = some a.val → a.WF := fun e h6 => ⟨Or.inr e, by rw [e]; exact inetPton6_lt h6⟩
  have hs := noslash_of_ok h
  cases ver with
  | none =>
    obtain ⟨_, ⟨e, h4⟩ | ⟨_, e, h6⟩⟩ := (ipAddressNone_ok be s fl a).mp h
    · exact ⟨w4 e h4, hs, fun _ hn => nomatch hn⟩
    · exact ⟨w6 e h6, hs, fun _ hn => nomatch hn⟩
  | some n =>
    by_cases h4 : n = 4
    · subst h4
      obtain ⟨e, _, hb⟩ := (ipAddress4_ok be s fl a).mp h
      exact ⟨w4 e hb, hs, fun _ hn => Option.some.inj hn ▸ e⟩
    · by_cases h6 : n = 6
      · subst h6
        obtain ⟨e, _, hb⟩ := (ipAddress6_ok be s fl a).mp h
        exact ⟨w6 e hb, hs, fun _ hn => Option.some.inj hn ▸ e⟩
      · exact nomatch (ipAddress2_self be s (some n) fl ▸ ipAddress2_bad be be s n fl ⟨h4, h6⟩).symm.trans h

end NV.C01L.Raw
