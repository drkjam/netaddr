import NetaddrVerif.Model.Summarise
import NetaddrVerif.Lemmas.C05LMerge
import NetaddrVerif.Lemmas.Minimal
/-! Canonical `Net` lists (`NetCanon`): determined by their per-family denotation; flattened into
    addresses they are strictly ascending and exact (`flat_addrs`, for `iter_unique_ips`);
    family lengths.  `AddrLt`, `mem_netAddrs`, `netAddrs_sorted` are about `Summ.netAddrs`; the IPSet
    model iterates with a `netAddrs` of its own (Lemmas/IPSetIterAddrs has the same three). -/
namespace NV.C05L
open NV NV.Summ Blk

/-- a result list in the form the property describes: ascending by (version, address),
    prefixes inside the width, and per family a canonical block list -/
structure NetCanon (l : List Net) : Prop where
  sorted : l.Pairwise NetLt
  wf : ∀ n ∈ l, n.plen ≤ width n.ver
  canon : ∀ u, Canon (famBlks u l)

theorem mem_famBlks {u : Nat} {l : List Net} {b : Blk} :
    b ∈ famBlks u l ↔ ∃ n ∈ l, n.ver = u ∧ b = ⟨n.val, width u - n.plen⟩ := by
  simp only [famBlks, List.mem_map, List.mem_filter, beq_iff_eq]
  constructor
  · rintro ⟨n, ⟨h1, h2⟩, rfl⟩; exact ⟨n, h1, h2, rfl⟩
  · rintro ⟨n, h1, h2, rfl⟩; exact ⟨n, ⟨h1, h2⟩, rfl⟩

theorem mem_famBlks_self {n : Net} {l : List Net} (hn : n ∈ l) :
    (⟨n.val, width n.ver - n.plen⟩ : Blk) ∈ famBlks n.ver l := mem_famBlks.2 ⟨n, hn, rfl, rfl⟩

theorem netlt_asymm (m n : Net) : NetLt m n → ¬ NetLt n m := by unfold NetLt; omega

theorem net_ext (l₁ l₂ : List Net) (h1 : NetCanon l₁) (h2 : NetCanon l₂)
    (hd : ∀ u a, den (famBlks u l₁) a ↔ den (famBlks u l₂) a) : l₁ = l₂ := by
  have hf : ∀ u, famBlks u l₁ = famBlks u l₂ := fun u => canon_unique _ _ (h1.canon u) (h2.canon u) (hd u)
  have key : ∀ (la lb : List Net), (∀ n ∈ la, n.plen ≤ width n.ver) → (∀ n ∈ lb, n.plen ≤ width n.ver) →
      (∀ u, famBlks u la = famBlks u lb) → ∀ n ∈ la, n ∈ lb := by
    intro la lb wa wb hf n hn
    have : (⟨n.val, width n.ver - n.plen⟩ : Blk) ∈ famBlks n.ver la := mem_famBlks_self hn
    rw [hf n.ver] at this
    obtain ⟨m, hm, hv, he⟩ := mem_famBlks.1 this
    have hmw := wb m hm
    have hnw := wa n hn
    have e1 : n.val = m.val := by injection he
    have e2 : width n.ver - n.plen = width n.ver - m.plen := by injection he
    rw [hv] at hmw
    have e3 : n.plen = m.plen := by omega
    have : n = m := by
      obtain ⟨a, b, c⟩ := n; obtain ⟨a', b', c'⟩ := m
      simp only at hv e1 e3; subst hv; subst e1; subst e3; rfl
    exact this ▸ hm
  apply pairwise_ext netlt_asymm h1.sorted h2.sorted
  intro n
  exact ⟨key l₁ l₂ h1.wf h2.wf hf n, key l₂ l₁ h2.wf h1.wf (fun u => (hf u).symm) n⟩

theorem toBlk_inj (w : Nat) (l₁ l₂ : List Pfx) : (∀ b ∈ l₁, b.plen ≤ w) → (∀ b ∈ l₂, b.plen ≤ w) →
    l₁.map (toBlk w) = l₂.map (toBlk w) → l₁ = l₂ :=
  map_inj_on (toBlk w) (·.plen ≤ w) (fun x y hp hp' e => by
    obtain ⟨v, p⟩ := x
    obtain ⟨v', p'⟩ := y
    obtain ⟨rfl, e⟩ := Blk.mk.inj e
    obtain rfl : p = p' := sub_left_cancel hp hp' e
    rfl) l₁ l₂

theorem den_famBlks_nets (l : List Net)
    (h : ∀ n ∈ l, n.val % 2 ^ (width n.ver - n.plen) = 0 ∧ n.val + 2 ^ (width n.ver - n.plen) ≤ 2 ^ width n.ver)
    (u a : Nat) : den (famBlks u l) a ↔ ∃ n ∈ l, n.ver = u ∧ n.first ≤ a ∧ a ≤ n.last := by
  have hm : ∀ n ∈ l, (n.first ≤ a ∧ a ≤ n.last) ↔ (⟨n.val, width n.ver - n.plen⟩ : Blk).mem a := fun n hn =>
    aligned_mem _ _ _ a (Nat.lt_of_lt_of_le (Nat.lt_add_of_pos_right (Nat.two_pow_pos _)) (h n hn).2) (h n hn).1
  constructor
  · rintro ⟨b, hb, hba⟩
    obtain ⟨n, hn, rfl, rfl⟩ := mem_famBlks.1 hb
    exact ⟨n, hn, rfl, (hm n hn).2 hba⟩
  · rintro ⟨n, hn, rfl, hna⟩
    exact ⟨_, mem_famBlks_self hn, (hm n hn).1 hna⟩

/-- a list of proper CIDRs fed back to `cidr_merge` denotes, as inputs, what it denotes as a result -/
theorem iden_nets (l : List Net)
    (h : ∀ n ∈ l, n.val % 2 ^ (width n.ver - n.plen) = 0 ∧ n.val + 2 ^ (width n.ver - n.plen) ≤ 2 ^ width n.ver)
    (u a : Nat) : iden (l.map (fun n => MItem.net n.ver ⟨n.val, n.plen⟩)) u a ↔ den (famBlks u l) a := by
  refine Iff.trans ⟨?_, fun ⟨n, hn, hm⟩ => ⟨_, List.mem_map.2 ⟨n, hn, rfl⟩, hm⟩⟩ (den_famBlks_nets l h u a).symm
  rintro ⟨_, hit, hm⟩
  obtain ⟨n, hn, rfl⟩ := List.mem_map.1 hit
  exact ⟨n, hn, hm⟩

def AddrLt (x y : Addr) : Prop := x.ver < y.ver ∨ (x.ver = y.ver ∧ x.val < y.val)

theorem mem_netAddrs (n : Net) (x : Addr) :
    x ∈ netAddrs n ↔ x.ver = n.ver ∧ n.first ≤ x.val ∧ x.val ≤ n.last := by
  have hfl : n.first ≤ n.last := netFirst_le_netLast ..
  unfold netAddrs
  simp only [List.mem_map, List.mem_range]
  constructor
  · rintro ⟨i, hi, rfl⟩; exact ⟨rfl, Nat.le_add_right .., by show n.first + i ≤ n.last; omega⟩
  · rintro ⟨h1, h2, h3⟩
    refine ⟨x.val - n.first, by omega, ?_⟩
    obtain ⟨a, b⟩ := x
    simp only at h1 h2 h3 ⊢
    subst h1
    congr 1; omega

theorem netAddrs_sorted (n : Net) : (netAddrs n).Pairwise AddrLt := by
  unfold netAddrs
  rw [List.pairwise_map]
  exact List.pairwise_lt_range.imp (fun {a b} h => Or.inr ⟨rfl, by simp only; omega⟩)

theorem flat_addrs (l : List Net) (hc : NetCanon l)
    (hwf : ∀ n ∈ l, n.val % 2 ^ (width n.ver - n.plen) = 0 ∧ n.val + 2 ^ (width n.ver - n.plen) ≤ 2 ^ width n.ver) :
    (l.flatMap netAddrs).Pairwise AddrLt ∧
    ∀ x, x ∈ l.flatMap netAddrs ↔ den (famBlks x.ver l) x.val := by
  constructor
  · rw [List.pairwise_flatMap]
    refine ⟨fun n _ => netAddrs_sorted n, ?_⟩
    apply List.Pairwise.imp_of_mem _ hc.sorted
    intro m n hm hn hlt x hx y hy
    obtain ⟨x1, -, x3⟩ := (mem_netAddrs m x).1 hx
    obtain ⟨y1, y2, -⟩ := (mem_netAddrs n y).1 hy
    rcases hlt with h | ⟨h1, h2⟩
    · exact Or.inl (by omega)
    · refine Or.inr ⟨by omega, ?_⟩
      -- two blocks of one family: disjoint, so the one with the smaller value ends below the other
      have hd := (hc.canon n.ver).dj _ (mem_famBlks.2 ⟨m, hm, h1, rfl⟩) _ (mem_famBlks_self hn)
        (fun e => Nat.ne_of_lt h2 (Blk.mk.inj e).1)
      have hlt : m.val + 2 ^ (width n.ver - m.plen) ≤ n.val := below_of_disj _ _ hd h2
      have hpm := Nat.two_pow_pos (width n.ver - m.plen)
      have hpn := Nat.two_pow_pos (width n.ver - n.plen)
      unfold Net.last at x3; unfold Net.first at y2
      rw [netLast_of_aligned _ _ _ (hwf m hm).1, h1] at x3
      rw [netFirst_of_aligned _ _ _ (by have := (hwf n hn).2; omega) (hwf n hn).1] at y2
      omega
  · intro x
    rw [List.mem_flatMap, den_famBlks_nets l hwf]
    exact exists_congr fun n => and_congr_right fun _ => by rw [mem_netAddrs, eq_comm]

theorem famBlks_length (u : Nat) (l : List Net) : (famBlks u l).length = l.countP (fun n => n.ver == u) := by
  rw [famBlks, List.length_map, List.countP_eq_length_filter]

theorem fam_len_le (l : List Net) : (famBlks 4 l).length + (famBlks 6 l).length ≤ l.length := by
  rw [famBlks_length, famBlks_length, List.length_eq_countP_add_countP (fun n : Net => n.ver == 4) (l := l)]
  refine Nat.add_le_add_left (List.countP_mono_left fun n _ h6 => ?_) _
  rw [beq_iff_eq] at h6
  rw [h6]
  decide

theorem fam_len_eq (l : List Net) (h : ∀ n ∈ l, n.ver = 4 ∨ n.ver = 6) :
    (famBlks 4 l).length + (famBlks 6 l).length = l.length := by
  rw [famBlks_length, famBlks_length, List.length_eq_countP_add_countP (fun n : Net => n.ver == 4) (l := l)]
  refine congrArg _ (List.countP_congr fun n hn => ?_)
  rcases h n hn with e | e <;> rw [e] <;> decide

end NV.C05L
