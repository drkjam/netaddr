/-
Lemmas/C17LNum.lean — plain decimal numerals (`plainNum`, value `numVal`): what `Py.pyInt 10` and
the model's own octet reader return on them, and that `'%d'` prints one.
-/
import NetaddrVerif.Model.Glob
import NetaddrVerif.Lemmas.Numerals
namespace NV.C17
open NV NV.Glob

/-- the value the model's `decOctet` computes before its `≤ 255` test (`decOctet_eq`) -/
def numVal (t : List Char) : Nat := t.foldl (fun a c => a * 10 + (c.toNat - 48)) 0

/-- plain decimal numeral (non-empty, ASCII digits, no leading zero except `0` itself): the model's `numeralOk` without
    its `*` case (`numeralOk_eq`), `decOctet`'s acceptance without the `≤ 255` test (`decOctet_eq`) -/
def plainNum (t : List Char) : Bool :=
  if t.isEmpty || t.any (fun c => !isDec c) then false
  else if t.length > 1 && t.head? == some '0' then false
  else true

theorem plainNum_iff (t : List Char) :
    plainNum t = true ↔ t ≠ [] ∧ t.all isDec = true ∧ ¬ (t.length > 1 ∧ t.head? = some '0') := by
  unfold plainNum
  rw [← List.not_all_eq_any_not]
  cases t with
  | nil => simp
  | cons c r => cases (c :: r).all isDec <;> cases r <;> simp

theorem numeralOk_eq (t : List Char) : numeralOk t = (if t == ['*'] then true else plainNum t) := rfl

theorem digitVal_dec (c : Char) (h : isDec c = true) : Py.digitVal 10 c = some (c.toNat - 48) := by
  simp only [isDec, Bool.and_eq_true, decide_eq_true_eq] at h
  exact PyL.digitVal_dec h (Nat.lt_of_le_of_lt (Nat.sub_le_sub_right (h.2 : c.toNat ≤ 57) 48) (by decide))

theorem isDec_of_plain {t : List Char} (h : plainNum t = true) {c : Char} (hc : c ∈ t) : isDec c = true :=
  List.all_eq_true.1 ((plainNum_iff t).1 h).2.1 c hc

theorem pyInt_plain (t : List Char) (h : plainNum t = true) : Py.pyInt 10 t = some (numVal t : Int) := by
  rw [PyL.pyInt_digits 10 t ((plainNum_iff t).1 h).1 (fun c hc => ⟨_, digitVal_dec c (isDec_of_plain h hc)⟩),
    PyL.digitsNat, foldl_congr_mem t (fun a c hc => by rw [digitVal_dec c (isDec_of_plain h hc)])]
  rfl

theorem plain_no_dot {t : List Char} (h : plainNum t = true) : '.' ∉ t := fun hc => by
  have := isDec_of_plain h hc; revert this; decide
theorem plain_no_hyphen {t : List Char} (h : plainNum t = true) : '-' ∉ t := fun hc => by
  have := isDec_of_plain h hc; revert this; decide
theorem plain_ne_star {t : List Char} (h : plainNum t = true) : t ≠ ['*'] := fun e => by
  subst e; revert h; decide

theorem splitOn_hyp {x y : List Char} (hx : plainNum x = true) (hy : plainNum y = true) :
    (x ++ '-' :: y).splitOn '-' = [x, y] := by
  rw [List.splitOn_append_cons_self_of_not_mem (plain_no_hyphen hx), List.splitOn_eq_singleton (plain_no_hyphen hy)]

theorem decOctet_eq (t : List Char) :
    decOctet t = if plainNum t = true ∧ numVal t ≤ 255 then some (numVal t) else none := by
  unfold decOctet plainNum numVal
  by_cases h1 : (t.isEmpty || t.any (fun c => !isDec c)) = true
  · simp [h1]
  · by_cases h2 : (decide (t.length > 1) && t.head? == some '0') = true
    · simp [h1, h2]
    · simp [h1, h2]

theorem decOctet_plain {x : List Char} (hp : plainNum x = true) (hv : numVal x ≤ 255) :
    decOctet x = some (numVal x) := by
  rw [decOctet_eq]; simp [hp, hv]

theorem dec_plain (n : Nat) : plainNum (dec n) = true ∧ numVal (dec n) = n := by
  refine ⟨(plainNum_iff _).2 ⟨Nat.toDigits_ne_nil, ?_, ?_⟩,
    foldl_toDigits_zero (by decide) _ (fun d hd => Nat.toNat_digitChar_sub_48_of_lt_ten hd) n⟩
  · exact List.all_eq_true.2 (toDigits_all (by decide) (isDec · = true) (by decide) n)
  · rintro ⟨hl, hh⟩
    rcases toDigits_lead (b := 10) (by decide) n with h1 | h1
    · exact absurd hl (by rw [show (dec n).length = 1 from h1]; decide)
    · exact h1 hh

theorem pyInt_star : Py.pyInt 10 ['*'] = none := by decide +kernel
theorem plain_star : plainNum ['*'] = false := by decide +kernel

end NV.C17
