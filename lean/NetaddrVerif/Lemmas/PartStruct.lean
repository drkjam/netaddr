import NetaddrVerif.Lemmas.Partition
/-! The shape of the `cidr_partition` loop output (`LeftOK`, `RightOK`): aligned, ordered, distinct sizes;
    `partLoop_struct`, the second instance of `partLoop_inv`. -/
namespace NV

/-- left blocks ascend and shrink; right blocks (in append order) descend and shrink -/
def LeftOK (w : Nat) (l : List Pfx) : Prop :=
  (∀ b ∈ l, alignedN w b) ∧ l.Pairwise (fun b c => b.val + 2 ^ (w - b.plen) ≤ c.val ∧ b.plen < c.plen)
def RightOK (w : Nat) (l : List Pfx) : Prop :=
  (∀ b ∈ l, alignedN w b) ∧ l.Pairwise (fun b c => c.val + 2 ^ (w - c.plen) ≤ b.val ∧ b.plen < c.plen)

/-- The loop keeps: `left` and `right` have the shape above, every block emitted so far is shorter
    in prefix than `np`, `left` ends at or below the current block `[iLower, iLower + 2^(w+1-np))`
    and `right` starts at or above its end. -/
theorem partLoop_struct (w ef ep : Nat) (_hep : ep ≤ w) :
    ∀ (fuel np iLower : Nat) (left right : List Pfx),
      fuel = ep + 1 - np → 1 ≤ np → np ≤ ep + 1 → np ≤ w →
      iLower % (2 * 2 ^ (w - np)) = 0 →
      LeftOK w left → RightOK w right →
      (∀ b ∈ left, b.val + 2 ^ (w - b.plen) ≤ iLower ∧ b.plen < np) →
      (∀ b ∈ right, iLower + 2 * 2 ^ (w - np) ≤ b.val ∧ b.plen < np) →
      LeftOK w (partLoop w ef ep np iLower (iLower + 2 ^ (w - np)) left right).1 ∧
      RightOK w (partLoop w ef ep np iLower (iLower + 2 ^ (w - np)) left right).2 := by
  intro _ np iLower left right _ _ h2 h3 hal2 hL hR hbl hbr
  rw [← pow_succ_sub h3] at hal2 hbr
  have key := partLoop_inv (ef := ef) _hep
    (fun np iL iU l r => iU = iL + 2 ^ (w - np) ∧ iL % 2 ^ (w + 1 - np) = 0 ∧ LeftOK w l ∧ RightOK w r ∧
      (∀ b ∈ l, b.val + 2 ^ (w - b.plen) ≤ iL ∧ b.plen < np) ∧
      (∀ b ∈ r, iL + 2 ^ (w + 1 - np) ≤ b.val ∧ b.plen < np))
    ?_ ?_ h2 ⟨rfl, hal2, hL, hR, hbl, hbr⟩
  · obtain ⟨_, _, -, -, hL', hR', -, -⟩ := key
    exact ⟨hL', hR'⟩
  all_goals
    rintro np iL _ l r hnp - ⟨rfl, hmod, hL, hR, hbl, hbr⟩
    have hH : iL % 2 ^ (w - np) = 0 := mod_pow_of_le hmod (Nat.sub_le_sub_right (Nat.le_succ w) np)
    rw [pow_succ_sub (Nat.le_trans hnp _hep)] at hbr
    rw [Nat.add_sub_add_right]
  · refine ⟨rfl, by rw [Nat.add_mod_right]; exact hH, ⟨forall_mem_snoc hL.1 hH, pairwise_snoc hL.2 hbl⟩, hR,
      forall_mem_snoc (fun b hb => ⟨Nat.le_add_right_of_le (hbl b hb).1, Nat.lt_succ_of_lt (hbl b hb).2⟩)
        ⟨Nat.le_refl _, Nat.lt_succ_self np⟩,
      fun b hb => ⟨by have := (hbr b hb).1; omega, Nat.lt_succ_of_lt (hbr b hb).2⟩⟩
  · have hU : (iL + 2 ^ (w - np)) % 2 ^ (w - np) = 0 := by rw [Nat.add_mod_right]; exact hH
    refine ⟨rfl, hH, hL, ⟨forall_mem_snoc hR.1 hU, pairwise_snoc hR.2 ?_⟩,
      fun b hb => ⟨(hbl b hb).1, Nat.lt_succ_of_lt (hbl b hb).2⟩,
      forall_mem_snoc (fun b hb => ⟨by have := (hbr b hb).1; omega, Nat.lt_succ_of_lt (hbr b hb).2⟩)
        ⟨Nat.le_refl _, Nat.lt_succ_self np⟩⟩
    intro b hb
    have := (hbr b hb).1
    exact ⟨by show iL + 2 ^ (w - np) + 2 ^ (w - np) ≤ b.val; omega, (hbr b hb).2⟩

end NV
