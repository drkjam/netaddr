/-
Lemmas/C16L.lean — what the four conversions of property C16 rest on: the constructors on
in-range naturals, and the arithmetic of /96 blocks (`v / 2^32` is the block of an IPv6 value,
`v % 2^32` its low 32 bits; `mappedLo = 0xffff * 2^32`).
-/
import NetaddrVerif.Model.Convert
import NetaddrVerif.Lemmas.C14L
namespace NV.C16
open NV NV.Address NV.Convert

theorem m6 : maxInt 6 = 340282366920938463463374607431768211455 := by decide

theorem six_ne_four : ¬ ((6 : Nat) = 4) := by decide

theorem four_ne_six : ¬ ((4 : Nat) = 6) := by decide

/-! ### constructors -/

theorem ctor4_ok (k : Nat) (h : k < 4294967296) : ctor (k : Int) (some 4) = .ok ⟨4, k⟩ :=
  C14.ctor_nat 4 (Or.inl rfl) k h

theorem ctor6_ok (k : Nat) (h : k < 340282366920938463463374607431768211456) :
    ctor (k : Int) (some 6) = .ok ⟨6, k⟩ :=
  C14.ctor_nat 6 (Or.inr rfl) k h

theorem mkNet_ok (ver k p : Nat) (hk : k < 2 ^ width ver) (hp : p ≤ width ver) :
    mkNet ver (k : Int) (p : Int) = .ok ⟨ver, k, p⟩ := by
  have hm := C14.maxInt_cast ver
  unfold mkNet
  rw [if_neg (by omega), if_neg (by omega)]
  rfl

/-! ### /96 blocks -/

theorem isIpv4Mapped_iff (ver val : Nat) : isIpv4Mapped ver val = true ↔ ver = 6 ∧ val / 2 ^ 32 = 0xffff := by
  simp only [isIpv4Mapped, Nat.shiftRight_eq_div_pow, Bool.and_eq_true, beq_iff_eq]

theorem isIpv4Compat_iff (ver val : Nat) : isIpv4Compat ver val = true ↔ ver = 6 ∧ val / 2 ^ 32 = 0 := by
  simp only [isIpv4Compat, Nat.shiftRight_eq_div_pow, Bool.and_eq_true, beq_iff_eq]

theorem isIpv4Mapped_six (v : Nat) : isIpv4Mapped 6 v = true ↔ v / 2 ^ 32 = 0xffff :=
  (isIpv4Mapped_iff 6 v).trans (and_iff_right rfl)

theorem isIpv4Compat_six (v : Nat) : isIpv4Compat 6 v = true ↔ v / 2 ^ 32 = 0 :=
  (isIpv4Compat_iff 6 v).trans (and_iff_right rfl)

theorem isIpv4Mapped_six_false (v : Nat) : isIpv4Mapped 6 v = false ↔ v / 2 ^ 32 ≠ 0xffff := by
  rw [← Bool.not_eq_true, isIpv4Mapped_six]

theorem isIpv4Compat_six_false (v : Nat) : isIpv4Compat 6 v = false ↔ v / 2 ^ 32 ≠ 0 := by
  rw [← Bool.not_eq_true, isIpv4Compat_six]

theorem low32_compat (v : Nat) : isIpv4Compat 6 (v % 2 ^ 32) = true :=
  (isIpv4Compat_six _).2 (Nat.div_eq_of_lt (Nat.mod_lt v (Nat.two_pow_pos 32)))

/-- `0 <= v <= _ipv4.max_int` is block `0` -/
theorem le_max4_iff (v : Nat) : v ≤ maxInt 4 ↔ v / 2 ^ 32 = 0 :=
  ((Nat.div_eq_iff (x := v) (y := 0) (Nat.two_pow_pos 32)).trans
    ⟨fun h => h.2, fun h => ⟨Nat.zero_le _, h⟩⟩).symm

theorem low32_of_block0 {v : Nat} (h : v / 2 ^ 32 = 0) : v % 2 ^ 32 = v :=
  Nat.mod_eq_of_lt (Nat.lt_of_div_eq_zero (Nat.two_pow_pos 32) h)

/-- the range test for `::ffff:0:0/96` is block `0xffff` -/
theorem mapped_iff (v : Nat) : mappedLo ≤ v ∧ v ≤ mappedHi ↔ v / 2 ^ 32 = 0xffff :=
  (Nat.div_eq_iff (x := v) (y := 0xffff) (Nat.two_pow_pos 32)).symm

theorem mappedLo_add_mod (v : Nat) (h : v / 2 ^ 32 = 0xffff) : mappedLo + v % 2 ^ 32 = v := by
  have := Nat.div_add_mod v (2 ^ 32)
  rwa [h] at this

theorem sub_mappedLo (v : Nat) (h : v / 2 ^ 32 = 0xffff) :
    (v : Int) - (mappedLo : Int) = ((v % 2 ^ 32 : Nat) : Int) :=
  Int.sub_eq_iff_eq_add.mpr (by rw [← Int.natCast_add, Nat.add_comm, mappedLo_add_mod v h])

theorem mappedLo_add (v : Nat) (h : v < 2 ^ 32) :
    (mappedLo + v) / 2 ^ 32 = 0xffff ∧ (mappedLo + v) % 2 ^ 32 = v :=
  ⟨(Nat.mul_add_div (Nat.two_pow_pos 32) 0xffff v).trans (by rw [Nat.div_eq_of_lt h]),
   (Nat.mul_add_mod (2 ^ 32) 0xffff v).trans (Nat.mod_eq_of_lt h)⟩

theorem low32_lt (v : Nat) : v % 2 ^ 32 < 2 ^ width 4 := Nat.mod_lt v (Nat.two_pow_pos 32)

theorem lt_pow_w6 {v : Nat} (h : v < 2 ^ 48) : v < 2 ^ width 6 :=
  Nat.lt_of_lt_of_le h (Nat.pow_le_pow_right (by decide) (by decide))

theorem mappedLo_add_lt {v : Nat} (h : v < 2 ^ 32) : mappedLo + v < 2 ^ width 6 :=
  lt_pow_w6 (Nat.add_lt_add_left h mappedLo)

theorem lt_w6_of_lt_w4 {v : Nat} (h : v < 2 ^ width 4) : v < 2 ^ width 6 :=
  lt_pow_w6 (Nat.lt_trans h (by decide))

/-! ### prefix lengths: `/p` in IPv4 is `/(p + 96)` in IPv6 -/

theorem add96_le {p : Nat} (h : p ≤ width 4) : p + 96 ≤ width 6 := Nat.add_le_add_right h 96

theorem sub96_le {p : Nat} (h : p ≤ width 6) : p - 96 ≤ width 4 := Nat.sub_le_of_le_add h

theorem cast_sub96 {p : Nat} (h : 96 ≤ p) : (p : Int) - 96 = ((p - 96 : Nat) : Int) :=
  (Int.ofNat_sub h).symm

/-! ### the case analyses of the conversions, by block -/

/-- `ipv4()` on an IPv6 value tests `v <= max_int`, then the mapped range: that is, it takes the
    low 32 bits in blocks `0` and `0xffff` and refuses elsewhere.  `F` is what is built from
    the integer (an address, or a network with its prefix). -/
theorem low32_cases {α : Type} (F : Int → R α) (v : Nat) :
    (if v ≤ maxInt 4 then F v
     else if mappedLo ≤ v ∧ v ≤ mappedHi then F ((v : Int) - (mappedLo : Int))
     else .error .addrConversion) =
    if v / 2 ^ 32 = 0 ∨ v / 2 ^ 32 = 0xffff then F ((v % 2 ^ 32 : Nat) : Int)
    else .error .addrConversion := by
  by_cases c1 : v / 2 ^ 32 = 0
  · rw [if_pos ((le_max4_iff v).mpr c1), if_pos (Or.inl c1), low32_of_block0 c1]
  · rw [if_neg (mt (le_max4_iff v).mp c1)]
    by_cases c2 : v / 2 ^ 32 = 0xffff
    · rw [if_pos ((mapped_iff v).mpr c2), if_pos (Or.inr c2), sub_mappedLo v c2]
    · rw [if_neg (mt (mapped_iff v).mp c2), if_neg (fun h => h.elim c1 c2)]

/-- `ipv6(ipv4_compatible)` on an IPv6 value: only a mapped value under `ipv4_compatible=True`
    is rewritten, to its low 32 bits -/
theorem compat_cases {α : Type} (F : Int → R α) (c : Bool) (v : Nat) :
    (if c = true ∧ (mappedLo ≤ v ∧ v ≤ mappedHi) then F ((v : Int) - (mappedLo : Int)) else F v) =
    F ((if c = true ∧ v / 2 ^ 32 = 0xffff then v % 2 ^ 32 else v : Nat) : Int) := by
  by_cases c2 : c = true ∧ v / 2 ^ 32 = 0xffff
  · rw [if_pos ⟨c2.1, (mapped_iff v).mpr c2.2⟩, if_pos c2, sub_mappedLo v c2.2]
  · rw [if_neg (fun h => c2 ⟨h.1, (mapped_iff v).mp h.2⟩), if_neg c2]

theorem compat_val_lt {c : Bool} {v w : Nat} (hv : v < w) :
    (if c = true ∧ v / 2 ^ 32 = 0xffff then v % 2 ^ 32 else v) < w := by
  split
  · exact Nat.lt_of_le_of_lt (Nat.mod_le _ _) hv
  · exact hv

end NV.C16
