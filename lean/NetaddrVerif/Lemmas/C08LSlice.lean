/-
Lemmas/C08LSlice.lean — `EUI.__getitem__(slice)`: the words of the value under the object's own
dialect, picked at the positions `range(*slice.indices(num_words))`.  Core only.
-/
import NetaddrVerif.Lemmas.C08L
import NetaddrVerif.Lemmas.PyRange
import NetaddrVerif.Lemmas.MapM
namespace NV.C08L.Slice
open NV NV.Eui NV.Codec NV.Gen

theorem getSlice_ok {v : Nat} {d : Dialect} (hv : v < 2 ^ (d.numWords * d.wordSize)) {a b c : Option Int}
    {s e st : Int} (h : Py.sliceIndices a b c d.numWords = some (s, e, st)) :
    getSlice v d a b c = .ok ((Py.pyRange s e st).map (fun i => wordAt v d i.toNat)) := by
  unfold getSlice
  rw [intToWords_ok hv]
  simp only [bind, Except.bind, beWords_length, h]
  apply mapM_eq_pure_map
  intro i hi
  obtain ⟨h0, h1⟩ := ListLike.sliceIdx_in_range a b c d.numWords s e st h i hi
  have hlt : i.toNat < d.numWords := by omega
  rw [pyIndex_nonneg _ i h0, words_get _ hlt]
  rfl

theorem getSlice_step0 {v : Nat} {d : Dialect} (hv : v < 2 ^ (d.numWords * d.wordSize)) (a b : Option Int) :
    getSlice v d a b (some 0) = .error .value := by
  unfold getSlice
  rw [intToWords_ok hv]
  simp only [bind, Except.bind, beWords_length, (ListLike.sliceIndices_none_iff a b (some 0) d.numWords).2 rfl]

/-- `e[:]` is the whole word list -/
theorem getSlice_all {v : Nat} {d : Dialect} (hv : v < 2 ^ (d.numWords * d.wordSize)) :
    getSlice v d none none none = intToWords v d.wordSize d.numWords := by
  have h : Py.sliceIndices none none none d.numWords = some (0, (d.numWords : Int), 1) := by
    simp [Py.sliceIndices]
  rw [getSlice_ok hv h, intToWords_ok hv, words_eq_map, ListLike.pyRange_up]
  simp [List.map_map, Function.comp_def]

/-- `e[::-1]` is the reversed word list -/
theorem getSlice_rev {v : Nat} {d : Dialect} (hv : v < 2 ^ (d.numWords * d.wordSize)) :
    getSlice v d none none (some (-1)) = (intToWords v d.wordSize d.numWords).map List.reverse := by
  have h : Py.sliceIndices none none (some (-1)) d.numWords = some ((d.numWords : Int) - 1, -1, -1) := by
    simp [Py.sliceIndices]
  rw [getSlice_ok hv h, intToWords_ok hv, words_eq_map, ListLike.pyRange_down]
  simp only [Except.map, List.map_map, Function.comp_def]
  -- `range(n-1, -1, -1)` is `range(n)` reversed
  rw [← List.map_reverse, reverse_range, List.map_map]
  congr 1
  apply List.map_congr_left
  intro i hi
  have : i < d.numWords := List.mem_range.mp hi
  simp only [Function.comp_def]
  congr 1
  omega

end NV.C08L.Slice
