/-
Lemmas/IPSetQueries.lean — what the query theorems of Props/C07 rest on: `iter_ipranges()` is the
interval normal form of the set and `size` the sum of its lengths; the loop of `iscontiguous()`
compared with `_iter_merged_ranges`; "no range" / "one range" read on the denotation; `size` as
the total of the blocks on the line, so that under inclusion equal sizes force equal sets.
-/
import NetaddrVerif.Lemmas.IPSetIntervals
import NetaddrVerif.Lemmas.BlkCount
import NetaddrVerif.Lemmas.IPSetMergedRanges
namespace NV.IPSet
open NV NV.Blk

/-- what `iter_cidrs()` hands to `_iter_merged_ranges`: valid tuples, ascending (IPv4 before
    IPv6), pairwise separated -/
theorem shown_sep (s : St) (hs : Inv s) :
    (∀ r ∈ (iterCidrs s).map vrOf, r.2.1 ≤ r.2.2) ∧ ((iterCidrs s).map vrOf).Pairwise SepR :=
  (ascR_of_asc (asc_sorted s hs)).sep

theorem denVR_shown (s : St) (ver a : Nat) : denVR ((iterCidrs s).map vrOf) ver a ↔ denS s ver a := by
  unfold denVR denS
  constructor
  · rintro ⟨r, hr, h⟩
    obtain ⟨n, hn, rfl⟩ := List.mem_map.1 hr
    exact ⟨n, (mem_iterCidrs s n).1 hn, h⟩
  · rintro ⟨n, hn, h⟩
    exact ⟨vrOf n, List.mem_map.2 ⟨n, (mem_iterCidrs s n).2 hn, rfl⟩, h⟩

theorem size_eq_sum (s : St) : size s = vrSum (s.map vrOf) := by
  unfold size
  induction s with
  | nil => rfl
  | cons n s ih =>
    simp only [List.map_cons, List.sum_cons, vrSum, ih]
    rfl

theorem vrSum_eq_sum (l : List VR) : vrSum l = (l.map (fun r => r.2.2 - r.2.1 + 1)).sum := by
  induction l with
  | nil => rfl
  | cons r l ih => simp only [vrSum, List.map_cons, List.sum_cons, ih]

theorem size_shown (s : St) : size (iterCidrs s) = size s := by
  unfold size
  exact ((sortNets_perm s).map _).sum_nat

/-- `iter_ipranges()` is the interval normal form of the set, and `size` the sum of its lengths: `mergedRanges_normal`
    carried along `iterCidrs` -/
theorem iterIpranges_spec (s : St) (hs : Inv s) :
    (∀ r ∈ iterIpranges s, r.2.1 ≤ r.2.2) ∧ (iterIpranges s).Pairwise GapR_q ∧
    (∀ ver a, denVR (iterIpranges s) ver a ↔ denS s ver a) ∧ vrSum (iterIpranges s) = size s := by
  obtain ⟨h1, h2⟩ := shown_sep s hs
  obtain ⟨i1, i2, i3, i4⟩ := mergedRanges_normal _ h1 h2
  exact ⟨i1, i2, fun ver a => (i3 ver a).trans (denVR_shown s ver a), i4.trans ((size_eq_sum _).symm.trans (size_shown s))⟩

theorem iterIpranges_ver (s : St) (hs : Inv s) (r : VR) (hr : r ∈ iterIpranges s) : r.1 = 4 ∨ r.1 = 6 :=
  ((ascR_of_asc (asc_sorted s hs)).merged_ok r hr).1

/-! ### iscontiguous / iprange -/

/-- the `[]` / `[_]` special cases of `iscontiguous` agree with the general loop -/
theorem iscontiguous_eq (s : St) :
    iscontiguous s = match iterCidrs s with
      | [] => true
      | c :: rest => contigAux (c.ver, c.last + 1) rest := by
  unfold iscontiguous
  cases iterCidrs s with
  | nil => rfl
  | cons c rest =>
    cases rest with
    | nil => simp [contigAux]
    | cons d r => simp [contigAux]

theorem contigAux_cons (p : Nat × Nat) (c : Net) (rest : List Net) :
    contigAux p (c :: rest) = if c.ver = p.1 ∧ c.first = p.2 then contigAux (c.ver, c.last + 1) rest else false := by
  rw [contigAux]
  obtain ⟨p1, p2⟩ := p
  by_cases h : c.ver = p1 ∧ c.first = p2
  · simp [h]
  · rw [if_neg h]
    simp only [bne_iff_ne, ne_eq, Prod.mk.injEq, ite_eq_left_iff, Decidable.not_not]
    intro h'; exact absurd h' h

/-- the loop of `iscontiguous` beside `_iter_merged_ranges`, both started after the key `c`: either every further key
    continues the range, and one range up to the last key comes out, or some key does not, and two or more ranges do -/
theorem contig_cases (rest : List Net) : ∀ (c : Net) (cs : Nat),
    (contigAux (c.ver, c.last + 1) rest = true ∧
      mergedRangesAux (c.ver, cs, c.last) (rest.map vrOf) = [(c.ver, cs, (rest.getLast?.getD c).last)]) ∨
    (contigAux (c.ver, c.last + 1) rest = false ∧
      ∃ r r' t, mergedRangesAux (c.ver, cs, c.last) (rest.map vrOf) = r :: r' :: t) := by
  induction rest with
  | nil => intro c cs; exact Or.inl ⟨rfl, rfl⟩
  | cons n rest ih =>
    intro c cs
    rw [contigAux_cons, List.map_cons, show vrOf n = (n.ver, n.first, n.last) from rfl, mergedRangesAux_cons,
      List.getLast?_cons, Option.getD_some]
    by_cases h : n.ver = c.ver ∧ n.first = c.last + 1
    · rw [if_pos h, if_pos ⟨h.2, h.1⟩, ← h.1]
      exact ih n cs
    · rw [if_neg h, if_neg (fun h' => h ⟨h'.2, h'.1⟩)]
      obtain ⟨e, t, hm, -⟩ := mergedRangesAux_starts (n.ver, n.first, n.last) (rest.map vrOf)
      exact Or.inr ⟨rfl, _, _, t, by rw [hm]⟩

/-! ### one range / no range, read on the denotation -/

theorem ranges_nil_iff (s : St) : iterIpranges s = [] ↔ ∀ ver a, ¬ denS s ver a := by
  rw [iterIpranges, mergedRanges_eq_nil, List.map_eq_nil_iff, iterCidrs_eq_nil, nil_iff_no_den]

theorem ranges_single_iff (s : St) (hs : Inv s) (v lo hi : Nat) :
    iterIpranges s = [(v, lo, hi)] ↔
      lo ≤ hi ∧ ∀ u a, denS s u a ↔ u = v ∧ lo ≤ a ∧ a ≤ hi := by
  obtain ⟨i1, i2, i3, _⟩ := iterIpranges_spec s hs
  constructor
  · intro h
    rw [h] at i1 i3
    refine ⟨i1 (v, lo, hi) (List.mem_cons_self ..), fun u a => ?_⟩
    rw [← i3 u a]
    unfold denVR
    simp only [List.mem_singleton, exists_eq_left]
    constructor
    · rintro ⟨h1, h2⟩; exact ⟨h1.symm, h2⟩
    · rintro ⟨h1, h2⟩; exact ⟨h1.symm, h2⟩
  · rintro ⟨hle, hd⟩
    -- every emitted range lies inside [lo, hi] of family v
    have inside : ∀ r ∈ iterIpranges s, r.1 = v ∧ lo ≤ r.2.1 ∧ r.2.2 ≤ hi := by
      intro r hr
      have hv := i1 r hr
      have a1 := (hd r.1 r.2.1).1 ((i3 r.1 r.2.1).1 ⟨r, hr, rfl, Nat.le_refl _, hv⟩)
      have a2 := (hd r.1 r.2.2).1 ((i3 r.1 r.2.2).1 ⟨r, hr, rfl, hv, Nat.le_refl _⟩)
      exact ⟨a1.1, a1.2.1, a2.2.2⟩
    cases hl : iterIpranges s with
    | nil =>
      exfalso
      exact (ranges_nil_iff s).1 hl v lo ((hd v lo).2 ⟨rfl, Nat.le_refl _, hle⟩)
    | cons r t =>
      have hr : r ∈ iterIpranges s := by rw [hl]; exact List.mem_cons_self ..
      obtain ⟨r1, r2, r3⟩ := inside r hr
      have hvr := i1 r hr
      cases t with
      | nil =>
        -- lo and hi are covered, by the only range
        obtain ⟨x, hx, _, x2, _⟩ := (i3 v lo).2 ((hd v lo).2 ⟨rfl, Nat.le_refl _, hle⟩)
        obtain ⟨y, hy, _, _, y3⟩ := (i3 v hi).2 ((hd v hi).2 ⟨rfl, hle, Nat.le_refl _⟩)
        rw [hl, List.mem_singleton] at hx hy
        rw [hx] at x2; rw [hy] at y3
        obtain ⟨rv, rlo, rhi⟩ := r
        simp only at r1 r2 r3 x2 y3 ⊢
        have e1 : rlo = lo := by omega
        have e2 : rhi = hi := by omega
        rw [r1, e1, e2]
      | cons r' t' =>
        exfalso
        have hr' : r' ∈ iterIpranges s := by rw [hl]; simp
        obtain ⟨q1, q2, q3⟩ := inside r' hr'
        have hvr' := i1 r' hr'
        have hg : GapR_q r r' := by
          rw [hl] at i2
          exact (List.pairwise_cons.1 i2).1 r' (List.mem_cons_self ..)
        have hgap : r.2.2 + 1 < r'.2.1 := by
          rcases hg with h | h
          · omega
          · exact h.2
        apply gap_not_den (iterIpranges s) i1 i2 r hr
        rw [i3, hd]
        exact ⟨r1, by omega, by omega⟩

/-! ### size as a measure on the common number line -/

theorem size_eq_total (s : St) (hg : ∀ n ∈ s, n.WF) : size s = total (s.map lin) := by
  unfold size
  induction s with
  | nil => rfl
  | cons n s ih =>
    simp only [List.map_cons, List.sum_cons, total]
    rw [ih (fun m hm => hg m (List.mem_cons_of_mem _ hm)), netSize_eq _ _ _ (hg n (List.mem_cons_self ..)).2.1]
    rfl

theorem lin_pairwise_disj (s : St) (hs : Inv s) : (s.map lin).Pairwise Blk.disj := by
  rw [List.pairwise_map]
  refine List.Pairwise.imp_of_mem ?_ hs.nodup
  intro a b ha hb hne
  exact (lin_disj a b (hs.wf a ha) (hs.wf b hb)).2 fun hv => hs.disj ha hb hv hne

theorem sup_of_sub_of_size_eq (s t : St) (hs : Inv s) (ht : Inv t)
    (h : ∀ ver a, denS s ver a → denS t ver a) (he : size s = size t) :
    ∀ ver a, denS t ver a → denS s ver a := by
  have hws : ∀ n ∈ s, n.WF := hs.wf
  have hwt : ∀ n ∈ t, n.WF := ht.wf
  rw [size_eq_total s hws, size_eq_total t hwt] at he
  exact sub_of_lin t s hwt hws
    (den_eq_of_total_eq _ _ (lin_pairwise_disj s hs) (lin_pairwise_disj t ht) (sub_lin s t hws hwt h) he)

end NV.IPSet
