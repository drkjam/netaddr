/-
Lemmas/C03LInt.lean — CPython's `int()` (modelled runtime `Py.pyInt`) on the decimal numerals
`'%d'` prints: `int('%d' % n) = n` for every natural number, and with a sign in front.
-/
import NetaddrVerif.Model.AddrParse
import NetaddrVerif.Lemmas.Numerals
namespace NV.C03L
open NV NV.Text4

/-- the two facts about a decimal digit character that the lemmas on `dec n` (here and in the C03 files) draw on; what does
    not occur in `dec n` is `not_mem_toDigits_ten` (Numerals) -/
structure DecCh (c : Char) : Prop where
  digit : Py.digitVal 10 c = some (c.toNat - '0'.toNat)
  isDec : isDec c = true

instance (c : Char) : Decidable (DecCh c) :=
  decidable_of_iff (Py.digitVal 10 c = some (c.toNat - '0'.toNat) ∧ isDec c = true)
    ⟨fun ⟨a, b⟩ => ⟨a, b⟩, fun h => ⟨h.digit, h.isDec⟩⟩

theorem decCh_digitChar : ∀ d, d < 10 → DecCh (Nat.digitChar d) := by decide +kernel

theorem dec_decCh (n : Nat) : ∀ c ∈ dec n, DecCh c := toDigits_all (by decide) DecCh decCh_digitChar n

theorem dec_ne_nil (n : Nat) : dec n ≠ [] := Nat.toDigits_ne_nil

theorem decCh_digit {t : List Char} (ht : ∀ c ∈ t, DecCh c) : ∀ c ∈ t, ∃ d, Py.digitVal 10 c = some d :=
  fun c hc => ⟨_, (ht c hc).digit⟩

theorem digitsNat_decCh (t : List Char) (ht : ∀ c ∈ t, DecCh c) (acc : Nat) :
    PyL.digitsNat 10 t acc = Nat.ofDigitChars 10 t acc :=
  foldl_congr_mem t (fun a c hc => by rw [(ht c hc).digit, Nat.mul_comm]; rfl) acc

theorem pyInt_digits (t : List Char) (ht : ∀ c ∈ t, DecCh c) (hne : t ≠ []) :
    Py.pyInt 10 t = some ((Nat.ofDigitChars 10 t 0 : Nat) : Int) := by
  rw [PyL.pyInt_digits 10 t hne (decCh_digit ht), digitsNat_decCh t ht]
  rfl

theorem ofDigitChars_dec (n : Nat) : Nat.ofDigitChars 10 (dec n) 0 = n := Nat.ofDigitChars_ten_toDigits

theorem pyInt_dec (n : Nat) : Py.pyInt 10 (dec n) = some (n : Int) := by
  rw [pyInt_digits (dec n) (dec_decCh n) (dec_ne_nil n), ofDigitChars_dec]

/-! ### signed numerals (`pyInt_neg_dec`, `pyInt_plus_dec` are in namespace `Acc`, like the acceptance lemmas of C03LAcc they are used with) -/

theorem pyInt_signed_digits (sg : Char) (neg : Bool) (hsg : sg = '+' ∧ neg = false ∨ sg = '-' ∧ neg = true)
    (t : List Char) (ht : ∀ c ∈ t, DecCh c) (hne : t ≠ []) :
    Py.pyInt 10 (sg :: t) =
      some (if neg then -((Nat.ofDigitChars 10 t 0 : Nat) : Int) else ((Nat.ofDigitChars 10 t 0 : Nat) : Int)) := by
  have hs : [sg] = [] ∧ neg = false ∨ [sg] = ['+'] ∧ neg = false ∨ [sg] = ['-'] ∧ neg = true :=
    Or.inr (hsg.imp (And.imp_left (congrArg (· :: []))) (And.imp_left (congrArg (· :: []))))
  rw [show sg :: t = [sg] ++ t from rfl, PyL.pyInt_signed 10 [sg] neg hs t hne (decCh_digit ht), digitsNat_decCh t ht]

theorem Acc.pyInt_neg_dec (n : Nat) : Py.pyInt 10 ('-' :: dec n) = some (-(n : Int)) := by
  rw [pyInt_signed_digits '-' true (Or.inr ⟨rfl, rfl⟩) (dec n) (dec_decCh n) (dec_ne_nil n), ofDigitChars_dec]
  rfl

theorem Acc.pyInt_plus_dec (n : Nat) : Py.pyInt 10 ('+' :: dec n) = some (n : Int) := by
  rw [pyInt_signed_digits '+' false (Or.inl ⟨rfl, rfl⟩) (dec n) (dec_decCh n) (dec_ne_nil n), ofDigitChars_dec]
  rfl

theorem slash_not_in_dec (n : Nat) : (dec n).contains '/' = false :=
  contains_false_of_not_mem (not_mem_toDigits_ten (by decide) n)

end NV.C03L
