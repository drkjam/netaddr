/-
Lemmas/C08LMatch.lean — the matcher for the generated MAC / EUI-64 pattern shapes: `Spelling`
(strings `tok sep tok … tok` of hex tokens and one non-hex separator character), what `matchExact`
returns (`Captured`, `Takes`), that a spelling has one reading, and the first-match search.  Core only.
-/
import NetaddrVerif.Lemmas.C08LHex
namespace NV.Eui
open NV.Py NV.PyL NV.Codec NV.Gen

theorem sep_mem_intercalate (c : Char) (a b : List Char) (r : List (List Char)) :
    c ∈ [c].intercalate (a :: b :: r) :=
  mem_intercalate_iff.2 (.inr ⟨List.mem_singleton_self c, Nat.le_add_left 2 r.length⟩)

/-- the text `tok c tok … c tok`: hex tokens joined by one character that is neither a hex digit nor
    a newline — the shape of every string a pattern of `RE_MAC_FORMATS` / `RE_EUI64_FORMATS` matches
    (final newline apart).  With one token the separator does not occur and any such `c` will do. -/
structure Spelling (c : Char) (toks : List (List Char)) : Prop where
  sepNotHex : isHex c = false
  sepNotNl : c ≠ '\n'
  ne : toks ≠ []
  hex : ∀ t ∈ toks, HexTok t

theorem Spelling.sep_not_mem {c toks} (h : Spelling c toks) : ∀ t ∈ toks, c ∉ t := by
  intro t ht hc
  have := (h.hex t ht).2 c hc
  rw [h.sepNotHex] at this; cases this

theorem Spelling.no_newline {c toks} (h : Spelling c toks) : ∀ x ∈ [c].intercalate toks, x ≠ '\n' := by
  intro x hx
  rcases mem_intercalate hx with rfl | ⟨t, ht, hxt⟩
  · exact h.sepNotNl
  · intro e; subst e
    have := (h.hex t ht).2 _ hxt
    exact absurd this (by decide)

/-- a bare numeral is a spelling of one token; `':'` stands for any non-hex character -/
theorem tok_spelling (s : List Char) (h : HexTok s) : Spelling ':' [s] ∧ [':'].intercalate [s] = s := by
  refine ⟨⟨by decide, by decide, by simp, ?_⟩, by simp [List.intercalate, List.intersperse]⟩
  intro t ht
  simp only [List.mem_singleton] at ht
  subst ht
  exact h

theorem beWordsValue_single (k : Nat) (s : List Char) : beWordsValue k ([s].map tokVal) = tokVal s := by
  simp [beWordsValue, leValue]

def sepOk (f : MacFmt) : Bool :=
  match f.sep with
  | [] => true
  | [c] => !isHex c && c != '\n'
  | _ => false

theorem sepOk_cases {f : MacFmt} (hf : sepOk f = true) :
    f.sep = [] ∨ ∃ c, f.sep = [c] ∧ isHex c = false ∧ c ≠ '\n' := by
  unfold sepOk at hf
  match hs : f.sep, hf with
  | [], _ => exact Or.inl rfl
  | [c], hf =>
    simp only [Bool.and_eq_true, Bool.not_eq_true', bne_iff_ne, ne_eq] at hf
    exact Or.inr ⟨c, rfl, hf.1, hf.2⟩

/-- the token list the matcher looks at -/
def splitToks (f : MacFmt) (s : List Char) : List (List Char) :=
  match f.sep with
  | [] => [s]
  | c :: _ => s.splitOn c

theorem matchExact_eq (f : MacFmt) (s : List Char) :
    matchExact f s = if (splitToks f s).length = f.groups ∧
        (splitToks f s).all (fun t => decide (f.lo ≤ t.length) && decide (t.length ≤ f.hi) && t.all isHex) = true
      then some (splitToks f s) else none := rfl

/-- what a row can capture: as many groups as it has, each of hex digits inside its bounds -/
def Captured (f : MacFmt) (r : List (List Char)) : Prop :=
  r.length = f.groups ∧ ∀ t ∈ r, f.lo ≤ t.length ∧ t.length ≤ f.hi ∧ ∀ c ∈ t, isHex c = true

theorem matchExact_some_iff (f : MacFmt) (s : List Char) (r : List (List Char)) :
    matchExact f s = some r ↔ splitToks f s = r ∧ Captured f r := by
  have hc : ((splitToks f s).length = f.groups ∧ (splitToks f s).all (fun t =>
      decide (f.lo ≤ t.length) && decide (t.length ≤ f.hi) && t.all isHex) = true) ↔ Captured f (splitToks f s) := by
    simp only [Captured, List.all_eq_true, Bool.and_eq_true, decide_eq_true_eq, and_assoc]
  rw [matchExact_eq]
  split
  · next h => exact ⟨fun e => ⟨Option.some.inj e, Option.some.inj e ▸ hc.mp h⟩, fun e => by rw [e.1]⟩
  · next h => exact ⟨fun e => (nomatch e), fun e => absurd (hc.mpr (e.1 ▸ e.2)) h⟩

theorem matchExact_unique {f : MacFmt} (hf : sepOk f = true) {c : Char} {toks : List (List Char)}
    (h : Spelling c toks) {r : List (List Char)} (hm : matchExact f ([c].intercalate toks) = some r) :
    r = toks := by
  obtain ⟨hr, -, htok⟩ := (matchExact_some_iff _ _ _).mp hm
  -- split at the spelling's own separator the string gives back the tokens; any other row sees it whole
  have hsplit : r = toks ∨ r = [[c].intercalate toks] := by
    rw [← hr]
    unfold splitToks
    rcases sepOk_cases hf with hs | ⟨c', hs, hc', _⟩
    · rw [hs]; exact Or.inr rfl
    · rw [hs]
      by_cases e : c' = c
      · subst e
        exact Or.inl (List.splitOn_intercalate c' h.sep_not_mem h.ne)
      · -- another non-hex character occurs nowhere in the string
        exact Or.inr (List.splitOn_eq_singleton (not_mem_intercalate e fun t ht hx => by
          have := (h.hex t ht).2 c' hx
          rw [hc'] at this; cases this))
  rcases hsplit with rfl | hs
  · rfl
  · -- the whole string captured as one hex group: then there is exactly one token
    have hall := htok _ (hs ▸ List.mem_cons_self)
    match toks, h with
    | [], h => exact absurd rfl h.ne
    | [t], h => rw [hs]; simp [List.intercalate, List.intersperse]
    | a :: b :: r', h =>
      have := hall.2.2 c (sep_mem_intercalate c a b r')
      rw [h.sepNotHex] at this; cases this

/-- row `f` takes the tokens `toks` joined by `c`: its separator (none, for a single token), its group
    count, its bounds on every token -/
structure Takes (f : MacFmt) (c : Char) (toks : List (List Char)) : Prop where
  sep : f.sep = [c] ∨ (f.sep = [] ∧ toks.length = 1)
  groups : f.groups = toks.length
  len : ∀ t ∈ toks, f.lo ≤ t.length ∧ t.length ≤ f.hi

theorem Takes.captured {f : MacFmt} {c : Char} {toks : List (List Char)} (ht : Takes f c toks)
    (h : Spelling c toks) : Captured f toks :=
  ⟨ht.groups.symm, fun t hm => ⟨(ht.len t hm).1, (ht.len t hm).2, (h.hex t hm).2⟩⟩

theorem matchExact_some {f : MacFmt} {c : Char} {toks : List (List Char)} (h : Spelling c toks)
    (ht : Takes f c toks) : matchExact f ([c].intercalate toks) = some toks := by
  refine (matchExact_some_iff _ _ _).mpr ⟨?_, ht.captured h⟩
  unfold splitToks
  rcases ht.sep with hs | ⟨hs, h1⟩
  · rw [hs]; exact List.splitOn_intercalate c h.sep_not_mem h.ne
  · rw [hs]
    match toks, h1 with
    | [t], _ => simp [List.intercalate, List.intersperse]

theorem matchFmt_some {f : MacFmt} {s : List Char} {r : List (List Char)} (h : matchFmt f s = some r) :
    matchExact f s = some r ∨ matchExact f s.dropLast = some r := by
  unfold matchFmt at h
  split at h
  · rename_i t ht; exact Or.inl (ht.trans h)
  · split at h
    · exact Or.inr h
    · cases h

theorem matchFmt_eq (f : MacFmt) {s : List Char} (h : ∀ x ∈ s, x ≠ '\n') : matchFmt f s = matchExact f s := by
  unfold matchFmt
  cases hm : matchExact f s with
  | some t => rfl
  | none =>
    simp only
    rw [if_neg]
    intro hl
    exact h _ (List.mem_of_getLast? hl) rfl

theorem firstMatch_some (fmts : List MacFmt) (s : List Char) (toks : List (List Char))
    (hA : ∀ f ∈ fmts, ∀ r, matchFmt f s = some r → r = toks)
    (hB : ∃ f ∈ fmts, matchFmt f s = some toks) : firstMatch fmts s = some toks := by
  unfold firstMatch
  -- the search finds something (`hB`), and whatever it finds is `toks` (`hA`)
  cases h : fmts.findSome? (fun f => matchFmt f s) with
  | none => obtain ⟨f, hf, hm⟩ := hB; rw [List.findSome?_eq_none_iff.mp h f hf] at hm; cases hm
  | some r => obtain ⟨f, hf, hm⟩ := List.exists_of_findSome?_eq_some h; rw [hA f hf r hm]

theorem firstMatch_none (fmts : List MacFmt) (s : List Char) (h : ∀ f ∈ fmts, matchFmt f s = none) :
    firstMatch fmts s = none := by
  unfold firstMatch
  rw [List.findSome?_eq_none_iff]; exact h

end NV.Eui
