import NetaddrVerif.Lemmas.CanonSetL
/-! A canonical list is length-minimal among the lists of aligned blocks with the same address set
    (`canon_minimal`): each of its members, being maximal, contains a member of the other list, and disjoint
    blocks cannot share one (`count_le`). -/
namespace NV
open Blk

theorem count_le : ∀ (l l' : List Blk),
    l.Pairwise (fun b c => b.disj c) → (∀ b ∈ l, ∃ c ∈ l', c.sub b) → l.length ≤ l'.length
  | [], _, _, _ => Nat.zero_le _
  | b :: t, l', hd, h => by
    obtain ⟨c, hc, hcb⟩ := h b (by simp)
    have hp := List.pairwise_cons.1 hd
    have ih := count_le t (l'.erase c) hp.2 (by
      intro b' hb'
      obtain ⟨c', hc', hcb'⟩ := h b' (List.mem_cons_of_mem _ hb')
      refine ⟨c', ?_, hcb'⟩
      have hne : c' ≠ c := by
        intro e; subst e
        exact hp.1 b' hb' c'.base ⟨hcb _ (mem_base c'), hcb' _ (mem_base c')⟩
      exact (List.mem_erase_of_ne hne).2 hc')
    rw [List.length_erase_of_mem hc] at ih
    have : 0 < l'.length := List.length_pos_of_mem hc
    simp only [List.length_cons]; omega

theorem canon_minimal (l l' : List Blk) (hc : Canon l) (hal : ∀ c ∈ l', c.aligned)
    (hden : ∀ a, den l' a ↔ den l a) : l.length ≤ l'.length := by
  refine count_le l l' hc.pairwise_disj fun b hb => ?_
  obtain ⟨c, hcl, hcb⟩ := (hden b.base).2 ⟨b, hb, mem_base b⟩
  exact ⟨c, hcl, (canon_mem_maximal l hc b hb).absorbs (hal c hcl) (fun a ha => (hden a).1 ⟨c, hcl, ha⟩)
    b.base (mem_base b) hcb⟩

end NV
