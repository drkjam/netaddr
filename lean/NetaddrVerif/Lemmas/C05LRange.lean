import NetaddrVerif.Lemmas.C05LPart
import NetaddrVerif.Lemmas.C13L
/-! The two trims of `iprange_to_cidrs` turn a spanning block into the canonical list of `[lo, hi]`
    (`trims_spec`); the spanning blocks that two networks can produce (`trims_exact`,
    `trims_block`). -/
namespace NV.C05L
open NV Blk

/-- everything `iprange_to_cidrs` does after `spanning_cidr` -/
def trims (w lo hi : Nat) (span : Pfx) : List Pfx :=
  let st : List Pfx × Pfx :=
    if span.first w < lo then
      let l := (cidrPartition w span ⟨lo - 1, w⟩).2.2
      (l.dropLast, l.getLast?.getD span)
    else ([], span)
  if st.2.last w > hi then st.1 ++ (cidrPartition w st.2 ⟨hi + 1, w⟩).1
  else st.1 ++ [st.2]

theorem iprangeToCidrs_eq (w : Nat) (s e : Pfx) :
    iprangeToCidrs w s e = trims w (s.first w) (e.last w)
      (spanningOf w (min (s.first w) (e.first w)) (max (s.last w) (e.last w))) := rfl

/-- the result is the canonical list of the closed interval `[lo, hi]`: canonical as blocks,
    exact, and every element is a proper CIDR (no host bits, prefix inside the width) -/
structure RangeOK (w : Nat) (l : List Pfx) (lo hi : Nat) : Prop where
  canon : Canon (l.map (toBlk w))
  den : ∀ a, lden w l a ↔ lo ≤ a ∧ a ≤ hi
  wf : ∀ b ∈ l, alignedN w b ∧ b.plen ≤ w

theorem RangeOK.bounds {w : Nat} {l : List Pfx} {lo hi : Nat} (h : RangeOK w l lo hi) {b : Pfx} (hb : b ∈ l) :
    lo ≤ b.val ∧ b.val + 2 ^ (w - b.plen) ≤ hi + 1 :=
  lden_bounds (fun a ha => ⟨((h.den a).1 ha).1, Nat.lt_succ_of_le ((h.den a).1 ha).2⟩) hb

/-- the address set read on the blocks, as the field `canon` is (inside this namespace a bare `den` is the field) -/
theorem RangeOK.den_blk {w : Nat} {l : List Pfx} {lo hi : Nat} (h : RangeOK w l lo hi) (a : Nat) :
    NV.den (l.map (toBlk w)) a ↔ lo ≤ a ∧ a ≤ hi := (C09L.den_blks w l a).trans (h.den a)

theorem Run.rangeOK {w K : Nat} {l : List Pfx} {lo hi : Nat} (h : Run w K l lo (hi + 1)) :
    RangeOK w l lo hi :=
  ⟨h.canon, fun a => by rw [h.den a]; omega, fun b hb => ⟨h.al b hb, (h.plen b hb).1⟩⟩

theorem single_rangeOK (w v r : Nat) (hr : r ≤ w) (hal : v % 2 ^ (w - r) = 0) :
    RangeOK w [⟨v, r⟩] v (v + 2 ^ (w - r) - 1) := by
  have hp := Nat.two_pow_pos (w - r)
  refine ⟨canon_single hal, fun a => ?_, ?_⟩
  · rw [lden_single]; simp only [bmem]; omega
  · intro b hb; rw [List.mem_singleton.1 hb]; exact ⟨hal, hr⟩

/-- a run up to a multiple `m` of `2^K` followed by the canonical list of `[m, hi]`: the blocks
    of the run are smaller than `2^K`, so none of them has its sibling across `m` -/
theorem Run.append_rangeOK {w K : Nat} {l₁ l₂ : List Pfx} {lo m hi : Nat} (h1 : Run w K l₁ lo m)
    (h2 : RangeOK w l₂ m hi) (hm : m % 2 ^ K = 0) (hlo : lo ≤ m) (hhi : m ≤ hi + 1) :
    RangeOK w (l₁ ++ l₂) lo hi := by
  have hseam : ∀ p ∈ l₁, ∀ q ∈ l₂, p.val + 2 ^ (w - p.plen) ≤ m ∧ m ≤ q.val := fun p hp q hq =>
    ⟨(h1.bounds p hp).2, (h2.bounds hq).1⟩
  refine ⟨?_, fun a => ?_, ?_⟩
  · rw [List.map_append]
    refine canon_append h1.canon h2.canon ?_ ?_
    · exact List.forall_mem_map.2 fun p hp => List.forall_mem_map.2 fun q hq =>
        Nat.le_trans (hseam p hp q hq).1 (hseam p hp q hq).2
    · exact List.forall_mem_map.2 fun p hp => List.forall_mem_map.2 fun q hq =>
        nosib_across hm (h1.plen p hp).2 (hseam p hp q hq).1 (hseam p hp q hq).2
  · rw [lden_append, h1.den a, h2.den a]; omega
  · exact fun b hb => (List.mem_append.1 hb).elim (fun h => ⟨h1.al b h, (h1.plen b h).1⟩) (h2.wf b)

/-- the second trim, `if cidr_span.last > iprange[1]`, on the block `c` that the first one kept -/
def trimTop (w hi : Nat) (pre : List Pfx) (c : Pfx) : List Pfx :=
  if c.last w > hi then pre ++ (cidrPartition w c ⟨hi + 1, w⟩).1 else pre ++ [c]

theorem trimTop_pre (w hi : Nat) (pre : List Pfx) (c : Pfx) : trimTop w hi pre c = pre ++ trimTop w hi [] c := by
  unfold trimTop
  split <;> rfl

theorem trims_eq (w lo hi : Nat) (span : Pfx) :
    trims w lo hi span =
      if span.first w < lo then
        trimTop w hi (cidrPartition w span ⟨lo - 1, w⟩).2.2.dropLast
          ((cidrPartition w span ⟨lo - 1, w⟩).2.2.getLast?.getD span)
      else trimTop w hi [] span := by
  unfold trims trimTop
  split <;> rfl

theorem trimTop_ok (w hi cv cp : Nat) (hcp : cp ≤ w) (hal : cv % 2 ^ (w - cp) = 0) (hfit : cv + 2 ^ (w - cp) ≤ 2 ^ w)
    (h1 : cv ≤ hi + 1) (h2 : hi < cv + 2 ^ (w - cp)) :
    RangeOK w (trimTop w hi [] ⟨cv, cp⟩) cv hi := by
  have hp := Nat.two_pow_pos (w - cp)
  rw [trimTop, show Pfx.last w ⟨cv, cp⟩ = cv + (2 ^ (w - cp) - 1) from netLast_of_aligned w cv cp hal]
  split
  · rcases Nat.lt_or_ge cp w with hcw | hcw
    · exact (part_spec w cv cp (hi + 1) hcw hal hfit h1 (by omega)).1.rangeOK
    · -- a single address just above `hi`: excluding it from itself leaves nothing
      obtain rfl : w = cp := Nat.le_antisymm hcw hcp
      rw [Nat.sub_self] at *
      obtain rfl : cv = hi + 1 := by omega
      have e1 : Pfx.first w ⟨hi + 1, w⟩ = hi + 1 := netFirst_full w _ (Nat.lt_of_succ_le hfit)
      have e2 : Pfx.last w ⟨hi + 1, w⟩ = hi + 1 := netLast_full w _
      rw [C09L.cidrPartition_covered w _ _ (by rw [e1, e2]; omega) (by rw [e1, e2]; omega) (Nat.le_refl w)]
      exact ⟨canon_nil, fun a => (lden_nil_iff w (hi + 1) a).trans (by omega), nofun⟩
  · rw [show hi = cv + 2 ^ (w - cp) - 1 by omega]
    exact single_rangeOK w cv cp hcp hal

/-- The two trims on an aligned block `(v, r)` that starts at or below `lo` and contains `hi`.
    When both happen (`hmid`), `lo` lies in its lower half and `hi + 1` in its upper half or at
    the midpoint, as for the smallest block that contains both. -/
theorem trims_spec (w lo hi v r : Nat) (hr : r ≤ w) (hal : v % 2 ^ (w - r) = 0)
    (hfit : v + 2 ^ (w - r) ≤ 2 ^ w) (hvlo : v ≤ lo) (hle : lo ≤ hi) (hhi : hi < v + 2 ^ (w - r))
    (hmid : v < lo → hi + 1 < v + 2 ^ (w - r) →
      lo ≤ v + 2 ^ (w - (r + 1)) ∧ v + 2 ^ (w - (r + 1)) ≤ hi + 1) :
    RangeOK w (trims w lo hi ⟨v, r⟩) lo hi := by
  have hp := Nat.two_pow_pos (w - r)
  have hv : v < 2 ^ w := Nat.lt_of_lt_of_le (Nat.lt_add_of_pos_right hp) hfit
  rw [trims_eq, show Pfx.first w ⟨v, r⟩ = v from netFirst_of_aligned w v r hv hal]
  by_cases hlt : v < lo
  · rw [if_pos hlt]
    have hrw : r < w := plen_lt_of_one_lt_pow (by omega)
    have e1 : lo - 1 + 1 = lo := Nat.sub_add_cancel (Nat.zero_lt_of_lt hlt)
    by_cases hrt : hi + 1 < v + 2 ^ (w - r)
    · -- both trims: the first leaves the run from `lo` to the midpoint and keeps the upper half
      obtain ⟨hm1, hm2⟩ := hmid hlt hrt
      have hhalf := pow_half hrw
      obtain ⟨rest, hrest, hrun⟩ := part_split w v r (lo - 1) hrw hal hfit (by omega) (by omega)
      rw [hrest, List.dropLast_concat, List.getLast?_concat, Option.getD_some, trimTop_pre]
      rw [e1] at hrun
      have hmal : (v + 2 ^ (w - (r + 1))) % 2 ^ (w - (r + 1)) = 0 := by
        rw [Nat.add_mod_right]; exact mod_pow_of_le hal (Nat.sub_le_sub_left (Nat.le_succ r) w)
      exact hrun.append_rangeOK (trimTop_ok w hi _ (r + 1) hrw hmal (by omega) hm2 (by omega)) hmal hm1 hm2
    · -- the block ends at `hi`: the last member of the `after` list is popped and put back
      have hps := (part_spec w v r (lo - 1) hrw hal hfit (by omega) (by omega)).2
      rw [e1, show v + 2 ^ (w - r) = hi + 1 by omega] at hps
      generalize (cidrPartition w ⟨v, r⟩ ⟨lo - 1, w⟩).2.2 = l at hps
      have hne := hps.ne_nil (Nat.lt_succ_of_le hle)
      have hmem := List.getLast_mem hne
      have hb := (hps.bounds _ hmem).2
      have hpb := Nat.two_pow_pos (w - (l.getLast hne).plen)
      rw [List.getLast?_eq_some_getLast hne, Option.getD_some, trimTop,
        show Pfx.last w (l.getLast hne) = _ from netLast_of_aligned w _ _ (hps.al _ hmem), if_neg (by omega),
        List.dropLast_concat_getLast hne]
      exact hps.rangeOK
  · rw [if_neg hlt]
    obtain rfl : v = lo := Nat.le_antisymm hvlo (Nat.le_of_not_lt hlt)
    exact trimTop_ok w hi v r hr hal hfit (by omega) hhi

/-- the trims applied to the spanning block of `[lo, hi]` itself: it is the smallest aligned block
    around the interval, so `lo` lies in its lower and `hi` in its upper half -/
theorem trims_exact (w lo hi : Nat) (hle : lo ≤ hi) (hhi : hi < 2 ^ w) :
    RangeOK w (trims w lo hi (spanningOf w lo hi)) lo hi := by
  obtain ⟨h1, h2, h3, h4, h5, h6, -⟩ := spanningOf_spec w lo hi hle hhi
  refine trims_spec w lo hi (spanningOf w lo hi).val (spanningOf w lo hi).plen h1 h2 h5 h3 hle h4 fun _ hrt => ?_
  have hrw : (spanningOf w lo hi).plen < w := plen_lt_of_one_lt_pow (by omega)
  exact ⟨Nat.le_of_lt (h6 hrw).1, Nat.le_succ_of_le (h6 hrw).2⟩

/-- the trims applied to the spanning block of an aligned block `[m, hi0]` that shares an end
    with `[lo, hi]`: the spanning block is `[m, hi0]`, and at most one trim happens -/
theorem trims_block (w lo hi m j hi0 : Nat) (hal : m % 2 ^ j = 0) (hfit : m + 2 ^ j ≤ 2 ^ w)
    (h0 : hi0 + 1 = m + 2 ^ j) (hm : m ≤ lo) (hle : lo ≤ hi) (hhi : hi ≤ hi0) (hside : m = lo ∨ hi0 = hi) :
    RangeOK w (trims w lo hi (spanningOf w m hi0)) lo hi := by
  obtain ⟨h1, h2, -, -, h5, -, -⟩ := spanningOf_spec w m hi0 (by omega) (by omega)
  obtain ⟨hv, hsz⟩ := span_of_block w m j hi0 hal hfit h0
  refine trims_spec w lo hi (spanningOf w m hi0).val (spanningOf w m hi0).plen h1 h2 h5 (hv.symm ▸ hm) hle
    (by omega) fun hvlt hrt => ?_
  rcases hside with e | e <;> omega

/-- `iprange_to_cidrs(start, end)` for two networks (host bits allowed) of one family with
    `start.first ≤ end.last` -/
theorem range_net (w : Nat) (s e : Pfx) (hs : s.val < 2 ^ w) (he : e.val < 2 ^ w)
    (hsp : s.plen ≤ w) (hep : e.plen ≤ w) (hle : s.first w ≤ e.last w) :
    RangeOK w (iprangeToCidrs w s e) (s.first w) (e.last w) := by
  have hS : C09L.PWF w s := ⟨hs, hsp⟩
  have hE : C09L.PWF w e := ⟨he, hep⟩
  have hSl := hS.last_first
  have hEl := hE.last_first
  have hSw := hS.last_lt
  have hEw := hE.last_lt
  have hps := Nat.two_pow_pos (w - s.plen)
  have hpe := Nat.two_pow_pos (w - e.plen)
  rw [iprangeToCidrs_eq]
  by_cases hB : s.last w > e.last w
  · -- the start network reaches beyond the end network, so it contains it
    have hn : s.first w ≤ e.first w := by
      rcases Nat.le_total s.plen e.plen with h | h
      · exact (nested_of_share w s.val s.plen e.val e.plen (e.last w) hs he h
          ⟨hle, Nat.le_of_lt hB⟩ ⟨(by omega : e.first w ≤ e.last w), Nat.le_refl _⟩).1
      · exact absurd (nested_of_share w e.val e.plen s.val s.plen (e.last w) he hs h
          ⟨(by omega : e.first w ≤ e.last w), Nat.le_refl _⟩ ⟨hle, Nat.le_of_lt hB⟩).2 (Nat.not_le_of_lt hB)
    rw [Nat.min_eq_left hn, Nat.max_eq_left (Nat.le_of_lt hB)]
    exact trims_block w _ _ _ (w - s.plen) _ hS.first_aligned (by omega) hSl
      (Nat.le_refl _) hle (Nat.le_of_lt hB) (Or.inl rfl)
  · have hB' := Nat.le_of_not_gt hB
    by_cases hC : e.first w < s.first w
    · -- the end network starts below the start network
      rw [Nat.min_eq_right (Nat.le_of_lt hC), Nat.max_eq_right hB']
      exact trims_block w _ _ _ (w - e.plen) _ hE.first_aligned (by omega) hEl
        (Nat.le_of_lt hC) hle (Nat.le_refl _) (Or.inr rfl)
    · rw [Nat.min_eq_left (Nat.le_of_not_lt hC), Nat.max_eq_right hB']
      exact trims_exact w _ _ hle hEw

/-- `iprange_to_cidrs(IPAddress(lo), IPAddress(hi))`, `IPRange(lo, hi).cidrs()` -/
theorem range_addr (w lo hi : Nat) (hle : lo ≤ hi) (hhi : hi < 2 ^ w) :
    RangeOK w (iprangeToCidrs w ⟨lo, w⟩ ⟨hi, w⟩) lo hi := by
  have h := range_net w ⟨lo, w⟩ ⟨hi, w⟩ (by show lo < 2 ^ w; omega) hhi (Nat.le_refl w) (Nat.le_refl w)
    (by simp only [Pfx.first, Pfx.last, netLast_full]; rw [netFirst_full w lo (by omega)]; exact hle)
  simp only [Pfx.first, Pfx.last, netLast_full] at h
  rw [netFirst_full w lo (by omega)] at h
  exact h

end NV.C05L
