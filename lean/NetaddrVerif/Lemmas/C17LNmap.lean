/-
Lemmas/C17LNmap.lean — nmap target specs: what a comma/hyphen list denotes (`elemBounds`, `OctetWF`,
`OctetDen`, `vals`), `_nmap_octet_target_values` and `_generate_nmap_octet_ranges` as `if`s over it
(`octetTargetValues_eq`, `generate_eq`), and the four nested loops as one list (`fullProduct`), ascending when
the four are.
-/
import NetaddrVerif.Model.Nmap
import NetaddrVerif.Lemmas.Numerals
import NetaddrVerif.Lemmas.MapM
namespace NV.C17
open NV NV.Nmap

theorem flatMapTake_eq {α β : Type} (g : α → Nat → List β) (g' : α → List β)
    (hg : ∀ a n, g a n = (g' a).take n) :
    ∀ (l : List α) (n : Nat), flatMapTake g l n = (l.flatMap g').take n := by
  intro l
  induction l with
  | nil => intro n; simp [flatMapTake]
  | cons a t ih =>
    intro n
    unfold flatMapTake
    by_cases h0 : n = 0
    · subst h0; simp
    · simp only [h0, if_false, List.flatMap_cons, List.take_append, hg, ih]
      congr 2
      rw [List.length_take]
      omega

/-- the full enumeration of the four nested loops, as numbers (`Plan.all` of an octet plan is its image under
    `⟨4, ·⟩`: `C17L.Plan.all_octets`) -/
def fullProduct (ws xs ys zs : List Nat) : List Nat :=
  ws.flatMap fun w => xs.flatMap fun x => ys.flatMap fun y =>
    zs.map fun z => w * 2 ^ 24 + x * 2 ^ 16 + y * 2 ^ 8 + z

theorem product4_eq (ws xs ys zs : List Nat) (fuel : Nat) :
    product4 ws xs ys zs fuel = (fullProduct ws xs ys zs).take fuel := by
  unfold product4 fullProduct
  apply flatMapTake_eq
  intro w n
  apply flatMapTake_eq
  intro x n
  apply flatMapTake_eq
  intro y n
  rw [List.map_take]

theorem mem_sortedSet (l : List Nat) (v : Nat) : v ∈ sortedSet l ↔ v ∈ l ∧ v < 256 := by
  unfold sortedSet
  rw [List.mem_filter, List.mem_range, List.contains_iff_mem]
  exact ⟨fun h => ⟨h.2, h.1⟩, fun h => ⟨h.2, h.1⟩⟩

theorem sortedSet_sorted (l : List Nat) : (sortedSet l).Pairwise (· < ·) :=
  List.Pairwise.filter _ List.pairwise_lt_range

theorem sortedSet_lt (l : List Nat) : ∀ v ∈ sortedSet l, v < 256 := fun v h => ((mem_sortedSet l v).1 h).2

theorem split1_app (c : Char) (a t : List Char) (ha : c ∉ a) : split1 c (a ++ c :: t) = (a, t) := by
  unfold split1
  rw [(cut_append_cons ha t).1, (cut_append_cons ha t).2]
  rfl

/-- `elementValues` in closed form (`elementValues_eq`): the closed octet interval an nmap list element
    denotes (`n`, `a-b`, `-b`, `a-`, `-`), numerals read by `int()`; `none` = malformed (not an int, outside 0..255, or a > b) -/
def elemBounds (el : List Char) : Option (Nat × Nat) :=
  if '-' ∈ el then
    let l := el.takeWhile (· != '-')
    let r := (el.dropWhile (· != '-')).drop 1
    match (if l = [] then some 0 else Py.pyInt 10 l), (if r = [] then some 255 else Py.pyInt 10 r) with
    | some a, some b => if 0 ≤ a ∧ a ≤ b ∧ b ≤ 255 then some (a.toNat, b.toNat) else none
    | _, _ => none
  else
    match Py.pyInt 10 el with
    | some a => if 0 ≤ a ∧ a ≤ 255 then some (a.toNat, a.toNat) else none
    | none => none

theorem mem_closedRange (lo hi v : Nat) : v ∈ closedRange lo hi ↔ lo ≤ v ∧ v ≤ hi := by
  unfold closedRange
  simp only [List.mem_map, List.mem_range]
  constructor
  · rintro ⟨i, hi', rfl⟩; exact ⟨Nat.le_add_right .., by omega⟩
  · intro h; exact ⟨v - lo, by omega, Nat.add_sub_cancel' h.1⟩

theorem closedRange_self (a : Nat) : closedRange a a = [a] := by
  rw [closedRange, Nat.add_sub_cancel_left]
  rfl

theorem elementValues_eq (el : List Char) :
    elementValues el = match elemBounds el with
      | some (lo, hi) => .ok (closedRange lo hi)
      | none => .error .value := by
  unfold elemBounds elementValues
  by_cases hm : '-' ∈ el
  · have hc : el.contains '-' = true := List.contains_iff_mem.2 hm
    simp only [hm, if_true, hc, split1, intOr, List.isEmpty_iff]
    generalize el.takeWhile (fun c => c != '-') = l
    generalize (el.dropWhile (fun c => c != '-')).drop 1 = r
    cases (if l = [] then some (0 : Int) else Py.pyInt 10 l) with
    | none => rfl
    | some a =>
      cases (if r = [] then some (255 : Int) else Py.pyInt 10 r) with
      | none => rfl
      | some b =>
        simp only
        by_cases hc1 : 0 ≤ a ∧ a ≤ b ∧ b ≤ 255
        · rw [if_pos hc1, if_neg (fun h => h (by omega)), if_neg (by omega)]
        · rw [if_neg hc1]
          by_cases c1 : (0 ≤ a ∧ a ≤ 255) ∧ (0 ≤ b ∧ b ≤ 255)
          · rw [if_neg (fun h => h c1), if_pos (by omega)]
          · rw [if_pos c1]
  · have hc : el.contains '-' = false := Bool.eq_false_iff.2 fun h => hm (List.contains_iff_mem.1 h)
    simp only [hm, if_false, hc, Bool.false_eq_true]
    cases Py.pyInt 10 el with
    | none => rfl
    | some a =>
      simp only
      by_cases c : 0 ≤ a ∧ a ≤ 255
      · rw [if_pos c, if_neg (fun h => h c)]
        exact congrArg Except.ok (closedRange_self _).symm
      · rw [if_neg c, if_pos c]

theorem elemBounds_le {el : List Char} {lo hi : Nat} (h : elemBounds el = some (lo, hi)) :
    lo ≤ hi ∧ hi ≤ 255 := by
  unfold elemBounds at h
  dsimp only at h
  split at h
  · split at h
    · split at h
      · cases h
        omega
      · cases h
    · cases h
  · split at h
    · split at h
      · cases h
        omega
      · cases h
    · cases h

def elemRange (el : List Char) : List Nat :=
  match elemBounds el with
  | some (lo, hi) => closedRange lo hi
  | none => []

theorem mem_elemRange (el : List Char) (v : Nat) :
    v ∈ elemRange el ↔ ∃ lo hi, elemBounds el = some (lo, hi) ∧ lo ≤ v ∧ v ≤ hi := by
  unfold elemRange
  cases elemBounds el with
  | none => simp
  | some p =>
    obtain ⟨lo, hi⟩ := p
    show v ∈ closedRange lo hi ↔ _
    rw [mem_closedRange]
    exact ⟨fun h => ⟨lo, hi, rfl, h⟩, fun ⟨_, _, e, h⟩ => by cases e; exact h⟩

theorem mapM_exc_nil {α β : Type} (f : α → R β) : ([] : List α).mapM f = .ok [] := rfl

/-- the members of `vals tok` (`vals_spec`) -/
def OctetDen (tok : List Char) (v : Nat) : Prop :=
  ∃ el ∈ tok.splitOn ',', ∃ lo hi, elemBounds el = some (lo, hi) ∧ lo ≤ v ∧ v ≤ hi

def OctetWF (tok : List Char) : Prop := ∀ el ∈ tok.splitOn ',', (elemBounds el).isSome = true

instance (tok : List Char) : Decidable (OctetWF tok) := by unfold OctetWF; infer_instance

theorem elementValues_ite (el : List Char) :
    elementValues el = if (elemBounds el).isSome = true then .ok (elemRange el) else .error .value := by
  rw [elementValues_eq, elemRange]
  cases elemBounds el <;> rfl

/-- what `octetTargetValues` returns on a well-formed list (`octetTargetValues_eq`): its values, ascending -/
def vals (tok : List Char) : List Nat := sortedSet ((tok.splitOn ',').map elemRange).flatten

theorem octetTargetValues_eq (tok : List Char) :
    octetTargetValues tok = if OctetWF tok then .ok (vals tok) else .error .value := by
  rw [octetTargetValues, mapM_ite elementValues_ite]
  by_cases h : OctetWF tok
  · rw [if_pos h, if_pos (show ∀ el ∈ tok.splitOn ',', _ from h)]
    rfl
  · rw [if_neg h, if_neg (show ¬ ∀ el ∈ tok.splitOn ',', _ from h)]

theorem vals_spec {tok : List Char} (h : OctetWF tok) :
    vals tok ≠ [] ∧ (vals tok).Pairwise (· < ·) ∧ (∀ v ∈ vals tok, v < 256) ∧ ∀ v, v ∈ vals tok ↔ OctetDen tok v := by
  have hden : ∀ v, v ∈ ((tok.splitOn ',').map elemRange).flatten ↔ OctetDen tok v := fun v => by
    simp only [← List.flatMap_def, List.mem_flatMap, mem_elemRange]
    rfl
  have hmem : ∀ v, v ∈ vals tok ↔ OctetDen tok v := fun v => by
    rw [vals, mem_sortedSet, hden]
    exact ⟨And.left, fun hv => ⟨hv, by
      obtain ⟨el, _, lo, hi, hb, _, hvhi⟩ := hv
      exact Nat.lt_succ_of_le (Nat.le_trans hvhi (elemBounds_le hb).2)⟩⟩
  refine ⟨?_, sortedSet_sorted _, sortedSet_lt _, hmem⟩
  -- the first element's lower bound is a value
  match hs : tok.splitOn ',', List.splitOn_ne_nil ',' tok with
  | el :: r, _ =>
    have hel : el ∈ tok.splitOn ',' := hs ▸ List.mem_cons_self ..
    obtain ⟨⟨lo, hi⟩, hb⟩ := Option.isSome_iff_exists.1 (h el hel)
    exact List.ne_nil_of_mem ((hmem lo).2 ⟨el, hel, lo, hi, hb, Nat.le_refl _, (elemBounds_le hb).1⟩)

theorem mem_fullProduct {ws xs ys zs : List Nat} (bw : ∀ v ∈ ws, v < 256) (bx : ∀ v ∈ xs, v < 256)
    (by' : ∀ v ∈ ys, v < 256) (bz : ∀ v ∈ zs, v < 256) (a : Nat) :
    a ∈ fullProduct ws xs ys zs ↔
      a < 2 ^ 32 ∧ a / 2 ^ 24 % 256 ∈ ws ∧ a / 2 ^ 16 % 256 ∈ xs ∧ a / 2 ^ 8 % 256 ∈ ys ∧ a % 256 ∈ zs := by
  unfold fullProduct
  simp only [List.mem_flatMap, List.mem_map]
  constructor
  · rintro ⟨w, hw, x, hx, y, hy, z, hz, rfl⟩
    obtain ⟨ha, e1, e2, e3, e4⟩ := (quad_digits (bw w hw) (bx x hx) (by' y hy) (bz z hz) _).1 rfl
    rw [e1, e2, e3, e4]
    exact ⟨ha, hw, hx, hy, hz⟩
  · rintro ⟨ha, hw, hx, hy, hz⟩
    exact ⟨_, hw, _, hx, _, hy, _, hz, ((quad_digits (bw _ hw) (bx _ hx) (by' _ hy) (bz _ hz) a).2 ⟨ha, rfl, rfl, rfl, rfl⟩).symm⟩

/-- one level of the nested loops: ascending digits in front of an ascending list below `N` -/
theorem shift_sorted {ds r : List Nat} {N : Nat} (hd : ds.Pairwise (· < ·)) (hr : r.Pairwise (· < ·))
    (hb : ∀ a ∈ r, a < N) : (ds.flatMap fun d => r.map (d * N + ·)).Pairwise (· < ·) := by
  rw [List.pairwise_flatMap]
  refine ⟨fun d _ => ?_, hd.imp ?_⟩
  · rw [List.pairwise_map]
    exact hr.imp fun h => Nat.add_lt_add_left h _
  · intro d d' hdd p hp q hq
    obtain ⟨a, ha, rfl⟩ := List.mem_map.1 hp
    obtain ⟨b, -, rfl⟩ := List.mem_map.1 hq
    have := hb a ha
    have := Nat.mul_le_mul_right N (show d + 1 ≤ d' from hdd)
    rw [Nat.succ_mul] at this
    omega

theorem shift_lt {ds r : List Nat} {N : Nat} (hd : ∀ d ∈ ds, d < 256) (hb : ∀ a ∈ r, a < N) :
    ∀ a ∈ ds.flatMap fun d => r.map (d * N + ·), a < 256 * N := by
  intro a ha
  obtain ⟨d, hd', ha⟩ := List.mem_flatMap.1 ha
  obtain ⟨b, hb', rfl⟩ := List.mem_map.1 ha
  have := hb b hb'
  have := Nat.mul_le_mul_right N (show d + 1 ≤ 256 from hd d hd')
  rw [Nat.succ_mul] at this
  omega

theorem fullProduct_nest (ws xs ys zs : List Nat) :
    fullProduct ws xs ys zs = ws.flatMap fun w => (xs.flatMap fun x => (ys.flatMap fun y =>
      zs.map (y * 2 ^ 8 + ·)).map (x * 2 ^ 16 + ·)).map (w * 2 ^ 24 + ·) := by
  simp only [fullProduct, List.map_flatMap, List.map_map, Function.comp_def, Nat.add_assoc]

theorem fullProduct_sorted (ws xs ys zs : List Nat)
    (sw : ws.Pairwise (· < ·)) (sx : xs.Pairwise (· < ·)) (sy : ys.Pairwise (· < ·)) (sz : zs.Pairwise (· < ·))
    (bx : ∀ v ∈ xs, v < 256) (by' : ∀ v ∈ ys, v < 256) (bz : ∀ v ∈ zs, v < 256) :
    (fullProduct ws xs ys zs).Pairwise (· < ·) := by
  rw [fullProduct_nest]
  have b2 := shift_lt by' bz
  exact shift_sorted sw (shift_sorted sx (shift_sorted sy sz bz) b2) (shift_lt bx b2)

theorem fullProduct_ne_nil {ws xs ys zs : List Nat} (hw : ws ≠ []) (hx : xs ≠ []) (hy : ys ≠ []) (hz : zs ≠ []) :
    fullProduct ws xs ys zs ≠ [] := by
  cases ws with
  | nil => exact absurd rfl hw
  | cons w _ =>
    cases xs with
    | nil => exact absurd rfl hx
    | cons x _ =>
      cases ys with
      | nil => exact absurd rfl hy
      | cons y _ =>
        cases zs with
        | nil => exact absurd rfl hz
        | cons z _ => simp [fullProduct]

theorem generate_eq (spec : List Char) :
    generateOctetRanges spec =
      if spec = [] then .error .value
      else if (spec.splitOn '.').length ≠ 4 then .error .addrFormat
      else if ∀ t ∈ spec.splitOn '.', OctetWF t then .ok ((spec.splitOn '.').map vals)
      else .error .value := by
  rw [← mapM_ite octetTargetValues_eq]
  cases spec <;> rfl

theorem generate_cases (spec : List Char) :
    (∃ e, generateOctetRanges spec = .error e ∧ (e = .value ∨ e = .addrFormat)) ∨
    ∃ t0 t1 t2 t3, spec ≠ [] ∧ spec.splitOn '.' = [t0, t1, t2, t3] ∧
      (OctetWF t0 ∧ OctetWF t1 ∧ OctetWF t2 ∧ OctetWF t3) ∧
      generateOctetRanges spec = .ok [vals t0, vals t1, vals t2, vals t3] := by
  by_cases hne : spec = []
  · exact Or.inl ⟨.value, by rw [generate_eq, if_pos hne], Or.inl rfl⟩
  by_cases hl : (spec.splitOn '.').length ≠ 4
  · exact Or.inl ⟨.addrFormat, by rw [generate_eq, if_neg hne, if_pos hl], Or.inr rfl⟩
  by_cases hw : ∀ t ∈ spec.splitOn '.', OctetWF t
  · obtain ⟨t0, t1, t2, t3, hsp, w⟩ := four_of_length (Decidable.of_not_not hl) hw
    exact Or.inr ⟨t0, t1, t2, t3, hne, hsp, w, by rw [generate_eq, if_neg hne, if_neg hl, if_pos hw, hsp]; rfl⟩
  · exact Or.inl ⟨.value, by rw [generate_eq, if_neg hne, if_neg hl, if_neg hw], Or.inl rfl⟩

end NV.C17
