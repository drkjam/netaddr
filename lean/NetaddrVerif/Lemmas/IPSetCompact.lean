/-
Lemmas/IPSetCompact.lean — `_compact_single_network` (C06): the sibling-merge loop keeps the
state canonical and its denotation unchanged; the supernet walk / scan, the removal of stored
sub-blocks and the merge loop together refine "add one block to a canonical set".
-/
import NetaddrVerif.Lemmas.IPSetState
namespace NV.IPSet
open NV NV.Blk

def others (s : St) (a : Net) : St := s.filter (fun n => decide (n ≠ a))

theorem mem_others {s : St} {a n : Net} : n ∈ others s a ↔ n ∈ s ∧ n ≠ a := by
  unfold others; simp

/-- precondition of the merge loop: `a` is a stored good key, the other keys are canonical
    per family, and `a`'s block is disjoint from all of them -/
structure Pre (s : St) (a : Net) : Prop where
  good : ∀ n ∈ s, Good n
  nodup : s.Nodup
  mem : a ∈ s
  cs : ∀ ver, CanonSet (fam ver (others s a))
  dj : ∀ c ∈ s, c ≠ a → c.ver = a.ver → (blk a).disj (blk c)

theorem Pre.inv_others {s : St} {a : Net} (h : Pre s a) : Inv (others s a) :=
  ⟨fun n hn => h.good n (mem_others.1 hn).1, h.nodup.filter _, h.cs⟩

theorem plen_pos_of_sib (a c : Net) (ha : a.WF) (hc : c.WF) (hv : c.ver = a.ver)
    (h : (blk a).sib (blk c) ∨ (blk c).sib (blk a)) : 1 ≤ a.plen := by
  refine Nat.pos_of_ne_zero fun hp => ?_
  have hka : (blk a).k = width a.ver := by show width a.ver - a.plen = _; rw [hp]; rfl
  have la := last_eq a ha; have ua := last_lt a ha
  have lc := last_eq c hc; have uc := last_lt c hc
  rw [hv] at uc
  change a.last = a.first + (2 ^ (blk a).k - 1) at la
  change c.last = c.first + (2 ^ (blk c).k - 1) at lc
  have := Nat.two_pow_pos (width a.ver)
  -- the upper half would start at or beyond the end of the space
  rcases h with ⟨hk, _, hb⟩ | ⟨hk, _, hb⟩
  · change c.first = a.first + 2 ^ (blk a).k at hb
    rw [← hk, hka] at lc; rw [hka] at hb; omega
  · change a.first = c.first + 2 ^ (blk c).k at hb
    rw [hk, hka] at hb; rw [hka] at la; omega

theorem stop_inv (s : St) (a : Net) (h : Pre s a)
    (hs : ∀ c ∈ s, c ≠ a → c.ver = a.ver → ¬ ((blk a).sib (blk c) ∨ (blk c).sib (blk a))) : Inv s := by
  have ho := h.inv_others
  refine inv_of_pairwise s h.good h.nodup ?_ ?_
  · intro x hx y hy hv hne
    by_cases ex : x = a
    · subst ex; exact h.dj y hy (Ne.symm hne) hv.symm
    by_cases ey : y = a
    · subst ey; exact fun z hz => h.dj x hx ex hv z ⟨hz.2, hz.1⟩
    exact ho.disj (mem_others.2 ⟨hx, ex⟩) (mem_others.2 ⟨hy, ey⟩) hv hne
  · intro x hx y hy hv hsib
    by_cases ex : x = a <;> by_cases ey : y = a
    · exact not_sib_self _ (ex ▸ ey ▸ hsib)
    · subst ex; exact hs y hy ey hv.symm (Or.inl hsib)
    · subst ey; exact hs x hx ex hv (Or.inr hsib)
    · exact ho.nosib (mem_others.2 ⟨hx, ex⟩) (mem_others.2 ⟨hy, ey⟩) hv hsib

theorem mem_stepState (s : St) (a : Net) (h : Pre s a) (hp : 1 ≤ a.plen) (n : Net) :
    n ∈ stepState s a ↔ (n ∈ s ∧ n ≠ candOf a ∧ n ≠ a) ∨ n = mergedOf a := by
  have ha := h.good a h.mem
  have hcg := (cand_spec a ha hp).1
  have hmg := (merged_spec a ha hp).1
  unfold stepState
  have g1 := good_dDel s h.good (candOf a)
  have g2 := good_dDel _ g1 a
  rw [mem_dInsert _ g2 _ hmg, mem_dDel _ g1 a ha, mem_dDel s h.good _ hcg]
  constructor
  · rintro (⟨⟨h1, h2⟩, h3⟩ | h4)
    · exact Or.inl ⟨h1, h2, h3⟩
    · exact Or.inr h4
  · rintro (⟨h1, h2, h3⟩ | h4)
    · exact Or.inl ⟨⟨h1, h2⟩, h3⟩
    · exact Or.inr h4

/-- one round of the loop: the merged block is the parent, that is `a`'s block and its stored sibling together
    (`sibling_spec`); the addresses stay, the others lose a key, and a key apart from both halves is apart from the parent -/
theorem step_pre (s : St) (a : Net) (h : Pre s a) (hp : 1 ≤ a.plen) (hc : candOf a ∈ s) :
    Pre (stepState s a) (mergedOf a) ∧ ∀ ver x, denS (stepState s a) ver x ↔ denS s ver x := by
  have ha := h.good a h.mem
  obtain ⟨hcg, hcv, hcb⟩ := cand_spec a ha hp
  obtain ⟨hmg, hmb, hmv, hmp⟩ := merged_spec a ha hp
  obtain ⟨hsa, hsk, hsib, hpar, hbs⟩ := sibling_spec (blk a) (blk_aligned a ha.1)
  have hca : candOf a ≠ a := by
    intro e
    have : blk (candOf a) = blk a := by rw [e]
    rw [hcb] at this
    have hm : (sibling (blk a)).mem (blk a).base := by rw [this]; exact mem_base _
    exact hbs (blk a).base ⟨mem_base _, hm⟩
  have hmem := mem_stepState s a h hp
  have g1 := good_dDel s h.good (candOf a)
  have g2 := good_dDel _ g1 a
  have hgood : ∀ n ∈ stepState s a, Good n := good_dInsert _ g2 _ hmg
  have hnd : (stepState s a).Nodup :=
    nodup_dInsert _ g2 (nodup_dDel _ (nodup_dDel _ h.nodup _) _) _ hmg
  have hsub : ∀ n, n ∈ others (stepState s a) (mergedOf a) → n ∈ others s a ∧ n ≠ candOf a := by
    intro n hn
    obtain ⟨h1, h2⟩ := mem_others.1 hn
    rcases (hmem n).1 h1 with ⟨h3, h4, h5⟩ | h3
    · exact ⟨mem_others.2 ⟨h3, h5⟩, h4⟩
    · exact absurd h3 h2
  have hcand_o : candOf a ∈ others s a := mem_others.2 ⟨hc, hca⟩
  refine ⟨⟨hgood, hnd, (hmem _).2 (Or.inr rfl), ?_, ?_⟩, ?_⟩
  · exact (inv_subset _ _ h.inv_others (hnd.filter _) (fun n hn => (hsub n hn).1)).cs
  · intro c hc1 hc2 hc3
    rcases (hmem c).1 hc1 with ⟨h3, h4, h5⟩ | h3
    · rw [hmb]
      rw [hmv] at hc3
      intro x ⟨hx1, hx2⟩
      rcases (hpar x).1 hx1 with hx | hx
      · exact h.dj c h3 h5 hc3 x ⟨hx, hx2⟩
      · -- x in the sibling = blk (candOf a), and in blk c: both are others of the old state
        exact h.inv_others.disj hcand_o (mem_others.2 ⟨h3, h5⟩) (hcv.trans hc3.symm) (fun e => h4 e.symm) x
          ⟨hcb ▸ hx, hx2⟩
    · exact absurd h3 hc2
  · intro ver x
    unfold denS
    constructor
    · rintro ⟨n, hn, hv, hx⟩
      rcases (hmem n).1 hn with ⟨h3, _, _⟩ | h3
      · exact ⟨n, h3, hv, hx⟩
      · subst h3
        have hxm : (blk (mergedOf a)).mem x := (blk_mem _ hmg.1 x).2 hx
        rw [hmb] at hxm
        rcases (hpar x).1 hxm with hx' | hx'
        · exact ⟨a, h.mem, hmv ▸ hv, (blk_mem a ha.1 x).1 hx'⟩
        · rw [← hcb] at hx'
          exact ⟨candOf a, hc, by rw [hcv]; exact hmv ▸ hv, (blk_mem _ hcg.1 x).1 hx'⟩
    · rintro ⟨n, hn, hv, hx⟩
      by_cases e1 : n = a
      · subst e1
        refine ⟨mergedOf n, (hmem _).2 (Or.inr rfl), hmv.trans hv, ?_⟩
        rw [← blk_mem _ hmg.1, hmb]
        exact (hpar x).2 (Or.inl ((blk_mem n ha.1 x).2 hx))
      · by_cases e2 : n = candOf a
        · subst e2
          refine ⟨mergedOf a, (hmem _).2 (Or.inr rfl), by rw [hmv, ← hcv]; exact hv, ?_⟩
          rw [← blk_mem _ hmg.1, hmb]
          exact (hpar x).2 (Or.inr (hcb ▸ (blk_mem _ hcg.1 x).2 hx))
        · exact ⟨n, (hmem n).2 (Or.inl ⟨hn, e2, e1⟩), hv, hx⟩

/-- The sibling-merge loop of `_compact_single_network`: started on a state whose other keys
    are canonical and disjoint from the added block, it ends in a canonical state denoting
    the same addresses. -/
theorem mergeLoop_spec : ∀ (fuel : Nat) (s : St) (a : Net), a.plen = fuel → Pre s a →
    Inv (mergeLoop fuel s a (width a.ver - a.plen)) ∧
    ∀ ver x, denS (mergeLoop fuel s a (width a.ver - a.plen)) ver x ↔ denS s ver x := by
  intro fuel
  induction fuel with
  | zero =>
    intro s a hp h
    -- a block that is a whole family has no other half
    refine ⟨stop_inv s a h fun c hc _ hv hsib => ?_, fun _ _ => Iff.rfl⟩
    have := plen_pos_of_sib a c (h.good a h.mem).1 (h.good c hc).1 hv hsib
    omega
  | succ f ih =>
    intro s a hp h
    have hp1 : 1 ≤ a.plen := by omega
    have ha := h.good a h.mem
    obtain ⟨hcg, hcv, hcb⟩ := cand_spec a ha hp1
    rw [mergeLoop_succ, if_neg (by omega)]
    by_cases hc : dMem s (candOf a) = true
    · simp only [hc, Bool.not_true, Bool.false_eq_true, if_false]
      have hcs := (dMem_good s h.good _ hcg).1 hc
      obtain ⟨hpre, hden⟩ := step_pre s a h hp1 hcs
      obtain ⟨_, _, hmv, hmp⟩ := merged_spec a ha hp1
      have hsh : width a.ver - a.plen + 1 = width (mergedOf a).ver - (mergedOf a).plen := by
        rw [hmv, hmp]; have := ha.1.2.2; omega
      rw [hsh]
      obtain ⟨r1, r2⟩ := ih (stepState s a) (mergedOf a) (by rw [hmp]; omega) hpre
      exact ⟨r1, fun ver x => (r2 ver x).trans (hden ver x)⟩
    · rw [Bool.eq_false_iff.2 hc]
      -- a stored other half of the parent would be the key the loop has just looked up
      refine ⟨stop_inv s a h fun c hcs _ hv hsib => hc ?_, fun _ _ => Iff.rfl⟩
      have hb : blk c = blk (candOf a) := (eq_sibling_of_sib hsib).trans hcb.symm
      rw [← good_ext c _ (h.good c hcs) hcg (hv.trans hcv.symm) hb]
      exact (dMem_good s h.good c (h.good c hcs)).2 hcs

theorem pre_of_inv (s : St) (hs : Inv s) (a : Net) (ha : a ∈ s) : Pre s a :=
  ⟨hs.good, hs.nodup, ha,
    (inv_subset s _ hs (hs.nodup.filter _) (fun _ hn => (mem_others.1 hn).1)).cs,
    fun _ hc hne hv => hs.disj ha hc hv.symm (fun e => hne e.symm)⟩

/-- `c` is another key of `a`'s family whose block lies inside `a`'s (collected in `to_remove`) … -/
def properSub (a c : Net) : Prop := c ≠ a ∧ c.ver = a.ver ∧ (blk c).sub (blk a)
/-- … or contains it (the scan and the supernet walk stop at such a key) -/
def properSup (a c : Net) : Prop := c ≠ a ∧ c.ver = a.ver ∧ (blk a).sub (blk c)

/-- `a` stored next to the keys of a canonical state none of whose other blocks contains
    `a`'s, the stored blocks inside `a`'s removed: the loop's precondition holds and the state
    denotes the old addresses plus `a`'s block. -/
theorem absorb_pre (s s2 : St) (a : Net) (hs : Inv s) (ha : Good a)
    (hnosup : ∀ c ∈ s, c ≠ a → c.ver = a.ver → ¬ (blk a).sub (blk c))
    (hnd : s2.Nodup)
    (hm : ∀ n, n ∈ s2 ↔ (n ∈ s ∨ n = a) ∧ ¬ properSub a n) :
    Pre s2 a ∧ ∀ ver x, denS s2 ver x ↔ denS s ver x ∨ (ver = a.ver ∧ a.first ≤ x ∧ x ≤ a.last) := by
  have hgood : ∀ n ∈ s2, Good n := fun n hn => ((hm n).1 hn).1.elim (hs.good n) (fun e => e ▸ ha)
  have hmem_a : a ∈ s2 := (hm a).2 ⟨Or.inr rfl, fun h => h.1 rfl⟩
  have hold : ∀ n ∈ s2, n ≠ a → n ∈ s := fun n hn hne => ((hm n).1 hn).1.resolve_right hne
  refine ⟨⟨hgood, hnd, hmem_a, ?_, ?_⟩, ?_⟩
  · refine (inv_subset s _ hs (hnd.filter _) fun n hn => ?_).cs
    exact hold n (mem_others.1 hn).1 (mem_others.1 hn).2
  · intro c hc hne hv
    have hcs := hold c hc hne
    rcases nest_or_disj _ _ (blk_aligned a ha.1) (blk_aligned c (hs.wf c hcs)) with h | h | h
    · exact absurd h (hnosup c hcs hne hv)
    · exact absurd ⟨hne, hv, h⟩ ((hm c).1 hc).2
    · exact h
  · intro ver x
    unfold denS
    constructor
    · rintro ⟨n, hn, hv, hx⟩
      rcases ((hm n).1 hn).1 with h | h
      · exact Or.inl ⟨n, h, hv, hx⟩
      · subst h; exact Or.inr ⟨hv.symm, hx⟩
    · rintro (⟨n, hn, hv, hx⟩ | ⟨hv, hx⟩)
      · by_cases hsub : properSub a n
        · refine ⟨a, hmem_a, hsub.2.1.symm.trans hv, ?_⟩
          exact (blk_mem a ha.1 x).1 (hsub.2.2 x ((blk_mem n (hs.wf n hn) x).2 hx))
        · exact ⟨n, (hm n).2 ⟨Or.inl hn, hsub⟩, hv, hx⟩
      · exact ⟨a, hmem_a, hv.symm, hx⟩

def HasSup (s : St) (a : Net) : Prop := ∃ c ∈ s, properSup a c

theorem eq_of_share_of_plen (a c : Net) (ha : Good a) (hc : Good c) (hv : c.ver = a.ver) (hp : c.plen = a.plen)
    (x : Nat) (h1 : (blk a).mem x) (h2 : (blk c).mem x) : c = a :=
  good_ext c a hc ha hv (blk_eq_of_share a c ha.1 hc.1 hv hp x h1 h2)

theorem supernet_any_iff (s : St) (hg : ∀ n ∈ s, Good n) (a : Net) (ha : Good a) :
    (List.range a.plen).any (fun q => dMem s (supernetAt a q)) = true ↔ HasSup s a := by
  simp only [List.any_eq_true, List.mem_range]
  -- the key looked up for `q` is the good key of the /q block around `a`
  have key : ∀ q, q ≤ a.plen →
      Good (supernetAt a q) ∧ (supernetAt a q).ver = a.ver ∧ (supernetAt a q).plen = q ∧
      (blk a).sub (blk (supernetAt a q)) := by
    intro q hq
    obtain ⟨hk, hsub⟩ := sub_shorter a ha.1 q hq
    obtain ⟨g1, g2, g3, g4⟩ := netCidr_good _ hk
    have e : supernetAt a q = netCidr ⟨a.ver, a.val, q⟩ := by rw [supernetAt, netCidr_val, ← ha.2]
    rw [e]
    exact ⟨g1, g3, g4, g2.symm ▸ hsub⟩
  constructor
  · rintro ⟨q, hq, hm⟩
    obtain ⟨g1, g2, g3, g4⟩ := key q (by omega)
    refine ⟨_, (dMem_good s hg _ g1).1 hm, fun e => ?_, g2, g4⟩
    rw [e] at g3; omega
  · rintro ⟨c, hc, hne, hv, hsub⟩
    have hcg := hg c hc
    have hle := plen_le_of_sub a c ha.1 hcg.1 hv hsub
    have hlt : c.plen < a.plen := Nat.lt_of_le_of_ne hle fun hp =>
      hne (eq_of_share_of_plen a c ha hcg hv hp _ (mem_base _) (hsub _ (mem_base _)))
    refine ⟨c.plen, hlt, ?_⟩
    obtain ⟨g1, g2, g3, g4⟩ := key c.plen hle
    -- the looked-up key is c itself: same family, same prefix length, both around `a`
    rw [eq_of_share_of_plen c _ hcg g1 (g2.trans hv.symm) g3 _ (hsub _ (mem_base _)) (g4 _ (mem_base _))]
    exact (dMem_good s hg c hcg).2 hc

def scanSkip (a c : Net) : Bool := c.ver != a.ver || keyEq c a
def scanIn (a c : Net) : Bool := decide (c.first ≥ a.first) && decide (c.last ≤ a.last)
def scanOut (a c : Net) : Bool := decide (c.first ≤ a.first) && decide (c.last ≥ a.last)
/-- `c` is collected in `to_remove` -/
def scanSub (a c : Net) : Bool := !scanSkip a c && scanIn a c
/-- `c` makes the scan stop with "supernet found" -/
def scanSup (a c : Net) : Bool := !scanSkip a c && !scanIn a c && scanOut a c

theorem scan_cons (a c : Net) (rest acc : List Net) :
    scan a (c :: rest) acc =
      if scanSkip a c then scan a rest acc
      else if scanIn a c then scan a rest (acc ++ [c])
      else if scanOut a c then (acc, true)
      else scan a rest acc := rfl

theorem scan_spec (a : Net) : ∀ (l acc : List Net),
    if l.any (scanSup a) then (scan a l acc).2 = true else scan a l acc = (acc ++ l.filter (scanSub a), false)
  | [], acc => by simp [scan]
  | c :: rest, acc => by
    have ih := scan_spec a rest
    rw [scan_cons, List.any_cons, List.filter_cons, show scanSup a c = (!scanSkip a c && !scanIn a c && scanOut a c) from rfl,
      show scanSub a c = (!scanSkip a c && scanIn a c) from rfl]
    cases h1 : scanSkip a c
    · cases h2 : scanIn a c
      · cases h3 : scanOut a c
        · simpa using ih acc
        · simp
      · simpa using ih (acc ++ [c])
    · simpa using ih acc

theorem mem_foldl_dDel (rs : List Net) (hrs : ∀ r ∈ rs, Good r) : ∀ (s : St), (∀ n ∈ s, Good n) →
    ∀ n, n ∈ rs.foldl dDel s ↔ n ∈ s ∧ n ∉ rs := by
  induction rs with
  | nil => intro s _ n; simp
  | cons r rs ih =>
    intro s hg n
    simp only [List.foldl_cons]
    rw [ih (fun r' hr' => hrs r' (List.mem_cons_of_mem _ hr')) (dDel s r) (good_dDel s hg r) n,
      mem_dDel s hg r (hrs r (List.mem_cons_self ..))]
    simp only [List.mem_cons, not_or]
    constructor
    · rintro ⟨⟨h1, h2⟩, h3⟩; exact ⟨h1, h2, h3⟩
    · rintro ⟨h1, h2, h3⟩; exact ⟨⟨h1, h2⟩, h3⟩

theorem nodup_foldl_dDel (rs : List Net) : ∀ (s : St), s.Nodup → (rs.foldl dDel s).Nodup := by
  induction rs with
  | nil => intro s h; exact h
  | cons r rs ih => intro s h; exact ih _ (nodup_dDel s h r)

theorem scanSkip_iff (a c : Net) (ha : Good a) (hc : Good c) : scanSkip a c = false ↔ c.ver = a.ver ∧ c ≠ a := by
  unfold scanSkip
  rw [Bool.or_eq_false_iff, bne_eq_false_iff_eq, Bool.eq_false_iff, Ne, keyEq_good c a hc ha]

theorem scanSub_iff (a c : Net) (ha : Good a) (hc : Good c) :
    scanSub a c = true ↔ properSub a c := by
  unfold scanSub scanIn properSub
  simp only [Bool.and_eq_true, Bool.not_eq_eq_eq_not, Bool.not_true, decide_eq_true_eq]
  rw [scanSkip_iff a c ha hc, sub_iff c a hc.1 ha.1]
  exact ⟨fun ⟨⟨hv, hne⟩, h⟩ => ⟨hne, hv, h⟩, fun ⟨hne, hv, h⟩ => ⟨⟨hv, hne⟩, h⟩⟩

theorem scanSup_iff (a c : Net) (ha : Good a) (hc : Good c) :
    scanSup a c = true ↔ properSup a c := by
  unfold scanSup scanIn scanOut properSup
  simp only [Bool.and_eq_true, Bool.not_eq_eq_eq_not, Bool.not_true, decide_eq_true_eq, Bool.and_eq_false_iff,
    decide_eq_false_iff_not]
  rw [scanSkip_iff a c ha hc, sub_iff a c ha.1 hc.1]
  refine ⟨fun ⟨⟨⟨hv, hne⟩, _⟩, h⟩ => ⟨hne, hv, h⟩, fun ⟨hne, hv, h⟩ => ⟨⟨⟨hv, hne⟩, ?_⟩, h⟩⟩
  -- not also inside `a`: the two blocks would coincide and the keys be equal
  refine Classical.byContradiction fun hcon => hne ((keyEq_good c a hc ha).1 ?_)
  rw [keyEq_iff]
  omega

theorem compactSingle_eq (s : St) (a : Net) :
    compactSingle s a =
      if a.plen = width a.ver then
        (if (List.range a.plen).any (fun q => dMem s (supernetAt a q)) then dDel s a
         else mergeLoop a.plen s a (width a.ver - a.plen))
      else
        (if (scan a s []).2 then dDel s a
         else mergeLoop a.plen ((scan a s []).1.foldl dDel s) a (width a.ver - a.plen)) := by
  unfold compactSingle
  split <;> rfl

theorem no_properSub_of_full (a c : Net) (ha : Good a) (hc : Good c) (hp : a.plen = width a.ver) :
    ¬ properSub a c := fun h => by
  have h1 := plen_le_of_sub c a hc.1 ha.1 h.2.1.symm h.2.2
  have h2 := hc.1.2.2
  rw [h.2.1] at h2
  exact h.1 (eq_of_share_of_plen a c ha hc h.2.1 (by omega) _ (h.2.2 _ (mem_base _)) (mem_base _))

/-- Both code paths of `_compact_single_network` (the supernet walk for a /width key, the scan
    otherwise) do the same: when a stored block contains `a`'s the key is dropped again;
    otherwise the stored blocks inside `a`'s are removed and the merge loop runs. -/
theorem compactSingle_paths (t : St) (hg : ∀ n ∈ t, Good n) (hn : t.Nodup) (a : Net) (ha : Good a) :
    (HasSup t a → compactSingle t a = dDel t a) ∧
    (¬ HasSup t a → ∃ s2, compactSingle t a = mergeLoop a.plen s2 a (width a.ver - a.plen) ∧ s2.Nodup ∧
      ∀ n, n ∈ s2 ↔ n ∈ t ∧ ¬ properSub a n) := by
  rw [compactSingle_eq]
  by_cases hp : a.plen = width a.ver
  · rw [if_pos hp]
    have hw := supernet_any_iff t hg a ha
    refine ⟨fun h => if_pos (hw.2 h), fun h => ⟨t, if_neg (mt hw.1 h), hn, fun n => ⟨fun hnt => ⟨hnt, no_properSub_of_full a n ha (hg n hnt) hp⟩, And.left⟩⟩⟩
  · rw [if_neg hp]
    have hw : t.any (scanSup a) = true ↔ HasSup t a := by
      rw [List.any_eq_true]
      exact ⟨fun ⟨c, hc, h⟩ => ⟨c, hc, (scanSup_iff a c ha (hg c hc)).1 h⟩,
        fun ⟨c, hc, h⟩ => ⟨c, hc, (scanSup_iff a c ha (hg c hc)).2 h⟩⟩
    have hscan := scan_spec a t []
    refine ⟨fun h => ?_, fun h => ?_⟩
    · rw [if_pos (hw.2 h)] at hscan
      rw [if_pos hscan]
    rw [if_neg (mt hw.1 h), List.nil_append] at hscan
    rw [hscan]
    refine ⟨(t.filter (scanSub a)).foldl dDel t, rfl, nodup_foldl_dDel _ _ hn, fun n => ?_⟩
    rw [mem_foldl_dDel _ (fun r hr => hg r (List.mem_filter.1 hr).1) t hg n, List.mem_filter]
    refine and_congr_right fun hnt => not_congr ?_
    rw [scanSub_iff a n ha (hg n hnt)]
    exact and_iff_right hnt

/-- `_compact_single_network` on a canonical state plus the freshly stored good key `a`:
    the result is canonical and denotes the old addresses plus `a`'s block. -/
theorem compactSingle_spec (s : St) (hs : Inv s) (a : Net) (ha : Good a) :
    Inv (compactSingle (dInsert s a) a) ∧
    ∀ ver x, denS (compactSingle (dInsert s a) a) ver x ↔
      denS s ver x ∨ (ver = a.ver ∧ a.first ≤ x ∧ x ≤ a.last) := by
  have hg1 : ∀ n ∈ dInsert s a, Good n := good_dInsert s hs.good a ha
  have hn1 : (dInsert s a).Nodup := nodup_dInsert s hs.good hs.nodup a ha
  have hm1 := mem_dInsert s hs.good a ha
  obtain ⟨drop, loop⟩ := compactSingle_paths _ hg1 hn1 a ha
  by_cases hsup : HasSup (dInsert s a) a
  · -- a stored block contains a: a is dropped again, nothing changes
    rw [drop hsup]
    obtain ⟨c, hc, hne, hv, hsub⟩ := hsup
    have hcs : c ∈ s := ((hm1 c).1 hc).resolve_right hne
    -- a was not stored before (it would overlap c), so deleting it gives back s
    have hnotin : a ∉ s := fun h =>
      hs.disj h hcs hv.symm (fun e => hne e.symm) (blk a).base ⟨mem_base _, hsub _ (mem_base _)⟩
    have hmem : ∀ n, n ∈ dDel (dInsert s a) a ↔ n ∈ s := by
      intro n
      rw [mem_dDel _ hg1 a ha, hm1]
      exact ⟨fun h => h.1.resolve_right h.2, fun h => ⟨Or.inl h, fun e => hnotin (e ▸ h)⟩⟩
    refine ⟨inv_subset s _ hs (nodup_dDel _ hn1 a) (fun n h => (hmem n).1 h), fun ver x => ?_⟩
    rw [denS_of_mem hmem]
    refine ⟨Or.inl, fun h => h.elim id fun ⟨hv', hx⟩ => ?_⟩
    exact ⟨c, hcs, hv.trans hv'.symm, (blk_mem c (hs.wf c hcs) x).1 (hsub x ((blk_mem a ha.1 x).2 hx))⟩
  · -- no stored supernet: stored sub-blocks are removed, then the merge loop runs
    obtain ⟨s2, hres, hnd2, hm2⟩ := loop hsup
    rw [hres]
    obtain ⟨hpre, hden⟩ := absorb_pre s s2 a hs ha
      (fun c hc hne hv hsub => hsup ⟨c, (hm1 c).2 (Or.inl hc), hne, hv, hsub⟩) hnd2
      (fun n => by rw [hm2 n, hm1 n])
    obtain ⟨r1, r2⟩ := mergeLoop_spec a.plen s2 a rfl hpre
    exact ⟨r1, fun ver x => (r2 ver x).trans (hden ver x)⟩

end NV.IPSet
