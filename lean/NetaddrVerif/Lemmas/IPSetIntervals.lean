/-
Lemmas/IPSetIntervals.lean — reading networks and `(version, first, last)` tuples as closed
intervals `[L, H]` on the common number line (IPv6 space placed after the IPv4 space), the
Boolean tests of the `difference` / `symmetric_difference` sweeps in these terms, and the
ascending lists the sweeps walk over: `Asc` for keys, `AscR` for tuples, with what `_iter_merged_ranges`
(IPSetMergedRanges) asks of the latter and keeps (C07/C06).
-/
import NetaddrVerif.Lemmas.IPSetLine
import NetaddrVerif.Lemmas.IPSetMergedRanges
namespace NV.IPSet
open NV NV.Blk

def L (n : Net) : Nat := off n.ver + n.first
def H (n : Net) : Nat := off n.ver + n.last

def VR.L (r : VR) : Nat := off r.1 + r.2.1
def VR.H (r : VR) : Nat := off r.1 + r.2.2

def VROK (r : VR) : Prop := (r.1 = 4 ∨ r.1 = 6) ∧ r.2.1 ≤ r.2.2 ∧ r.2.2 < 2 ^ width r.1

def nden (l : List Net) (x : Nat) : Prop := ∃ n ∈ l, L n ≤ x ∧ x ≤ H n
def rden (l : List VR) (x : Nat) : Prop := ∃ r ∈ l, r.L ≤ x ∧ x ≤ r.H

theorem nden_nil (x : Nat) : ¬ nden [] x := by simp [nden]
theorem rden_nil (x : Nat) : ¬ rden [] x := by simp [rden]

theorem nden_cons (a : Net) (l : List Net) (x : Nat) : nden (a :: l) x ↔ (L a ≤ x ∧ x ≤ H a) ∨ nden l x := by
  simp [nden]

theorem rden_cons (a : VR) (l : List VR) (x : Nat) : rden (a :: l) x ↔ (a.L ≤ x ∧ x ≤ a.H) ∨ rden l x := by
  simp [rden]

theorem nden_mono {l l' : List Net} (h : ∀ n ∈ l, n ∈ l') (x : Nat) : nden l x → nden l' x := by
  rintro ⟨n, hn, hx⟩; exact ⟨n, h n hn, hx⟩

theorem nden_append (l₁ l₂ : List Net) (x : Nat) : nden (l₁ ++ l₂) x ↔ nden l₁ x ∨ nden l₂ x := by
  simp only [nden, List.mem_append, or_and_right, exists_or]

theorem rden_append (l₁ l₂ : List VR) (x : Nat) : rden (l₁ ++ l₂) x ↔ rden l₁ x ∨ rden l₂ x := by
  simp only [rden, List.mem_append, or_and_right, exists_or]

theorem rden_map_vrOf (l : List Net) (x : Nat) : rden (l.map vrOf) x ↔ nden l x := by
  simp only [rden, nden, List.mem_map]
  constructor
  · rintro ⟨r, ⟨n, hn, rfl⟩, hx⟩; exact ⟨n, hn, hx⟩
  · rintro ⟨n, hn, hx⟩; exact ⟨vrOf n, ⟨n, hn, rfl⟩, hx⟩

theorem L_le_H (n : Net) : L n ≤ H n :=
  Nat.add_le_add_left (first_le_last n) _

theorem lin_mem_LH (n : Net) (h : n.WF) (x : Nat) : (lin n).mem x ↔ L n ≤ x ∧ x ≤ H n := lin_mem n h x

theorem den_lin_nden (l : List Net) (hg : ∀ n ∈ l, n.WF) (x : Nat) : den (l.map lin) x ↔ nden l x := by
  unfold den nden
  constructor
  · rintro ⟨b, hb, hx⟩
    obtain ⟨n, hn, rfl⟩ := List.mem_map.1 hb
    exact ⟨n, hn, (lin_mem n (hg n hn) x).1 hx⟩
  · rintro ⟨n, hn, hx⟩
    exact ⟨lin n, List.mem_map.2 ⟨n, hn, rfl⟩, (lin_mem n (hg n hn) x).2 hx⟩

theorem vrok_of_net (n : Net) (h : n.WF) : VROK (vrOf n) :=
  ⟨h.1, first_le_last n, last_lt n h⟩

/-- valid tuples are ordered on the line by family, then inside the family: the right side is `SepR c n` for `d = 0`
    (the relation of `AscR`) and `GapR_q c n` for `d = 1` (that of `GapR`, IPSetDifference).  `d ≤ 1` keeps
    `c.2.2 + d ≤ 2^128`, which `off_lex` needs -/
theorem vr_lt_iff (c n : VR) (hc : VROK c) (hn : VROK n) (d : Nat) (hd : d ≤ 1) :
    c.H + d < n.L ↔ c.1 < n.1 ∨ (c.1 = n.1 ∧ c.2.2 + d < n.2.1) := by
  have h1 := Nat.pow_le_pow_right (by decide : 0 < 2) (width_le c.1 hc.1)
  have h2 := Nat.pow_le_pow_right (by decide : 0 < 2) (width_le n.1 hn.1)
  show off c.1 + c.2.2 + d < _ ↔ _
  rw [Nat.add_assoc]
  exact off_lex c.1 n.1 _ _ hc.1 hn.1 (by have := hc.2.2; omega) (by have := hn.2.1; have := hn.2.2; omega)

/-- `==` of two in-range networks: same interval on the line -/
theorem keyEq_LH (a b : Net) (ha : a.WF) (hb : b.WF) : keyEq a b = true ↔ L a = L b ∧ H a = H b := by
  rw [keyEq_iff]
  constructor
  · rintro ⟨hv, hf, hl⟩
    unfold L H
    rw [hv, hf, hl]
    exact ⟨rfl, rfl⟩
  · rintro ⟨e1, e2⟩
    obtain ⟨hv, hf⟩ := off_inj ha.1 hb.1 (le_128 a ha).1 (le_128 b hb).1 e1
    exact ⟨hv, hf, (off_inj ha.1 hb.1 (le_128 a ha).2 (le_128 b hb).2 e2).2⟩

/-- `a in b` of two in-range networks: interval inclusion on the line -/
theorem netIn_LH (a b : Net) (ha : a.WF) (hb : b.WF) : netIn a b = true ↔ L b ≤ L a ∧ H a ≤ H b := by
  rw [netIn_lin a b ha hb, subB_iff]
  have la := L_le_H a
  constructor
  · intro h
    exact ⟨((lin_mem_LH b hb _).1 (h _ ((lin_mem_LH a ha _).2 ⟨Nat.le_refl _, la⟩))).1,
      ((lin_mem_LH b hb _).1 (h _ ((lin_mem_LH a ha _).2 ⟨la, Nat.le_refl _⟩))).2⟩
  · rintro ⟨h1, h2⟩ x hx
    have := (lin_mem_LH a ha x).1 hx
    exact (lin_mem_LH b hb x).2 ⟨Nat.le_trans h1 this.1, Nat.le_trans this.2 h2⟩

theorem netIn_ver (a b : Net) (h : netIn a b = true) : a.ver = b.ver := ((netIn_iff a b).1 h).1

/-- two in-range networks are nested or lie apart (blocks are aligned) -/
theorem laminar (a b : Net) (ha : a.WF) (hb : b.WF) :
    netIn a b = true ∨ netIn b a = true ∨ H a < L b ∨ H b < L a := by
  rcases nest_or_disj _ _ (lin_aligned a ha) (lin_aligned b hb) with h | h | hdisj
  · exact Or.inl ((netIn_lin a b ha hb).2 ((subB_iff _ _).2 h))
  · exact Or.inr (Or.inl ((netIn_lin b a hb ha).2 ((subB_iff _ _).2 h)))
  right; right
  -- disjoint blocks: the one that starts first ends before the other starts (`below_of_disj`, `lin_end`)
  rcases Nat.lt_trichotomy (lin a).base (lin b).base with h | h | h
  · exact Or.inl (Nat.lt_of_succ_le (Nat.le_trans (Nat.le_of_eq (lin_end a ha).symm) (below_of_disj _ _ hdisj h)))
  · exact absurd ⟨mem_base _, h ▸ mem_base _⟩ (hdisj _)
  · exact Or.inr (Nat.lt_of_succ_le (Nat.le_trans (Nat.le_of_eq (lin_end b hb).symm)
      (below_of_disj _ _ (fun x hx => hdisj x hx.symm) h)))

/-- for networks lying apart, `<` (on sort keys) is order on the line -/
theorem netLt_LH (a b : Net) (ha : a.WF) (hb : b.WF) (hd : H a < L b ∨ H b < L a) :
    netLt a b = true ↔ H a < L b := by
  have la := L_le_H a; have lb := L_le_H b
  have hne : L a ≠ L b := by omega
  refine ((sortKey_lin a b ha hb hne).1).trans ?_
  show L a < L b ↔ _
  omega

def Asc (l : List Net) : Prop := (∀ n ∈ l, Good n) ∧ l.Pairwise (fun a b => H a < L b)

theorem asc_nil : Asc [] := ⟨by simp, List.Pairwise.nil⟩

theorem asc_tail {a : Net} {l : List Net} (h : Asc (a :: l)) : Asc l :=
  ⟨fun n hn => h.1 n (List.mem_cons_of_mem _ hn), (List.pairwise_cons.1 h.2).2⟩

theorem asc_head {a : Net} {l : List Net} (h : Asc (a :: l)) : Good a := h.1 a (List.mem_cons_self ..)

theorem asc_lt {a : Net} {l : List Net} (h : Asc (a :: l)) : ∀ c ∈ l, H a < L c :=
  (List.pairwise_cons.1 h.2).1

theorem asc_above {a : Net} {l : List Net} (h : Asc (a :: l)) (x : Nat) (hx : nden l x) : H a < x := by
  obtain ⟨c, hc, h1, _⟩ := hx
  have := asc_lt h c hc; omega

theorem asc_le {a : Net} {l : List Net} (h : Asc (a :: l)) : ∀ c ∈ a :: l, L a ≤ L c := by
  intro c hc
  rcases List.mem_cons.1 hc with rfl | hc
  · exact Nat.le_refl _
  · exact Nat.le_of_lt (Nat.lt_of_le_of_lt (L_le_H a) (asc_lt h c hc))

theorem asc_ge {a : Net} {l : List Net} (h : Asc (a :: l)) (x : Nat) : nden (a :: l) x → L a ≤ x
  | ⟨c, hc, h1, _⟩ => Nat.le_trans (asc_le h c hc) h1

theorem asc_suffix : ∀ (pre : List Net) {l : List Net}, Asc (pre ++ l) → Asc l
  | [], _, h => h
  | _ :: pre, _, h => asc_suffix pre (asc_tail h)

theorem asc_sorted (s : St) (hs : Inv s) : Asc (sortNets s) := by
  have hg := hs.good_sorted
  refine ⟨hg, (List.pairwise_map.1 (asc_of_canon (canon_shown s hs))).imp_of_mem fun {a b} ha _ h => ?_⟩
  have e := lin_end a (hg a ha).1
  show off a.ver + a.last < off b.ver + b.first
  have h' : (lin a).base + 2 ^ (lin a).k ≤ off b.ver + b.first := h
  omega

/-- valid tuples in ascending order on the line (`Asc` for tuples; per family the relation is `SepR`).  The statements of the
    sweeps spell its two halves out among their other conjuncts. -/
def AscR (l : List VR) : Prop := (∀ r ∈ l, VROK r) ∧ l.Pairwise (fun r r' => r.H < r'.L)

theorem ascR_nil : AscR [] := ⟨by simp, List.Pairwise.nil⟩

/-- what `mergedRanges_normal` asks of its input -/
theorem AscR.sep {l : List VR} (h : AscR l) : (∀ r ∈ l, r.2.1 ≤ r.2.2) ∧ l.Pairwise SepR :=
  ⟨fun r hr => (h.1 r hr).2.1,
   h.2.imp_of_mem fun ha hb hlt => (vr_lt_iff _ _ (h.1 _ ha) (h.1 _ hb) 0 (Nat.zero_le 1)).1 hlt⟩

theorem ascR_of_asc {l : List Net} (h : Asc l) : AscR (l.map vrOf) :=
  ⟨fun r hr => by obtain ⟨n, hn, rfl⟩ := List.mem_map.1 hr; exact vrok_of_net n (h.1 n hn).1,
   List.pairwise_map.2 h.2⟩

theorem AscR.merged_ok {l : List VR} (h : AscR l) : ∀ r ∈ mergedRanges l, VROK r := by
  obtain ⟨i1, _, i3, _⟩ := mergedRanges_normal l h.sep.1 h.sep.2
  intro r hr
  -- the last address of `r` lies in an input tuple, of the same family
  obtain ⟨q, hq, e, _, hle⟩ := (i3 r.1 r.2.2).1 ⟨r, hr, rfl, i1 r hr, Nat.le_refl _⟩
  obtain ⟨q1, _, q3⟩ := h.1 q hq
  rw [e] at q1 q3
  exact ⟨q1, i1 r hr, Nat.lt_of_le_of_lt hle q3⟩

end NV.IPSet
