/-
Lemmas/TieL.lean — cast lemmas between the translator's `Int` vocabulary (`Model/PyOps.lean`)
and the `Nat` vocabulary of the hand-written model.

Shifts and powers are stated for a shift amount that is a cast; the amounts `width - prefixlen` of the
source text become casts by `natCast_sub`.  `ite_eq` carries an `if` of the text over to the `if` of the model.
-/
import NetaddrVerif.Model.PyOps
import NetaddrVerif.Model.Network
import NetaddrVerif.Model.Address
import NetaddrVerif.Lemmas.Bitwise
namespace NV.Py
open NV

/-- a literal of the text is the cast of the same literal; as a `simp` lemma it has to come with the
    cast lemmas whose left sides hold no literal (`shr_natCast`, `iand_ofNat`, …): it rewrites the `2` of
    `pow 2 ↑k` and the `1`s of `shl 1 _ - 1` too, after which `pow_natCast`, `hostmask_cast` no longer match.
    Where a proof needs one or two literal shift counts it states them as local instances of
    `shr_natCast` instead (Props/TieEui: `e24`, `e12`, …). -/
theorem lit (n : Nat) : (OfNat.ofNat n : Int) = ((OfNat.ofNat n : Nat) : Int) := rfl

theorem natCast_sub {w p : Nat} (h : p ≤ w) : (w : Int) - (p : Int) = ((w - p : Nat) : Int) :=
  (Int.ofNat_sub h).symm

theorem natCast_pred {n : Nat} (h : 1 ≤ n) : (n : Int) - 1 = ((n - 1 : Nat) : Int) :=
  natCast_sub h

theorem shl_natCast (a k : Nat) : shl (a : Int) (k : Int) = ((a <<< k : Nat) : Int) := by
  rw [shl, Int.toNat_natCast, Int.shiftLeft_eq, Nat.shiftLeft_eq, Int.natCast_mul, Int.natCast_pow]
  rfl

theorem shr_natCast (a k : Nat) : shr (a : Int) (k : Int) = ((a >>> k : Nat) : Int) := rfl

theorem pow_natCast (k : Nat) : pow 2 (k : Int) = ((2 ^ k : Nat) : Int) := by
  rw [pow, Int.toNat_natCast, Int.natCast_pow]
  rfl

theorem shl_sub {v w p : Nat} (hp : p ≤ w) : shl (v : Int) ((w : Int) - (p : Int)) = ((v <<< (w - p) : Nat) : Int) := by
  rw [natCast_sub hp, shl_natCast]

theorem shr_sub {v w p : Nat} (hp : p ≤ w) : shr (v : Int) ((w : Int) - (p : Int)) = ((v >>> (w - p) : Nat) : Int) := by
  rw [natCast_sub hp, shr_natCast]

theorem pow_sub {w p : Nat} (hp : p ≤ w) : pow 2 ((w : Int) - (p : Int)) = ((2 ^ (w - p) : Nat) : Int) := by
  rw [natCast_sub hp, pow_natCast]

theorem two_pow_sub_one (k : Nat) : (2 : Int) ^ k - 1 = ((2 ^ k - 1 : Nat) : Int) := by
  rw [← natCast_pred (Nat.two_pow_pos k), Int.natCast_pow]
  rfl

theorem pow_sub_one (n : Nat) : pow 2 (n : Int) - 1 = ((2 ^ n - 1 : Nat) : Int) :=
  two_pow_sub_one n

theorem one_shl_sub {w p : Nat} (h : p ≤ w) :
    shl (1 : Int) ((w : Int) - (p : Int)) = ((1 <<< (w - p) : Nat) : Int) :=
  shl_sub h

theorem one_shl_pos (k : Nat) : 1 ≤ (1 <<< k : Nat) := by
  rw [Nat.one_shiftLeft]; exact Nat.two_pow_pos k

/-- `(1 << (w - p)) - 1`, from which the source text builds every mask -/
theorem hostmask_cast {w p : Nat} (h : p ≤ w) :
    shl (1 : Int) ((w : Int) - (p : Int)) - 1 = ((hostmaskInt w p : Nat) : Int) := by
  rw [one_shl_sub h, natCast_pred (one_shl_pos _), hostmaskInt]

/-- An `if` of the translated text against the `if` of the model: the tests agree (up to the
    casts) and so do the branches, each seen through the reading `f` / `g` of its side. -/
theorem ite_eq {α β γ : Type _} (f : α → γ) (g : β → γ) {c d : Prop} [Decidable c] [Decidable d]
    {x y : α} {u v : β} (h : c ↔ d) (hx : c → f x = g u) (hy : ¬ c → f y = g v) :
    f (if c then x else y) = g (if d then u else v) := by
  by_cases hc : c
  · rw [if_pos hc, if_pos (h.mp hc)]
    exact hx hc
  · rw [if_neg hc, if_neg (mt h.mpr hc)]
    exact hy hc

/-- the range guard `0 <= v <= B` of the source text on a non-negative `v` -/
theorem guard_natCast {v B : Nat} : (0 ≤ (v : Int) ∧ (v : Int) ≤ (B : Int)) ↔ v ≤ B :=
  ⟨fun h => Int.ofNat_le.1 h.2, fun h => ⟨Int.natCast_nonneg v, Int.ofNat_le.2 h⟩⟩

theorem min_natCast (a b : Nat) : min (a : Int) (b : Int) = ((min a b : Nat) : Int) := by omega

theorem max_natCast (a b : Nat) : max (a : Int) (b : Int) = ((max a b : Nat) : Int) := by omega

theorem dec_eq_cast (x y : Nat) : decide ((x : Int) = (y : Int)) = (x == y) := by
  simp only [Int.natCast_inj]
  rfl

/-- `Py.ior` / `iand` / `ixor` on a cast are `Address.pyOr` / `pyAnd` / `pyXor`: Model/Address writes Python's
    sign-case split out a second time for its own operators, so the three ties `addr_or/and/xor` compare it with this one -/
theorem ior_nat (a : Nat) (x : Int) : ior (a : Int) x = Address.pyOr a x := by
  cases x <;> rfl
theorem iand_nat (a : Nat) (x : Int) : iand (a : Int) x = Address.pyAnd a x := by
  cases x <;> rfl
theorem ixor_nat (a : Nat) (x : Int) : ixor (a : Int) x = Address.pyXor a x := by
  cases x <;> rfl

/-- the test `x & (x - 1) == 0` of `is_hostmask` / `is_netmask` on `x = u + 1` -/
theorem mask_test (u : Nat) :
    decide (iand ((u : Int) + 1) ((u : Int) + 1 - 1) = 0) = ((u + 1) &&& (u + 1 - 1) == 0) := by
  rw [Int.add_sub_cancel, ← Int.natCast_succ, iand_ofNat]
  exact dec_eq_cast _ 0

/-- the test of `is_ipv4_mapped` / `is_ipv4_compat`: version 6 and a fixed value of the high bits -/
theorem dec_ver_and (ver x c : Nat) :
    decide (((ver : Int) = 6) ∧ ((x : Int) = (c : Int))) = (ver == 6 && x == c) := by
  rw [Bool.decide_and, dec_eq_cast]
  exact congrArg (· && _) (dec_eq_cast ver 6)

theorem inNat_cast (n : Nat) (l : List Nat) : inNat (n : Int) l ↔ l.contains n = true :=
  (and_iff_right (Int.natCast_nonneg n)).trans List.contains_iff_mem.symm

theorem dec_inNat (n : Nat) (l : List Nat) : decide (inNat (n : Int) l) = l.contains n :=
  Bool.eq_iff_iff.2 (decide_eq_true_iff.trans (inNat_cast n l))

theorem neg_shl_one (k : Nat) : (-(shl (1 : Int) (k : Int))) = Int.negSucc (2 ^ k - 1) := by
  rw [Int.negSucc_eq, ← natCast_pred (Nat.two_pow_pos k), Int.sub_add_cancel, ← Nat.one_shiftLeft,
    ← shl_natCast]
  rfl

end NV.Py

namespace NV.Tie

/-- `x & -(1 << k)` clears the low `k` bits (`spanning_cidr`); in `NV.Tie` with the tie theorems, which it is listed among -/
theorem iand_neg_pow (a k : Nat) :
    Py.iand (a : Int) (-(Py.shl (1 : Int) (k : Int))) = (((a >>> k) <<< k : Nat) : Int) := by
  rw [Py.neg_shl_one]
  show Int.ofNat (a ^^^ (a &&& (2 ^ k - 1))) = _
  rw [clear_low]
  rfl

end NV.Tie
