/-
Lemmas/C15LSep.lean — `str.replace(sep, '')` on `sep.join(words)` for an arbitrary separator:
whenever the separator contains at least one character that no word contains (words of binary
digits, of hex digits), removing the leftmost non-overlapping occurrences of it from the joined
words gives back exactly the concatenation of the words (no occurrence can start inside a word:
the separator's first foreign character would have to sit on a word character).
-/
import NetaddrVerif.Model.Codec
import NetaddrVerif.Lemmas.ListText
namespace NV.C15L.Sep
open NV NV.Codec

def lead (s : List Char) : Nat := (s.takeWhile is01).length

theorem takeWhile_append_all (p : Char → Bool) (w r : List Char) (hw : ∀ c ∈ w, p c = true) :
    ((w ++ r).takeWhile p).length = w.length + (r.takeWhile p).length := by
  rw [List.takeWhile_append_of_pos hw, List.length_append]

theorem lead_bin (w : List Char) (hw : ∀ c ∈ w, is01 c = true) : lead w = w.length := by
  have := takeWhile_append_all is01 w [] hw
  simpa [lead] using this

theorem takeWhile_sep_append (p : Char → Bool) (sep t : List Char) (hx : ∃ c ∈ sep, p c = false) :
    (sep ++ t).takeWhile p = sep.takeWhile p := by
  induction sep with
  | nil => obtain ⟨c, hc, _⟩ := hx; simp at hc
  | cons a s ih =>
    cases ha : p a with
    | false => simp [List.takeWhile, ha]
    | true =>
      obtain ⟨c, hc, hcx⟩ := hx
      simp only [List.mem_cons] at hc
      rcases hc with rfl | hc
      · rw [ha] at hcx; cases hcx
      · simp only [List.cons_append, List.takeWhile_cons, ha, if_true]
        rw [ih ⟨c, hc, hcx⟩]

/-- the words each prefixed by the separator, concatenated: what follows the first word in
    `sep.join(words)` -/
def tail (sep : List Char) (ls : List (List Char)) : List Char := (ls.map (sep ++ ·)).flatten

theorem tail_cons (sep l : List Char) (ls : List (List Char)) :
    tail sep (l :: ls) = sep ++ (l ++ tail sep ls) := by
  simp [tail]

theorem intercalate_eq (sep l : List Char) (ls : List (List Char)) :
    sep.intercalate (l :: ls) = l ++ tail sep ls := by
  induction ls generalizing l with
  | nil => simp [List.intercalate, List.intersperse, tail]
  | cons y t ih => rw [List.intercalate_cons_cons, ih y, tail_cons, List.append_assoc]

/-- no occurrence of the separator starts on a character of a word: the leading `p`-characters
    of the string would be those of the separator, but they are the rest of the word and then, if
    another word follows, those of the separator again -/
theorem not_prefix (p : Char → Bool) (sep : List Char) (hx : ∃ c ∈ sep, p c = false) (c : Char) (w : List Char)
    (ls : List (List Char)) (hw : ∀ d ∈ c :: w, p d = true) :
    sep.isPrefixOf ((c :: w) ++ tail sep ls) = false := by
  rw [Bool.eq_false_iff]
  intro hp
  obtain ⟨t, ht⟩ := List.isPrefixOf_iff_prefix.mp hp
  cases ls with
  | nil =>
    obtain ⟨x, hxs, hxb⟩ := hx
    have hmem : x ∈ c :: w := by
      have : x ∈ (c :: w) ++ tail sep [] := ht ▸ List.mem_append_left t hxs
      simpa [tail] using this
    rw [hw x hmem] at hxb
    cases hxb
  | cons l ls' =>
    have h1 : (((c :: w) ++ tail sep (l :: ls')).takeWhile p).length = (sep.takeWhile p).length := by
      rw [← ht, takeWhile_sep_append p sep t hx]
    rw [takeWhile_append_all p (c :: w) _ hw, tail_cons, takeWhile_sep_append p sep _ hx, List.length_cons] at h1
    omega

theorem replaceDelAux_sep (sep : List Char) (hne : sep ≠ []) (f : Nat) (t : List Char) :
    replaceDelAux sep (f + 1) (sep ++ t) = replaceDelAux sep f t := by
  obtain ⟨a, s, rfl⟩ := List.exists_cons_of_ne_nil hne
  have hpre : (a :: s).isPrefixOf (a :: (s ++ t)) = true := List.isPrefixOf_iff_prefix.mpr ⟨t, rfl⟩
  rw [List.cons_append, replaceDelAux, if_pos hpre, ← List.cons_append, List.drop_left]

theorem replaceDelAux_cons (sep : List Char) (f : Nat) (c : Char) (t : List Char)
    (h : sep.isPrefixOf (c :: t) = false) :
    replaceDelAux sep (f + 1) (c :: t) = c :: replaceDelAux sep f t := by
  rw [replaceDelAux, if_neg (Bool.eq_false_iff.mp h)]

/-- the scan of `str.replace`: from a point inside (or at the end of) a word, the rest
    of the joined string is reduced to the rest of the word followed by the remaining words -/
theorem replaceDelAux_join (p : Char → Bool) (sep : List Char) (hx : ∃ c ∈ sep, p c = false) :
    ∀ (fuel : Nat) (w : List Char) (ls : List (List Char)),
      (∀ c ∈ w, p c = true) → (∀ l ∈ ls, ∀ c ∈ l, p c = true) →
      (w ++ tail sep ls).length ≤ fuel →
      replaceDelAux sep fuel (w ++ tail sep ls) = w ++ ls.flatten := by
  have hne : sep ≠ [] := by rintro rfl; obtain ⟨c, hc, _⟩ := hx; cases hc
  intro fuel
  induction fuel with
  | zero =>
    intro w ls _ _ hlen
    obtain ⟨rfl, ht⟩ := List.append_eq_nil_iff.mp (List.eq_nil_of_length_eq_zero (Nat.le_zero.mp hlen))
    cases ls with
    | nil => rfl
    | cons l ls' =>
      rw [tail_cons] at ht
      exact absurd (List.append_eq_nil_iff.mp ht).1 hne
  | succ f ih =>
    intro w ls hw hls hlen
    cases w with
    | nil =>
      cases ls with
      | nil => rfl
      | cons l ls' =>
        rw [List.nil_append, tail_cons] at hlen ⊢
        rw [replaceDelAux_sep sep hne, List.flatten_cons, List.nil_append]
        refine ih l ls' (hls l List.mem_cons_self) (fun l' hl' => hls l' (List.mem_cons_of_mem _ hl')) ?_
        have := List.length_pos_iff.mpr hne
        rw [List.length_append] at hlen
        omega
    | cons c w' =>
      rw [List.cons_append, replaceDelAux_cons sep f c (w' ++ tail sep ls) (not_prefix p sep hx c w' ls hw), List.cons_append,
        ih w' ls (fun d hd => hw d (List.mem_cons_of_mem _ hd)) hls (Nat.le_of_succ_le_succ hlen)]

/-- **strip the separator from the joined words**: the words are made of characters satisfying
    `p` (binary digits, hex digits), the separator is empty or contains a character that does not -/
theorem replaceDel_intercalate_any (p : Char → Bool) (sep : List Char) (ls : List (List Char))
    (hls : ∀ l ∈ ls, ∀ c ∈ l, p c = true)
    (hsep : sep = [] ∨ ∃ c ∈ sep, p c = false) :
    replaceDel sep (sep.intercalate ls) = ls.flatten := by
  rcases hsep with rfl | hx
  · rw [replaceDel, if_pos rfl, intercalate_nil_sep]
  · have hne : sep ≠ [] := by rintro rfl; obtain ⟨c, hc, _⟩ := hx; cases hc
    rw [replaceDel, if_neg hne]
    cases ls with
    | nil => rfl
    | cons l ls' =>
      rw [intercalate_eq, List.flatten_cons]
      exact replaceDelAux_join p sep hx _ l ls' (hls l List.mem_cons_self)
        (fun l' hl' => hls l' (List.mem_cons_of_mem _ hl')) (Nat.le_refl _)

end NV.C15L.Sep
