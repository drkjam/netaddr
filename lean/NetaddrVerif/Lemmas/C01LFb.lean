/-
Lemmas/C01LFb.lean — netaddr's fallback readers (`FbSocket.pton4`, `FbSocket.pton6`, modelled
line by line from fbsocket.py) accept exactly the strings the platform models (`Text4.pton4`,
`Text6.pton6`) accept, with the same values.
-/
import NetaddrVerif.Model.FbSocket
import NetaddrVerif.Model.Text6
namespace NV.C01L
open NV NV.Text4

/-- the two octet rules are the same rule: fbsocket's "leading zero in a longer token" is the
    negation of glibc's "single digit or no leading zero", and `>> 8 == 0` is `≤ 255` -/
theorem fb_octet_eq (t : List Char) : FbSocket.octet t = Text4.octet t := by
  have hsh : (ofBase 10 t >>> 8 ≠ 0) ↔ ¬ (ofBase 10 t ≤ 255) := by rw [Nat.shiftRight_eq_div_pow]; omega
  unfold FbSocket.octet Text4.octet
  simp only [← List.not_all_eq_any_not, hsh]
  by_cases hlen : 1 ≤ t.length ∧ t.length ≤ 3
  · by_cases hall : t.all isDec = true
    · have hz : ((t.head? == some '0') = true ∧ t.length > 1) ↔ ¬ (t.length = 1 ∨ t.head? ≠ some '0') := by
        rw [beq_iff_eq]
        by_cases hh : t.head? = some '0' <;> simp [hh] <;> omega
      by_cases hc : t.length = 1 ∨ t.head? ≠ some '0'
      · simp only [hlen, hall, hz, hc, not_true_eq_false, and_self, Bool.not_true, Bool.false_eq_true, if_false, if_true, ite_not]
      · simp only [hlen, hall, hz, hc, not_true_eq_false, not_false_eq_true, and_self, and_false, Bool.not_true,
          Bool.false_eq_true, if_false, if_true]
    · simp [hlen, hall]
  · have : ¬ (1 ≤ t.length ∧ t.length ≤ 3 ∧ t.all isDec = true ∧ (t.length = 1 ∨ t.head? ≠ some '0')) :=
      fun h => hlen ⟨h.1, h.2.1⟩
    rw [if_pos hlen, if_neg this]

/-- `fbsocket._inet_pton_af_inet` = `socket.inet_pton(AF_INET, ·)` (models), all strings -/
theorem fb_pton4_eq (s : List Char) : FbSocket.pton4 s = Text4.pton4 s := by
  unfold FbSocket.pton4 Text4.pton4
  generalize s.splitOn '.' = toks
  match toks with
  | [] | [_] | [_, _] | [_, _, _] | _ :: _ :: _ :: _ :: _ :: _ => simp
  | [a, b, c, d] =>
    simp only [List.length_cons, List.length_nil, List.mapM_cons, List.mapM_nil, fb_octet_eq]
    cases Text4.octet a with
    | none => rfl
    | some na =>
    cases Text4.octet b with
    | none => rfl
    | some nb =>
    cases Text4.octet c with
    | none => rfl
    | some nc =>
    cases Text4.octet d with
    | none => rfl
    | some nd =>
      simp only [if_true, Option.bind_eq_bind, Option.bind_some, Option.pure_def, Option.map_some,
        List.foldl_cons, List.foldl_nil]
      exact congrArg some (by omega)

theorem fb_front_eq (t0 t1 : List Char) (rest : List (List Char)) :
    (if (t0 :: t1 :: rest).head? == some [] then
      (if (t0 :: t1 :: rest).getD 1 ['x'] != [] then none else some ((t0 :: t1 :: rest).drop 1))
     else some (t0 :: t1 :: rest)) = Text6.trimFront (t0 :: t1 :: rest) := by
  cases t0 <;> cases t1 <;> simp [Text6.trimFront]

theorem fb_back_eq (toks : List (List Char)) :
    (if toks.getLast? == some [] then
      (if toks.length < 2 || toks.getD (toks.length - 2) ['x'] != [] then none else some toks.dropLast)
     else some toks) = Text6.trimBack toks := by
  unfold Text6.trimBack
  by_cases h : toks.getLast? == some []
  · simp only [h, if_true]
    have h' : toks.getLast? = some [] := by simpa using h
    -- `toks = L ++ [[]]`, and for a non-empty `L = L' ++ [y]` fbsocket's `getD (length - 2)` is `y`, the piece `trimBack` tests
    obtain ⟨L, rfl⟩ := List.getLast?_eq_some_iff.mp h'
    rw [List.dropLast_concat]
    rcases List.eq_nil_or_concat L with hL | ⟨L', y, hL⟩
    · subst hL; simp
    · rw [List.concat_eq_append] at hL; subst hL
      have hlen : (L' ++ [y] ++ [[]]).length - 2 = L'.length := by simp
      have hget : (L' ++ [y] ++ [([] : List Char)]).getD L'.length ['x'] = y := by
        rw [List.getD_eq_getElem?_getD, List.append_assoc, List.getElem?_append_right (Nat.le_refl _)]
        simp
      have hl2 : ¬ ((L' ++ [y] ++ [([] : List Char)]).length < 2) := by simp
      rw [hlen, hget, List.getLast?_concat]
      cases y <;> simp
  · simp [h]

theorem count_nil_eq (toks : List (List Char)) : toks.count [] = (toks.filter List.isEmpty).length := by
  rw [List.count_eq_length_filter]
  congr 1
  apply List.filter_congr
  intro t _
  cases t <;> rfl

theorem tokenLoop_eq (n : Nat) (rest : List (List Char)) (idx : Nat) (ws : List Nat) (gap : Option Nat)
    (h : idx + rest.length = n) :
    FbSocket.tokenLoop n rest idx ws gap = Text6.groups rest ws gap := by
  -- fbsocket asks `idx == n - 1` where the platform model asks "is this the last token": by `h` these agree
  induction rest generalizing idx ws gap with
  | nil => simp [FbSocket.tokenLoop, Text6.groups]
  | cons t r ih =>
    have hn : idx + 1 + r.length = n := by simp at h; omega
    unfold FbSocket.tokenLoop Text6.groups
    by_cases ht : t = []
    · subst ht; simp [ih (idx + 1) ws (some ws.length) hn]
    · have e1 : (t == ([] : List Char)) = false := beq_eq_false_iff_ne.mpr ht
      have e2 : t.isEmpty = false := by cases t with
        | nil => exact absurd rfl ht
        | cons _ _ => rfl
      simp only [e1, e2, Bool.false_eq_true, if_false]
      by_cases hdot : t.contains '.' = true
      · simp only [hdot, if_true, fb_pton4_eq]
        cases r with
        | nil =>
          have : idx = n - 1 := by simp at h; omega
          simp only [this, ne_eq, not_true_eq_false, if_false, List.isEmpty_nil, Bool.not_true, Bool.false_eq_true]
          cases Text4.pton4 t <;> simp [FbSocket.tokenLoop]
        | cons r0 r' =>
          have : idx ≠ n - 1 := by simp at h; omega
          simp [this]
      · have hdot' : t.contains '.' = false := by
          cases hh : t.contains '.' with
          | true => exact absurd hh hdot
          | false => rfl
        simp only [hdot', Bool.false_eq_true, if_false, ← List.not_all_eq_any_not, Text6.hextet]
        by_cases hl1 : 1 ≤ t.length <;> by_cases hl4 : t.length ≤ 4 <;> cases hall : t.all isHexC <;>
          simp [*, ih (idx + 1) _ gap hn]

/-- `fbsocket.inet_pton(AF_INET6, ·)` = `socket.inet_pton(AF_INET6, ·)` (models), all strings -/
theorem fb_pton6_eq (s : List Char) : FbSocket.pton6 s = Text6.pton6 s := by
  unfold FbSocket.pton6 Text6.pton6
  generalize s.splitOn ':' = toks
  by_cases h3 : toks.length < 3
  · simp [h3]
  · simp only [h3, if_false]
    match toks, h3 with
    | [], h => exact absurd (by simp) h
    | [_], h => exact absurd (by simp) h
    | t0 :: t1 :: rest, _ =>
      rw [fb_front_eq]
      cases Text6.trimFront (t0 :: t1 :: rest) with
      | none => rfl
      | some toks1 =>
        simp only []
        rw [fb_back_eq]
        cases Text6.trimBack toks1 with
        | none => rfl
        | some toks2 =>
          simp only []
          rw [count_nil_eq, tokenLoop_eq toks2.length toks2 0 [] none (by simp)]
          by_cases hc : (toks2.filter List.isEmpty).length > 1
          · simp [hc]
          · simp only [hc, if_false]
            cases Text6.groups toks2 [] none with
            | none => rfl
            | some r =>
              obtain ⟨ws, g⟩ := r
              cases g with
              | none => by_cases h8 : ws.length = 8 <;> simp [h8, Text6.ofWords]
              | some g => simp [Text6.ofWords]

end NV.C01L
