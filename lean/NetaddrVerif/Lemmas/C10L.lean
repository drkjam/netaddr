/-
Lemmas/C10L.lean — spec vocabulary of C10 (the list of addresses of a ranged object, Python
integer indexing and slicing of a list) and the lemmas behind Props/C10.lean.  The facts about the modelled
`range` / `slice.indices` are in Lemmas/PyRange, which Props/C10 imports.
-/
import NetaddrVerif.Model.ListLike
import NetaddrVerif.Lemmas.NetworkL
import NetaddrVerif.Lemmas.C14L
import NetaddrVerif.Lemmas.ListText
namespace NV.ListLike
open NV

/-- well-formed ranged object: a family, `first ≤ last ≤ max_int` -/
structure Ranged.WF (x : Ranged) : Prop where
  ver : x.ver = 4 ∨ x.ver = 6
  le : x.first ≤ x.last
  max : x.last ≤ maxInt x.ver

/-- the list of addresses of a ranged object: `first, first+1, …, last`, each once, ascending -/
def listOf (x : Ranged) : List Addr :=
  (List.range (x.last - x.first + 1)).map (fun k => ⟨x.ver, x.first + k⟩)

/-- Python `l[i]` for an int `i`: `IndexError` unless `-len(l) ≤ i < len(l)`; negative indices
    count from the end -/
def pyIndex {α : Type} (l : List α) (i : Int) : R α :=
  if 0 ≤ i ∧ i < l.length then
    match l[i.toNat]? with
    | some a => .ok a
    | none => .error .index
  else if -(l.length : Int) ≤ i ∧ i < 0 then
    match l[((l.length : Int) + i).toNat]? with
    | some a => .ok a
    | none => .error .index
  else .error .index

/-- Python `l[a:b:c]`: the elements at `range(*slice(a, b, c).indices(len(l)))`, `ValueError`
    for a zero step.  (`Py.sliceIndices`/`Py.pyRange` are CPython's definitions, tied to CPython
    itself by the `pyslice` platform op; `sliceIdx_in_range` shows that no position is dropped.) -/
def pySlice {α : Type} (l : List α) (a b c : Option Int) : R (List α) :=
  match Py.sliceIndices a b c l.length with
  | none => .error .value
  | some (s, e, st) => .ok ((Py.pyRange s e st).filterMap (fun i => if 0 ≤ i then l[i.toNat]? else none))

theorem length_listOf (x : Ranged) : (listOf x).length = x.last - x.first + 1 := by
  rw [listOf, List.length_map, List.length_range]

theorem getElem?_listOf (x : Ranged) (k : Nat) (hk : k < (listOf x).length) :
    (listOf x)[k]? = some ⟨x.ver, x.first + k⟩ := by
  rw [length_listOf] at hk
  rw [listOf, List.getElem?_map, List.getElem?_range hk]
  rfl

theorem size_eq (x : Ranged) (h : x.WF) : size x = ((listOf x).length : Int) := by
  have := h.le
  rw [length_listOf, size]
  omega

theorem last_succ (x : Ranged) (h : x.WF) : (x.last : Int) + 1 = x.first + ((listOf x).length : Int) := by
  have := h.le
  rw [length_listOf]
  omega

/-- `ListLike.mkAddr ver v` is `Address.ctor v (some ver)`, the integer branch of `IPAddress.__init__`
    (Model/Address), which Lemmas/C14L describes; `Cmp.mkAddr_eq_ctor` (Lemmas/C12L) is the bridge for the third copy -/
theorem mkAddr_eq_ctor (ver : Nat) (v : Int) : mkAddr ver v = Address.ctor v (some ver) := rfl

theorem mkAddr_ok (ver : Nat) (v : Int) (hver : ver = 4 ∨ ver = 6) (h0 : 0 ≤ v) (h1 : v ≤ (maxInt ver : Int)) :
    mkAddr ver v = .ok ⟨ver, v.toNat⟩ :=
  (C14.ctor_some v ver hver).trans (C14.checked_in ver v _ h0 ((C14.le_maxInt_iff ver v).1 h1))

theorem mkAddr_natCast (ver v : Nat) (hver : ver = 4 ∨ ver = 6) (h : v ≤ maxInt ver) :
    mkAddr ver (v : Int) = .ok ⟨ver, v⟩ :=
  C14.ctor_nat ver hver v (lt_of_le_maxInt h)

theorem mkAddr_offset (x : Ranged) (h : x.WF) (v : Int) (h0 : 0 ≤ v) (h1 : v < ((listOf x).length : Int)) :
    mkAddr x.ver ((x.first : Int) + v) = .ok ⟨x.ver, x.first + v.toNat⟩ := by
  obtain ⟨k, rfl⟩ := Int.eq_ofNat_of_zero_le h0
  have hk : x.first + k ≤ x.last := by
    rw [length_listOf] at h1
    have := h.le
    omega
  exact mkAddr_natCast x.ver (x.first + k) h.ver (Nat.le_trans hk h.max)

theorem getElem?_offset (x : Ranged) (v : Int) (h0 : 0 ≤ v) (h1 : v < ((listOf x).length : Int)) :
    (listOf x)[v.toNat]? = some ⟨x.ver, x.first + v.toNat⟩ :=
  getElem?_listOf x _ ((Int.toNat_lt h0).2 h1)

/-- `__iter__` builds its two endpoint addresses first; neither call can fail -/
theorem bind_endpoints (x : Ranged) (h : x.WF) {β : Type} (k : Addr → Addr → R β) :
    (do
      let startIp ← mkAddr x.ver x.first
      let endIp ← mkAddr x.ver x.last
      k startIp endIp) = k ⟨x.ver, x.first⟩ ⟨x.ver, x.last⟩ := by
  rw [mkAddr_natCast _ _ h.ver (Nat.le_trans h.le h.max), mkAddr_natCast _ _ h.ver h.max]
  rfl

theorem val_le_maxInt (a : Addr) (h : a.WF) : (a.val : Int) ≤ (maxInt a.ver : Int) :=
  Int.ofNat_le.2 (Nat.le_sub_one_of_lt h.2)

theorem ofNet_wf (n : Net) (h : n.WF) : (ofNet n).WF :=
  ⟨h.1, netFirst_le_netLast _ _ _, Nat.le_sub_one_of_lt (netLast_lt _ _ _ h.2.1)⟩

theorem pyIndex_error_iff {α : Type} (l : List α) (i : Int) :
    pyIndex l i = .error .index ↔ (i < -(l.length : Int) ∨ (l.length : Int) ≤ i) := by
  unfold pyIndex
  by_cases hpos : 0 ≤ i ∧ i < (l.length : Int)
  · rw [if_pos hpos, List.getElem?_eq_getElem (by omega)]
    exact ⟨nofun, fun hh => by omega⟩
  · rw [if_neg hpos]
    by_cases hneg : -(l.length : Int) ≤ i ∧ i < 0
    · rw [if_pos hneg, List.getElem?_eq_getElem (by omega)]
      exact ⟨nofun, fun hh => by omega⟩
    · rw [if_neg hneg]
      exact ⟨fun _ => by omega, fun _ => rfl⟩

/-! ### the loop of `iter_iprange` -/

theorem mul_natCast_succ (s : Int) (i : Nat) : s * ((i + 1 : Nat) : Int) = s + s * (i : Int) := by
  rw [Int.natCast_add_one, Int.mul_add, Int.mul_one, Int.add_comm]

/-- `v` has not passed `stop` in the direction of travel -/
abbrev near (neg : Bool) (stop v : Int) : Prop := if neg then stop ≤ v else v ≤ stop

/-- one iteration: step, compare with `stop` on the side the sign of the step says, yield -/
theorem iprLoop_succ (ver : Nat) (stop step : Int) (neg : Bool) (fuel : Nat) (index : Int) :
    iprLoop ver stop step neg (fuel + 1) index =
      if near neg stop (index + step) then do
        let a ← mkAddr ver (index + step)
        let rest ← iprLoop ver stop step neg fuel (index + step)
        pure (a :: rest)
      else .ok [] := by
  cases neg <;> simp only [iprLoop, near, ite_not, Bool.false_eq_true, if_false, if_true, ge_iff_le]

/-- With `fuel` iterations from `index` the loop yields `index + step·(i+1)` for `i < n`, the
    leading values that have not passed `stop` (if the fuel did not run out, the next one has),
    provided each of them is an address of the family.  The statement starts from the index BEFORE the
    first item because the loop steps first and tests afterwards; callers pass `start - step`. -/
theorem iprLoop_run (ver : Nat) (stop step : Int) (neg : Bool) (hver : ver = 4 ∨ ver = 6) :
    ∀ (fuel : Nat) (index : Int),
    (∀ i : Nat, near neg stop (index + step + step * (i : Int)) →
      0 ≤ index + step + step * (i : Int) ∧ index + step + step * (i : Int) ≤ (maxInt ver : Int)) →
    ∃ n : Nat, n ≤ fuel ∧
      iprLoop ver stop step neg fuel index =
        .ok ((List.range n).map (fun (i : Nat) => (⟨ver, (index + step + step * (i : Int)).toNat⟩ : Addr))) ∧
      (∀ i : Nat, i < n → near neg stop (index + step + step * (i : Int))) ∧
      (n < fuel → ¬ near neg stop (index + step + step * (n : Int))) := by
  intro fuel
  induction fuel with
  | zero => exact fun _ _ => ⟨0, Nat.le_refl _, rfl, fun _ hi => absurd hi (Nat.not_lt_zero _), fun h => absurd h (Nat.lt_irrefl _)⟩
  | succ f ih =>
    intro index hok
    rw [iprLoop_succ]
    have h0 : index + step + step * ((0 : Nat) : Int) = index + step := by
      rw [Int.natCast_zero, Int.mul_zero, Int.add_zero]
    have hs : ∀ i : Nat, index + step + step * ((i + 1 : Nat) : Int) = index + step + step + step * (i : Int) := by
      intro i
      rw [mul_natCast_succ, Int.add_assoc (index + step)]
    by_cases hc : near neg stop (index + step)
    · obtain ⟨n, hn, hr, hall, hnext⟩ := ih (index + step) (fun i => hs i ▸ hok (i + 1))
      have hb := hok 0
      rw [h0] at hb
      refine ⟨n + 1, Nat.succ_le_succ hn, ?_, ?_, ?_⟩
      · rw [if_pos hc, mkAddr_ok ver _ hver (hb hc).1 (hb hc).2, hr, map_range_succ]
        simp only [h0, hs]
        rfl
      · intro i hi
        cases i with
        | zero => rw [h0]; exact hc
        | succ j => rw [hs]; exact hall j (Nat.lt_of_succ_lt_succ hi)
      · intro hlt
        rw [hs]
        exact hnext (Nat.lt_of_succ_lt_succ hlt)
    · refine ⟨0, Nat.zero_le _, if_neg hc, fun _ hi => absurd hi (Nat.not_lt_zero _), fun _ => ?_⟩
      rw [h0]
      exact hc

theorem iprLoop_pos (ver : Nat) (stop step : Int) (hver : ver = 4 ∨ ver = 6) (hstep : 0 < step)
    (hstop : stop ≤ (maxInt ver : Int)) :
    ∀ (fuel : Nat) (index : Int), 0 ≤ index + step →
    ∃ n : Nat, n ≤ fuel ∧
      iprLoop ver stop step false fuel index =
        .ok ((List.range n).map (fun (i : Nat) => (⟨ver, (index + step + step * (i : Int)).toNat⟩ : Addr))) ∧
      (∀ i : Nat, i < n → index + step + step * (i : Int) ≤ stop) ∧
      (n < fuel → stop < index + step + step * (n : Int)) := by
  intro fuel index h0
  obtain ⟨n, hn, hr, hall, hnext⟩ := iprLoop_run ver stop step false hver fuel index
    (fun i (hi : _ ≤ stop) =>
      have := Int.mul_nonneg (Int.le_of_lt hstep) (Int.natCast_nonneg i)
      ⟨by omega, Int.le_trans hi hstop⟩)
  exact ⟨n, hn, hr, hall, fun h => Int.not_le.1 (hnext h)⟩

theorem iprLoop_neg (ver : Nat) (stop step : Int) (hver : ver = 4 ∨ ver = 6) (hstep : step < 0)
    (hstop : 0 ≤ stop) :
    ∀ (fuel : Nat) (index : Int), index + step ≤ (maxInt ver : Int) →
    ∃ n : Nat, n ≤ fuel ∧
      iprLoop ver stop step true fuel index =
        .ok ((List.range n).map (fun (i : Nat) => (⟨ver, (index + step + step * (i : Int)).toNat⟩ : Addr))) ∧
      (∀ i : Nat, i < n → stop ≤ index + step + step * (i : Int)) ∧
      (n < fuel → index + step + step * (n : Int) < stop) := by
  intro fuel index h0
  obtain ⟨n, hn, hr, hall, hnext⟩ := iprLoop_run ver stop step true hver fuel index
    (fun i (hi : stop ≤ _) =>
      have := Int.mul_nonpos_of_nonpos_of_nonneg (Int.le_of_lt hstep) (Int.natCast_nonneg i)
      ⟨Int.le_trans hstop hi, by omega⟩)
  exact ⟨n, hn, hr, hall, fun h => Int.not_le.1 (hnext h)⟩

/-- `|m| + 1` steps of size `|d| ≥ 1` lead past `m`, in the direction of `d` -/
theorem fuel_suffices (m d : Int) (n : Nat) (hn : m.natAbs + 1 ≤ n) :
    (0 < d → m < d * n) ∧ (d < 0 → d * n < m) := by
  have h1 : m ≤ (m.natAbs : Int) := Int.le_natAbs
  have h2 : -m ≤ (m.natAbs : Int) := Int.natAbs_neg m ▸ Int.le_natAbs
  generalize m.natAbs = k at hn h1 h2
  refine ⟨fun hd => ?_, fun hd => ?_⟩
  · have := Int.mul_le_mul_of_nonneg_right (show 1 ≤ d from hd) (Int.natCast_nonneg n)
    omega
  · have := Int.mul_le_mul_of_nonneg_right (show d ≤ -1 from Int.le_sub_one_of_lt hd) (Int.natCast_nonneg n)
    omega

theorem iterIprangeF_eq (fuel : Nat) (a b : Addr) (step : Int) (hv : a.ver = b.ver) (hs : step ≠ 0) :
    iterIprangeF fuel a b step = iprLoop a.ver b.val step (decide (step < 0)) fuel (a.val - step) := by
  rw [iterIprangeF, if_neg (not_not_intro hv), if_neg hs]

theorem iterIprangeF_ranged (x : Ranged) (h : x.WF) (fuel : Nat) :
    iterIprangeF fuel ⟨x.ver, x.first⟩ ⟨x.ver, x.last⟩ 1 = .ok ((listOf x).take fuel) := by
  obtain ⟨n, hn, hr, hall, hnext⟩ := iprLoop_pos x.ver x.last 1 h.ver (by decide) (Int.ofNat_le.2 h.max)
    fuel ((x.first : Int) - 1) (by rw [Int.sub_add_cancel]; exact Int.natCast_nonneg _)
  simp only [Int.sub_add_cancel, Int.one_mul] at hr hall hnext
  have hnv : n = min fuel (x.last - x.first + 1) := by
    have hle := h.le
    cases n with
    | zero => omega
    | succ m =>
      have := hall m (Nat.lt_succ_self m)
      omega
  rw [iterIprangeF_eq fuel ⟨x.ver, x.first⟩ ⟨x.ver, x.last⟩ 1 rfl (by decide), listOf, ← List.map_take,
    List.take_range, ← hnv]
  exact hr

/-! ### picking the positions of a slice out of the list -/

theorem pick_listOf (x : Ranged) (idx : List Int) (hin : ∀ v ∈ idx, 0 ≤ v ∧ v < ((listOf x).length : Int)) :
    idx.filterMap (fun i => if 0 ≤ i then (listOf x)[i.toNat]? else none) =
      idx.map (fun i => (⟨x.ver, x.first + i.toNat⟩ : Addr)) := by
  apply filterMap_all_some
  intro v hv
  obtain ⟨h0, h1⟩ := hin v hv
  rw [if_pos h0]
  exact getElem?_offset x v h0 h1

/-! ### what the spec-level slice means in terms of `drop` / `take` / `reverse` -/

/-- picking the positions `g 0, …, g (cnt-1)` of `l` gives the first `cnt` elements of `m` when
    position `g i` of `l` holds element `i` of `m` -/
theorem pick_eq_take {α : Type} (l m : List α) (g : Nat → Int) : ∀ cnt : Nat,
    (∀ i, i < cnt → ∃ k : Nat, g i = k ∧ l[k]? = m[i]?) →
    ((List.range cnt).map g).filterMap (fun i => if 0 ≤ i then l[i.toNat]? else none) = m.take cnt := by
  intro cnt
  induction cnt with
  | zero => intro _; rfl
  | succ c ih =>
    intro h
    obtain ⟨k, hk, he⟩ := h c (Nat.lt_succ_self c)
    rw [List.range_succ, List.map_append, List.filterMap_append, ih (fun i hi => h i (Nat.lt_succ_of_lt hi)),
      List.take_add_one, ← he]
    simp only [List.map_cons, List.map_nil, List.filterMap_cons, List.filterMap_nil, hk,
      if_pos (Int.natCast_nonneg k), Int.toNat_natCast]
    cases l[k]? <;> rfl

end NV.ListLike
