/-
Lemmas/C08LHex.lean — hexadecimal words: the hex character class of the MAC regular expressions,
what `fmtHex` prints (characters, length, value under `int(·, 16)`), hex tokens and their value
(`HexTok`, `tokVal`), fixed-width hex words concatenated (`fmtHex_concat`) and with it what
`joinWords` computes.  Core only.
-/
import NetaddrVerif.Model.Eui
import NetaddrVerif.Lemmas.Numerals
import NetaddrVerif.Lemmas.C15LWords
import NetaddrVerif.Lemmas.MapM
namespace NV.Eui
open NV.Py NV.PyL NV.Codec

theorem isHex_iff (c : Char) : isHex c = true ↔ ∃ d, digitVal 16 c = some d := by
  simp only [isHex, Bool.or_eq_true, Bool.and_eq_true, decide_eq_true_eq]
  constructor
  · intro h
    unfold digitVal
    by_cases h1 : '0' ≤ c ∧ c ≤ '9'
    · have hb : c.toNat - 48 < 16 := Nat.lt_of_le_of_lt (Nat.sub_le_sub_right (h1.2 : c.toNat ≤ 57) 48) (by decide)
      exact ⟨_, by rw [if_pos h1]; exact if_pos hb⟩
    · by_cases h2 : 'a' ≤ c ∧ c ≤ 'f'
      · have hb : c.toNat - 97 + 10 < 16 :=
          Nat.add_lt_add_right (Nat.lt_of_le_of_lt (Nat.sub_le_sub_right (h2.2 : c.toNat ≤ 102) 97) (by decide)) 10
        exact ⟨_, by rw [if_neg h1, if_pos h2]; exact if_pos hb⟩
      · have h3 : 'A' ≤ c ∧ c ≤ 'F' := h.resolve_left (fun h' => h'.elim h1 h2)
        have hb : c.toNat - 65 + 10 < 16 :=
          Nat.add_lt_add_right (Nat.lt_of_le_of_lt (Nat.sub_le_sub_right (h3.2 : c.toNat ≤ 70) 65) (by decide)) 10
        exact ⟨_, by rw [if_neg h1, if_neg h2, if_pos h3]; exact if_pos hb⟩
  · rintro ⟨d, hd⟩
    rcases (digitVal_some hd).2 with h | h | h
    · exact Or.inl (Or.inl h)
    · exact Or.inl (Or.inr h)
    · exact Or.inr h

end NV.Eui

namespace NV.Codec
open NV.Py NV.PyL NV.Eui

theorem fmtHex_chars (pad : Nat) (upper : Bool) (n : Nat) : ∀ c ∈ fmtHex pad upper n, isHex c = true := by
  have hraw : ∀ c ∈ List.replicate (pad - (Nat.toDigits 16 n).length) '0' ++ Nat.toDigits 16 n,
      isHex c = true ∧ isHex c.toUpper = true := by
    intro c hc
    rcases List.mem_append.mp hc with hc | hc
    · rw [(List.mem_replicate.mp hc).2]
      decide
    · exact toDigits_all (by decide) (fun c => isHex c = true ∧ isHex c.toUpper = true) (fun d hd => ⟨(isHex_iff _).mpr ⟨d, (digitChar_val d hd).1⟩,
        (isHex_iff _).mpr ⟨d, (digitChar_val d hd).2⟩⟩) n c hc
  intro c hc
  simp only [fmtHex] at hc
  split at hc
  · obtain ⟨x, hx, rfl⟩ := List.mem_map.mp hc
    exact (hraw x hx).2
  · exact (hraw c hc).1

theorem fmtHex_length (pad : Nat) (upper : Bool) (n : Nat) :
    (fmtHex pad upper n).length = max pad (Nat.toDigits 16 n).length := by
  rw [← Nat.sub_add_eq_max]
  simp only [fmtHex]
  split
  · rw [List.length_map, List.length_append, List.length_replicate]
  · rw [List.length_append, List.length_replicate]

/-- the upper-case spelling is read as the lower-case one, digit by digit -/
theorem fmtHex_val (pad : Nat) (upper : Bool) (n acc : Nat) :
    digitsNat 16 (fmtHex pad upper n) acc = acc * 16 ^ (fmtHex pad upper n).length + n := by
  rw [fmtHex_length, ← Nat.sub_add_eq_max, Nat.pow_add, ← Nat.mul_assoc]
  simp only [fmtHex, digitsNat]
  split
  · rw [List.foldl_map, foldl_zeros 16 (fun c => (digitVal 16 c.toUpper).getD 0) (by decide),
      foldl_toDigits (by decide) _ (fun d hd => by rw [(digitChar_val d hd).2]; rfl)]
  · rw [foldl_zeros 16 (fun c => (digitVal 16 c).getD 0) (by decide),
      foldl_toDigits (by decide) _ (fun d hd => by rw [(digitChar_val d hd).1]; rfl)]

theorem fmtHex_ne_nil (pad : Nat) (upper : Bool) (n : Nat) : fmtHex pad upper n ≠ [] := by
  intro h
  have hl := fmtHex_length pad upper n
  rw [h, List.length_nil] at hl
  exact absurd (Nat.le_max_right pad _) (hl ▸ Nat.not_le.mpr Nat.length_toDigits_pos)

theorem fmtHex_length_bounds (pad : Nat) (upper : Bool) (n k : Nat) (hn : n < 16 ^ k) (hk : 1 ≤ k) :
    max pad 1 ≤ (fmtHex pad upper n).length ∧ (fmtHex pad upper n).length ≤ max pad k := by
  rw [fmtHex_length]
  exact ⟨Nat.max_le.mpr ⟨Nat.le_max_left .., Nat.le_trans Nat.length_toDigits_pos (Nat.le_max_right ..)⟩,
    Nat.max_le.mpr ⟨Nat.le_max_left .., Nat.le_trans ((Nat.length_toDigits_le_iff (by decide) hk).mpr hn)
      (Nat.le_max_right ..)⟩⟩

end NV.Codec

namespace NV.Eui
open NV.Py NV.PyL NV.Codec

/-- what one group `([0-9A-F]{lo,hi})` of a MAC / EUI-64 pattern can hold: a non-empty run of hex
    digits of either case -/
def HexTok (t : List Char) : Prop := t ≠ [] ∧ ∀ c ∈ t, isHex c = true

/-- `int(t, 16)` of a hex token -/
def tokVal (t : List Char) : Nat := digitsNat 16 t 0

theorem tokVal_fmtHex (pad : Nat) (upper : Bool) (w : Nat) : tokVal (fmtHex pad upper w) = w := by
  rw [tokVal, fmtHex_val, Nat.zero_mul, Nat.zero_add]

theorem pyInt16_tok (t : List Char) (h : HexTok t) : pyInt 16 t = some ((tokVal t : Nat) : Int) :=
  pyInt_digits 16 t h.1 (fun c hc => (isHex_iff c).mp (h.2 c hc))

theorem tokVal_lt {t : List Char} {k : Nat} (h : t.length ≤ k) : tokVal t < 16 ^ k :=
  digitsNat_zero_lt (by decide) t h

theorem digitsNat_flatten_fmtHex (pad : Nat) (upper : Bool) (l : List Nat)
    (hl : ∀ w ∈ l, (fmtHex pad upper w).length = pad) (acc : Nat) :
    digitsNat 16 (l.map (fmtHex pad upper)).flatten acc = l.foldl (fun a n => a * 2 ^ (4 * pad) + n) acc := by
  induction l generalizing acc with
  | nil => simp [digitsNat]
  | cons w r ih =>
    simp only [List.map_cons, List.flatten_cons, digitsNat_append, List.foldl_cons]
    rw [fmtHex_val, hl w (by simp), ih (fun u hu => hl u (by simp [hu])), Nat.pow_mul]

/-- words below 16^pad printed `'%.<pad>x'` and concatenated: one hex numeral with pad digits per
    word, whose value is the big-endian value of the words in base 16^pad -/
theorem fmtHex_concat {pad : Nat} (hpad : 1 ≤ pad) (upper : Bool) {l : List Nat} (hl : ∀ w ∈ l, w < 16 ^ pad) :
    ((l.map (fmtHex pad upper)).flatten).length = pad * l.length ∧
    (∀ c ∈ (l.map (fmtHex pad upper)).flatten, isHex c = true) ∧
    tokVal (l.map (fmtHex pad upper)).flatten = beWordsValue (4 * pad) l := by
  have hlen : ∀ w ∈ l, (fmtHex pad upper w).length = pad := fun w hw => by
    have := fmtHex_length_bounds pad upper w pad (hl w hw) hpad
    omega
  refine ⟨?_, fun c hc => ?_, ?_⟩
  · rw [List.length_flatten, List.map_map, List.map_congr_left (f := List.length ∘ fmtHex pad upper) (g := fun _ => pad) hlen,
      List.map_const', List.sum_replicate_nat, Nat.mul_comm]
  · obtain ⟨t, ht, hct⟩ := List.mem_flatten.mp hc
    obtain ⟨w, _, rfl⟩ := List.mem_map.mp ht
    exact fmtHex_chars pad upper w c hct
  · rw [tokVal, digitsNat_flatten_fmtHex pad upper l hlen 0, horner_eq, Nat.zero_mul, Nat.zero_add]

/-- `joinWords`: tokens below 16^pad, re-printed with exactly `pad` digits and read as one
    numeral, give the big-endian value of the token values in base 16^pad -/
theorem joinWords_spec {pad : Nat} (hpad : 1 ≤ pad) {toks : List (List Char)} (hne : toks ≠ [])
    (ht : ∀ t ∈ toks, HexTok t ∧ tokVal t < 16 ^ pad) :
    joinWords pad toks = some (beWordsValue (4 * pad) (toks.map tokVal)) := by
  have hm := mapM_eq_pure_map (fun w => pyInt 16 w) (fun t => ((tokVal t : Nat) : Int)) toks
    (fun t h => pyInt16_tok t (ht t h).1)
  let F := ((toks.map tokVal).map (fmtHex pad false)).flatten
  obtain ⟨hFlen, hFhex, hFval⟩ : F.length = _ ∧ _ ∧ tokVal F = _ := fmtHex_concat hpad false (fun w hw => by
    obtain ⟨t, h, rfl⟩ := List.mem_map.mp hw
    exact (ht t h).2)
  have hF : ((toks.map (fun t => ((tokVal t : Nat) : Int))).map (fun n => fmtHex pad false n.toNat)).flatten = F := by
    simp [F, List.map_map, Function.comp_def]
  have hFne : F ≠ [] := fun e => by
    rw [e, List.length_map] at hFlen
    exact Nat.ne_of_lt (Nat.mul_pos hpad (List.length_pos_iff.mpr hne)) hFlen
  unfold joinWords
  rw [hm]
  show (Option.bind (pyInt 16 ((toks.map (fun t => ((tokVal t : Nat) : Int))).map
    (fun n => fmtHex pad false n.toNat)).flatten) fun v => some v.toNat) = _
  rw [hF, pyInt16_tok F ⟨hFne, hFhex⟩]
  show some (((tokVal F : Nat) : Int)).toNat = _
  rw [Int.toNat_natCast, hFval]

end NV.Eui
