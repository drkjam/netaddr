/-
Lemmas/C17LBlock.lean — glob-shaped lists of octet pairs (`Shaped`): the bounds of a grammatical
glob and of an IPv4 CIDR block are glob-shaped; the numbers between glob-shaped bounds are
those whose octets lie between the bounds' octets; `_iprange_to_glob` succeeds on them.
-/
import NetaddrVerif.Lemmas.C17LRange
import NetaddrVerif.Lemmas.NetworkL
namespace NV.C17
open NV NV.Glob

/-- octet pairs `(lo, hi)` of a glob: equal octets, then one ordered pair, then only `(0, 255)` -/
def Shaped : List (Nat × Nat) → Prop
  | [] => True
  | (a, b) :: r => b < 256 ∧ ((a = b ∧ Shaped r) ∨ (a ≤ b ∧ ∀ p ∈ r, p = (0, 255)))

theorem shapeOk_of_stars : ∀ {os : List Oct}, os.all Oct.isStar = true → shapeOk os = true
  | [], _ => rfl
  | .star :: _, h => by simpa [shapeOk, Oct.isStar] using h
  | .lit _ :: _, h => by simp [Oct.isStar] at h
  | .hyp .. :: _, h => by simp [Oct.isStar] at h

theorem Shaped.ok : ∀ {ps : List (Nat × Nat)}, Shaped ps →
    (∀ p ∈ ps, p.1 ≤ p.2) ∧ shapeOk (ps.map cls) = true
  | [], _ => ⟨fun _ hp => (nomatch hp), rfl⟩
  | (a, b) :: r, ⟨_, h⟩ => by
    rw [List.map_cons]
    rcases h with ⟨rfl, h⟩ | ⟨hab, hr⟩
    · obtain ⟨h1, h2⟩ := Shaped.ok h
      rw [show cls (a, a) = .lit a from if_pos rfl]
      exact ⟨List.forall_mem_cons.2 ⟨Nat.le_refl _, h1⟩, h2⟩
    · have hs : (r.map cls).all Oct.isStar = true := by
        rw [List.all_map, List.all_eq_true]
        intro p hp
        rw [hr p hp]
        rfl
      refine ⟨List.forall_mem_cons.2 ⟨hab, fun p hp => by rw [hr p hp]; decide⟩, ?_⟩
      cases cls (a, b) with
      | lit _ => exact (shapeOk_of_stars hs : shapeOk (r.map cls) = true)
      | _ => exact hs

theorem ofOctets_stars : ∀ {r : List (Nat × Nat)}, (∀ p ∈ r, p = (0, 255)) →
    ofOctets (r.map (·.1)) = 0 ∧ ofOctets (r.map (·.2)) + 1 = 256 ^ r.length
  | [], _ => ⟨rfl, rfl⟩
  | p :: r, h => by
    obtain ⟨h1, h2⟩ := ofOctets_stars fun q hq => h q (List.mem_cons_of_mem _ hq)
    rw [h p (List.mem_cons_self ..)]
    simp only [List.map_cons, ofOctets, List.length_map, List.length_cons, Nat.pow_succ, h1]
    omega

theorem top_le {a d N L E : Nat} (h : a * N + L ≤ d * N + E) (hE : E < N) : a ≤ d :=
  Nat.le_of_lt_succ (Nat.lt_of_mul_lt_mul_right (a := N) (by rw [Nat.succ_mul]; omega))

theorem Shaped.bounds : ∀ {ps : List (Nat × Nat)}, Shaped ps →
    ofOctets (ps.map (·.1)) ≤ ofOctets (ps.map (·.2)) ∧ ofOctets (ps.map (·.2)) < 256 ^ ps.length
  | [], _ => ⟨Nat.le_refl _, Nat.one_pos⟩
  | (a, b) :: r, ⟨hb, h⟩ => by
    have hb' := Nat.mul_le_mul_right (256 ^ r.length) (show b + 1 ≤ 256 from hb)
    rw [Nat.add_mul, Nat.one_mul] at hb'
    simp only [List.map_cons, ofOctets, List.length_map, List.length_cons, Nat.pow_succ]
    rcases h with ⟨rfl, h⟩ | ⟨hab, hr⟩
    · have := Shaped.bounds h
      omega
    · have := ofOctets_stars hr
      have := Nat.mul_le_mul_right (256 ^ r.length) hab
      omega

/-- an equal pair in front of an interval of `n`-octet numbers gives an interval again, and so
    does an ordered pair in front of the full range `[0, 256^n - 1]` -/
theorem Shaped.mem_iff : ∀ {ps : List (Nat × Nat)} {ds : List Nat}, Shaped ps →
    ds.length = ps.length → (∀ d ∈ ds, d < 256) →
    ((ofOctets (ps.map (·.1)) ≤ ofOctets ds ∧ ofOctets ds ≤ ofOctets (ps.map (·.2))) ↔
      ∀ x ∈ ps.zip ds, x.1.1 ≤ x.2 ∧ x.2 ≤ x.1.2)
  | [], [], _, _, _ => ⟨fun _ _ hx => (nomatch hx), fun _ => ⟨Nat.le_refl _, Nat.le_refl _⟩⟩
  | (a, b) :: r, d :: e, ⟨_, h⟩, hl, hd => by
    have hl' : e.length = r.length := Nat.succ.inj hl
    have hd' : ∀ x ∈ e, x < 256 := fun x hx => hd x (List.mem_cons_of_mem _ hx)
    have hE := ofOctets_lt hd'
    simp only [List.map_cons, ofOctets, List.length_map, List.zip_cons_cons, List.forall_mem_cons]
    rw [hl'] at hE ⊢
    rcases h with ⟨rfl, h⟩ | ⟨hab, hr⟩
    · have hH := (Shaped.bounds h).2
      rw [← Shaped.mem_iff h hl' hd']
      generalize 256 ^ r.length = N at *
      constructor
      · rintro ⟨h1, h2⟩
        have := top_le h1 hE
        have := top_le h2 hH
        obtain rfl : a = d := by omega
        omega
      · rintro ⟨⟨h1, h2⟩, h3⟩
        obtain rfl : a = d := by omega
        omega
    · obtain ⟨e1, e2⟩ := ofOctets_stars hr
      rw [e1]
      constructor
      · rintro ⟨h1, h2⟩
        refine ⟨⟨top_le h1 hE, top_le h2 (by omega)⟩, fun x hx => ?_⟩
        have h0 := hr _ (List.of_mem_zip hx).1
        have := hd' _ (List.of_mem_zip hx).2
        rw [h0]
        omega
      · rintro ⟨⟨h1, h2⟩, -⟩
        have := Nat.mul_le_mul_right (256 ^ r.length) h1
        have := Nat.mul_le_mul_right (256 ^ r.length) h2
        omega

theorem stars_pairs {r : List Oct} (h : r.all Oct.isStar = true) :
    ∀ p ∈ r.map fun o => (o.lo, o.hi), p = (0, 255) := by
  intro p hp
  obtain ⟨o, ho, rfl⟩ := List.mem_map.1 hp
  have := List.all_eq_true.1 h o ho
  cases o <;> first | rfl | exact nomatch this

theorem shaped_of_octs : ∀ {os : List Oct}, (∀ o ∈ os, o.WF) → shapeOk os = true →
    Shaped (os.map fun o => (o.lo, o.hi))
  | [], _, _ => trivial
  | .lit _ :: _, w, h => ⟨(w _ (List.mem_cons_self ..)).bounds.2,
      Or.inl ⟨rfl, shaped_of_octs (fun o ho => w o (List.mem_cons_of_mem _ ho)) h⟩⟩
  | .hyp .. :: _, w, h => ⟨(w _ (List.mem_cons_self ..)).bounds.2,
      Or.inr ⟨(w _ (List.mem_cons_self ..)).bounds.1, stars_pairs h⟩⟩
  | .star :: _, _, h => ⟨by decide, Or.inr ⟨Nat.zero_le _, stars_pairs h⟩⟩

theorem shape_interval (o0 o1 o2 o3 : Oct) (w : ∀ o ∈ [o0, o1, o2, o3], o.WF)
    (hs : shapeOk [o0, o1, o2, o3] = true) :
    ofOctets [o0.lo, o1.lo, o2.lo, o3.lo] ≤ ofOctets [o0.hi, o1.hi, o2.hi, o3.hi] ∧
    ofOctets [o0.hi, o1.hi, o2.hi, o3.hi] < 2 ^ 32 ∧
    (∀ a, a < 2 ^ 32 →
      ((ofOctets [o0.lo, o1.lo, o2.lo, o3.lo] ≤ a ∧ a ≤ ofOctets [o0.hi, o1.hi, o2.hi, o3.hi]) ↔
        (o0.matches (a / 2 ^ 24 % 256) ∧ o1.matches (a / 2 ^ 16 % 256) ∧ o2.matches (a / 2 ^ 8 % 256) ∧
          o3.matches (a % 256)))) ∧
    GlobShaped (ofOctets [o0.lo, o1.lo, o2.lo, o3.lo]) (ofOctets [o0.hi, o1.hi, o2.hi, o3.hi]) := by
  have hsh := shaped_of_octs w hs
  refine ⟨hsh.bounds.1, by simpa using hsh.bounds.2, fun a ha => ?_, ?_⟩
  · have := hsh.mem_iff (ds := octets4 a) rfl (octets4_lt a)
    rw [ofOctets_octets4 a ha] at this
    simpa only [octets4, List.map_cons, List.map_nil, List.zip_cons_cons, List.zip_nil_right,
      List.forall_mem_cons, List.not_mem_nil, false_implies, implies_true, and_true, and_assoc,
      Oct.matches] using this
  · obtain ⟨b0, b1, b2, b3⟩ := forall_mem_four.1 fun o ho => (w o ho).bounds
    have := hsh.ok
    unfold GlobShaped ordered kinds
    rwa [octets4_ofOctets (by omega) (by omega) (by omega) (by omega),
      octets4_ofOctets b0.2 b1.2 b2.2 b3.2]

theorem parse_interval {s : List Char} {os : List Oct} (h : globParse s = some os) :
    ∃ o0 o1 o2 o3 lo hi, os = [o0, o1, o2, o3] ∧ globToIptuple s = .ok (lo, hi) ∧ lo ≤ hi ∧ hi < 2 ^ 32 ∧
      (∀ a, a < 2 ^ 32 → ((lo ≤ a ∧ a ≤ hi) ↔
        (o0.matches (a / 2 ^ 24 % 256) ∧ o1.matches (a / 2 ^ 16 % 256) ∧ o2.matches (a / 2 ^ 8 % 256) ∧
          o3.matches (a % 256)))) ∧
      GlobShaped lo hi := by
  obtain ⟨o0, o1, o2, o3, rfl, w, hs, hip⟩ := globToIptuple_of_parse s os h
  obtain ⟨hle, hlt, hm, hsh⟩ := shape_interval o0 o1 o2 o3 w hs
  exact ⟨o0, o1, o2, o3, _, _, rfl, hip, hle, hlt, hm, hsh⟩

theorem block_shr_ge (q : Nat) {r k m : Nat} (h : k ≤ m) (hr : r < 2 ^ k) :
    (q * 2 ^ k + r) / 2 ^ m = q / 2 ^ (m - k) := by
  have e : 2 ^ m = 2 ^ k * 2 ^ (m - k) := by rw [← Nat.pow_add]; congr 1; omega
  rw [e, ← Nat.div_div_eq_div_mul, Nat.mul_comm q, Nat.mul_add_div (Nat.two_pow_pos k),
    Nat.div_eq_of_lt hr, Nat.add_zero]

theorem block_shr_eq (q : Nat) {k m : Nat} (h : k ≤ m) :
    q * 2 ^ k / 2 ^ m = (q * 2 ^ k + (2 ^ k - 1)) / 2 ^ m := by
  have := block_shr_ge q h (Nat.two_pow_pos k)
  rw [Nat.add_zero] at this
  rw [this, block_shr_ge q h (Nat.sub_one_lt (Nat.pos_iff_ne_zero.1 (Nat.two_pow_pos k)))]

theorem block_shr_le (q : Nat) {k m : Nat} (h : m ≤ k) :
    q * 2 ^ k / 2 ^ m = q * 2 ^ (k - m) ∧
    (q * 2 ^ k + (2 ^ k - 1)) / 2 ^ m = q * 2 ^ (k - m) + (2 ^ (k - m) - 1) := by
  have e : 2 ^ k = 2 ^ (k - m) * 2 ^ m := by rw [← Nat.pow_add]; congr 1; omega
  have hP := Nat.two_pow_pos m
  have hT := Nat.two_pow_pos (k - m)
  rw [e, ← Nat.mul_assoc]
  generalize 2 ^ m = P at *
  generalize 2 ^ (k - m) = T at *
  refine ⟨Nat.mul_div_cancel _ hP, ?_⟩
  rw [Nat.add_comm, Nat.add_mul_div_right _ _ hP, Nat.add_comm]
  congr 1
  have hTP := Nat.mul_le_mul_right P hT
  apply Nat.div_eq_of_lt_le
  · rw [Nat.sub_mul]; omega
  · rw [Nat.sub_add_cancel hT]; omega

theorem block_octet_low (q : Nat) {k m : Nat} (h : m + 8 ≤ k) :
    q * 2 ^ k / 2 ^ m % 256 = 0 ∧ (q * 2 ^ k + (2 ^ k - 1)) / 2 ^ m % 256 = 255 := by
  obtain ⟨e1, e2⟩ := block_shr_le q (show m ≤ k by omega)
  have e : 2 ^ (k - m) = 2 ^ (k - m - 8) * 256 := by rw [← Nat.pow_add 2 _ 8]; congr 1; omega
  have hu := Nat.two_pow_pos (k - m - 8)
  rw [e1, e2, e, ← Nat.mul_assoc]
  omega

/-- first and last address of the block agree above the octet when `k ≤ m + 8`; otherwise the first
    one's octet is 0 -/
theorem block_octet_le (q k m : Nat) :
    q * 2 ^ k / 2 ^ m % 256 ≤ (q * 2 ^ k + (2 ^ k - 1)) / 2 ^ m % 256 := by
  by_cases h : k ≤ m + 8
  · have := block_shr_eq q h
    rw [Nat.pow_add, ← Nat.div_div_eq_div_mul, ← Nat.div_div_eq_div_mul] at this
    have := Nat.div_le_div_right (c := 2 ^ m) (Nat.le_add_right (q * 2 ^ k) (2 ^ k - 1))
    omega
  · rw [(block_octet_low q (show m + 8 ≤ k by omega)).1]
    exact Nat.zero_le _

theorem block_pairs (q k : Nat) : ∀ {ms : List Nat}, ms.Pairwise (fun m m' => m' + 8 ≤ m) →
    Shaped (ms.map fun m => (q * 2 ^ k / 2 ^ m % 256, (q * 2 ^ k + (2 ^ k - 1)) / 2 ^ m % 256))
  | [], _ => trivial
  | m :: r, h => by
    rw [List.pairwise_cons] at h
    refine ⟨Nat.mod_lt _ (by decide), ?_⟩
    by_cases hk : k ≤ m
    · exact Or.inl ⟨by rw [block_shr_eq q hk], block_pairs q k h.2⟩
    · refine Or.inr ⟨block_octet_le q k m, fun p hp => ?_⟩
      obtain ⟨m', hm', rfl⟩ := List.mem_map.1 hp
      have := h.1 m' hm'
      obtain ⟨e1, e2⟩ := block_octet_low q (show m' + 8 ≤ k by omega)
      rw [e1, e2]

theorem block_shaped (q k : Nat) :
    GlobShaped (q * 2 ^ k) (q * 2 ^ k + (2 ^ k - 1)) := by
  have := (block_pairs q k (ms := [24, 16, 8, 0]) (by decide)).ok
  unfold GlobShaped ordered kinds octets4
  simpa only [List.zip_cons_cons, List.zip_nil_right, List.map_cons, List.map_nil, Nat.pow_zero,
    Nat.div_one] using this

theorem block_glob (v p : Nat) (hv : v < 2 ^ 32) (hp : p ≤ 32) :
    ∃ g, singleGlob (netFirst 32 v p) (netLast 32 v p) = .ok g ∧
      iprangeToGlob (netFirst 32 v p) (netLast 32 v p) = .ok g ∧ validGlob g = true ∧
      globToIptuple g = .ok (netFirst 32 v p, netLast 32 v p) := by
  rw [netFirst_eq 32 v p hv, netLast_eq 32 v p]
  have hs := block_shaped (v / 2 ^ (32 - p)) (32 - p)
  have hl := block_lt 32 v p hv hp
  have := Nat.two_pow_pos (32 - p)
  refine ⟨joined _ _, ?_, iprangeToGlob_shape _ _ hs.2, joined_denotes _ _ (by omega) (by omega) hs⟩
  rw [singleGlob_eq, if_pos hs]

end NV.C17
