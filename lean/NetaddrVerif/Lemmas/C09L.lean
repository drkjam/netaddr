import NetaddrVerif.Lemmas.PartStruct
import NetaddrVerif.Lemmas.Minimal
import NetaddrVerif.Lemmas.NetBlock
/-! Networks of one family as blocks: the well-formedness predicate `PWF`, the block a network denotes, its address
    set `Pfx.mem`; a canonical list of networks is the only and the shortest one with its address set (`unique_minimal`);
    the equations of `cidrPartition` for overlapping networks; the prefix lengths the `cidr_partition` loop emits. -/
namespace NV.C09L
open NV Blk

/-- a network of the family of width `w` -/
structure PWF (w : Nat) (b : Pfx) : Prop where
  val_lt : b.val < 2 ^ w
  plen_le : b.plen ≤ w

/-- the block a (host-bit-free) network denotes -/
def blk (w : Nat) (b : Pfx) : Blk := ⟨b.val, w - b.plen⟩
def blks (w : Nat) (l : List Pfx) : List Blk := l.map (blk w)

/-- the address set of a network, host bits or not: `first .. last` -/
def _root_.NV.Pfx.mem (w : Nat) (b : Pfx) (a : Nat) : Prop := b.first w ≤ a ∧ a ≤ b.last w

theorem den_blks (w : Nat) (l : List Pfx) (a : Nat) : den (blks w l) a ↔ lden w l a := by
  simp only [den, blks, lden, List.mem_map]
  constructor
  · rintro ⟨b, ⟨p, hp, rfl⟩, hm⟩; exact ⟨p, hp, hm⟩
  · rintro ⟨p, hp, hm⟩; exact ⟨blk w p, ⟨p, hp, rfl⟩, hm⟩

theorem unique_minimal (w : Nat) (L : List Pfx) (hc : Canon (blks w L)) (l : List Blk)
    (hden : ∀ a, den l a ↔ den (blks w L) a) :
    (Canon l → l = blks w L) ∧ ((∀ b ∈ l, b.aligned) → L.length ≤ l.length) :=
  ⟨fun hl => canon_unique l _ hl hc hden,
   fun hal => (List.length_map (blk w) ▸ canon_minimal _ l hc hal hden : L.length ≤ l.length)⟩

theorem pfx_first_le_last (w : Nat) (b : Pfx) : b.first w ≤ b.last w := netFirst_le_netLast w b.val b.plen

theorem PWF.last_first {w : Nat} {b : Pfx} (h : PWF w b) : b.last w + 1 = b.first w + 2 ^ (w - b.plen) := by
  have := netLast_eq_add w b.val b.plen h.val_lt
  have := Nat.two_pow_pos (w - b.plen)
  unfold Pfx.first Pfx.last; omega

theorem PWF.first_aligned {w : Nat} {b : Pfx} (h : PWF w b) : b.first w % 2 ^ (w - b.plen) = 0 :=
  blkOf_aligned w b.val b.plen h.val_lt

theorem pfx_cidr_val (w : Nat) (b : Pfx) : (b.cidr w).val = b.first w := rfl

theorem PWF.last_lt {w : Nat} {b : Pfx} (h : PWF w b) : b.last w < 2 ^ w :=
  netLast_lt w b.val b.plen h.val_lt

theorem PWF.mem_iff {w : Nat} {b : Pfx} (h : PWF w b) (a : Nat) :
    b.mem w a ↔ (Blk.mk (b.first w) (w - b.plen)).mem a := (blkOf_mem w b.val b.plen a h.val_lt).symm

theorem not_mem_of_disj {w : Nat} {t e : Pfx} (h : e.last w < t.first w ∨ t.last w < e.first w) (a : Nat) :
    ¬ (t.mem w a ∧ e.mem w a) := fun ⟨ht, he⟩ =>
  h.elim (fun h => Nat.lt_irrefl _ (Nat.lt_of_le_of_lt (Nat.le_trans ht.1 he.2) h))
    (fun h => Nat.lt_irrefl _ (Nat.lt_of_le_of_lt (Nat.le_trans he.1 ht.2) h))

theorem mem_of_nested {w : Nat} {t e : Pfx} (h : e.first w ≤ t.first w ∧ t.last w ≤ e.last w) (a : Nat)
    (ha : t.mem w a) : e.mem w a := ⟨Nat.le_trans h.1 ha.1, Nat.le_trans ha.2 h.2⟩

theorem den_single_cidr (w : Nat) (t : Pfx) (ht : PWF w t) (a : Nat) :
    den (blks w [t.cidr w]) a ↔ t.mem w a := by
  rw [den_blks, lden_single, ht.mem_iff]
  exact Iff.rfl

/-! The equations of `cidrPartition` for overlapping networks; for networks that are apart see `C09.disjoint_whole`. -/

theorem cidrPartition_covered (w : Nat) (t e : Pfx) (h1 : ¬ e.last w < t.first w) (h2 : ¬ t.last w < e.first w)
    (h3 : t.plen ≥ e.plen) : cidrPartition w t e = ([], [t], []) := by
  rw [cidrPartition, if_neg h1, if_neg h2, if_pos h3]

theorem cidrPartition_inside (w : Nat) (t e : Pfx) (h1 : ¬ e.last w < t.first w) (h2 : ¬ t.last w < e.first w)
    (h3 : t.plen < e.plen) :
    cidrPartition w t e =
      ((partLoop w (e.first w) e.plen (t.plen + 1) (t.first w) (t.first w + 2 ^ (w - (t.plen + 1))) [] []).1, [e],
       (partLoop w (e.first w) e.plen (t.plen + 1) (t.first w) (t.first w + 2 ^ (w - (t.plen + 1))) [] []).2.reverse) := by
  rw [cidrPartition, if_neg h1, if_neg h2, if_neg (Nat.not_le_of_lt h3)]

/-- the prefix lengths the loop emits, started with empty lists at `np`, for any arguments -/
theorem partLoop_plen (w ef ep : Nat) (hep : ep ≤ w) (np iLower iUpper : Nat) :
    (∀ b ∈ (partLoop w ef ep np iLower iUpper [] []).1, np ≤ b.plen ∧ b.plen ≤ w) ∧
    (∀ b ∈ (partLoop w ef ep np iLower iUpper [] []).2, np ≤ b.plen ∧ b.plen ≤ w) := by
  rcases Nat.lt_or_ge (ep + 1) np with hnp | hnp
  · rw [partLoop_done (Nat.lt_of_succ_lt hnp)]
    exact ⟨nofun, nofun⟩
  · obtain ⟨_, _, -, hL', hR'⟩ := partLoop_inv (ef := ef) hep
      (fun n _ _ l r => np ≤ n ∧ (∀ b ∈ l, np ≤ b.plen ∧ b.plen ≤ w) ∧ (∀ b ∈ r, np ≤ b.plen ∧ b.plen ≤ w))
      (fun n _ _ _ _ hn _ h => ⟨Nat.le_succ_of_le h.1, forall_mem_snoc h.2.1 ⟨h.1, Nat.le_trans hn hep⟩, h.2.2⟩)
      (fun n _ _ _ _ hn _ h => ⟨Nat.le_succ_of_le h.1, h.2.1, forall_mem_snoc h.2.2 ⟨h.1, Nat.le_trans hn hep⟩⟩)
      hnp (iL := iLower) (iU := iUpper) (l := []) (r := []) ⟨Nat.le_refl _, nofun, nofun⟩
    exact ⟨hL', hR'⟩

/-- every member of the `after` list has a prefix inside the width, whatever the two networks are -/
theorem part_after_plen (w : Nat) (t e : Pfx) (ht : t.plen ≤ w) (he : e.plen ≤ w) :
    ∀ b ∈ (cidrPartition w t e).2.2, b.plen ≤ w := by
  intro b hb
  unfold cidrPartition at hb
  split at hb
  · rw [List.mem_singleton.1 hb]
    exact ht
  · split at hb
    · cases hb
    · split at hb
      · cases hb
      · exact ((partLoop_plen w (e.first w) e.plen he _ _ _).2 b (List.mem_reverse.1 hb)).2

end NV.C09L
