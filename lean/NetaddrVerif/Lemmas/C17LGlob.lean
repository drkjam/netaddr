/-
Lemmas/C17LGlob.lean — the glob grammar (spec side of C17) and the proof that `valid_glob`'s
two loops accept exactly it.
-/
import NetaddrVerif.Lemmas.C17LNum
import NetaddrVerif.Lemmas.MapM
namespace NV.C17
open NV NV.Glob

inductive Oct where
  | lit (n : Nat)
  | hyp (a b : Nat)
  | star
deriving DecidableEq, Repr

def Oct.lo : Oct → Nat
  | .lit n => n
  | .hyp a _ => a
  | .star => 0
def Oct.hi : Oct → Nat
  | .lit n => n
  | .hyp _ b => b
  | .star => 255
def Oct.isStar : Oct → Bool
  | .star => true
  | _ => false
def Oct.matches (o : Oct) (v : Nat) : Prop := o.lo ≤ v ∧ v ≤ o.hi
def Oct.WF : Oct → Prop
  | .lit n => n ≤ 255
  | .hyp a b => a < b ∧ b ≤ 255
  | .star => True

theorem Oct.WF.bounds : ∀ {o : Oct}, o.WF → o.lo ≤ o.hi ∧ o.hi < 256
  | .lit _, h => ⟨Nat.le_refl _, Nat.lt_succ_of_le h⟩
  | .hyp .., h => ⟨Nat.le_of_lt h.1, Nat.lt_succ_of_le h.2⟩
  | .star, _ => by decide

/-- GRAMMAR of one octet: `*`, a plain decimal numeral 0..255, or `x-y` with plain decimal
    `x < y ≤ 255` -/
def parseOct (t : List Char) : Option Oct :=
  if t = ['*'] then some .star
  else match t.splitOn '-' with
    | [x] => if plainNum x = true ∧ numVal x ≤ 255 then some (.lit (numVal x)) else none
    | [x, y] =>
      if plainNum x = true ∧ plainNum y = true ∧ numVal x < numVal y ∧ numVal y ≤ 255
      then some (.hyp (numVal x) (numVal y)) else none
    | _ => none

/-- literals, then at most one hyphenated octet, then only asterisks -/
def shapeOk : List Oct → Bool
  | [] => true
  | .lit _ :: r => shapeOk r
  | _ :: r => r.all Oct.isStar

/-- `List.mapM` in `Option` written as a structural recursion (`mapOpt_eq_mapM`): the grammar rests on nothing but
    its own text and evaluates by unfolding -/
def mapOpt {α β : Type} (f : α → Option β) : List α → Option (List β)
  | [] => some []
  | a :: l =>
    match f a with
    | none => none
    | some b =>
      match mapOpt f l with
      | none => none
      | some bs => some (b :: bs)

/-- GRAMMAR of a glob: four dot-separated octets of the right shape -/
def globParse (s : List Char) : Option (List Oct) :=
  match mapOpt parseOct (s.splitOn '.') with
  | some os => if os.length = 4 ∧ shapeOk os = true then some os else none
  | none => none

def GlobGrammar (s : List Char) : Prop := (globParse s).isSome = true

instance (s : List Char) : Decidable (GlobGrammar s) := by unfold GlobGrammar; infer_instance

theorem parseOct_plain {x : List Char} (hx : plainNum x = true) :
    parseOct x = if numVal x ≤ 255 then some (.lit (numVal x)) else none := by
  unfold parseOct
  rw [if_neg (plain_ne_star hx), List.splitOn_eq_singleton (plain_no_hyphen hx)]
  simp only [hx, true_and]

theorem parseOct_hyp {x y : List Char} (hx : plainNum x = true) (hy : plainNum y = true) :
    parseOct (x ++ '-' :: y) =
      if numVal x < numVal y ∧ numVal y ≤ 255 then some (.hyp (numVal x) (numVal y)) else none := by
  have hne : x ++ '-' :: y ≠ ['*'] := fun e => by
    have : '-' ∈ x ++ '-' :: y := List.mem_append_right _ (List.mem_cons_self ..)
    rw [e] at this
    exact absurd this (by decide)
  unfold parseOct
  rw [if_neg hne, splitOn_hyp hx hy]
  simp only [hx, hy, true_and]

theorem parseOct_inv {o : List Char} {oc : Oct} (h : parseOct o = some oc) :
    (o = ['*'] ∧ oc = .star) ∨ (plainNum o = true ∧ numVal o ≤ 255 ∧ oc = .lit (numVal o)) ∨
    ∃ x y, o = x ++ '-' :: y ∧ plainNum x = true ∧ plainNum y = true ∧ numVal x < numVal y ∧
      numVal y ≤ 255 ∧ oc = .hyp (numVal x) (numVal y) := by
  have hj := List.intercalate_splitOn (xs := o) '-'
  unfold parseOct at h
  split at h
  · next e => exact Or.inl ⟨e, (Option.some.inj h).symm⟩
  · split at h
    · next x hs =>
      rw [hs, List.intercalate_singleton] at hj
      subst hj
      split at h
      · next hc => exact Or.inr (Or.inl ⟨hc.1, hc.2, (Option.some.inj h).symm⟩)
      · cases h
    · next x y hs =>
      rw [hs] at hj
      split at h
      · next hc => exact Or.inr (Or.inr ⟨x, y, by rw [← hj]; simp, hc.1, hc.2.1, hc.2.2.1, hc.2.2.2, (Option.some.inj h).symm⟩)
      · cases h
    · cases h

theorem mapOpt_eq_mapM {α β : Type} (f : α → Option β) : ∀ l : List α, mapOpt f l = l.mapM f
  | [] => rfl
  | a :: l => by rw [mapOpt, mapM_opt_cons, mapOpt_eq_mapM f l]; rfl

theorem mapOpt_cons_some {α β : Type} {f : α → Option β} {a : α} {l : List α} {r : List β}
    (h : mapOpt f (a :: l) = some r) : ∃ b bs, f a = some b ∧ mapOpt f l = some bs ∧ r = b :: bs := by
  rw [mapOpt_eq_mapM] at h ⊢
  exact mapM_cons_some.1 h

theorem mapOpt_length {α β : Type} {f : α → Option β} {l : List α} {r : List β} (h : mapOpt f l = some r) :
    r.length = l.length :=
  mapM_length (mapOpt_eq_mapM f l ▸ h)

/-- state after an octet accepted in the initial state -/
def stOf : Oct → St
  | .lit _ => ⟨false, false⟩
  | .hyp _ _ => ⟨true, false⟩
  | .star => ⟨false, true⟩

/-- the body of `valid_glob`'s second loop on a parsed octet (`step_eq`) -/
def stepKind (st : St) : Oct → Option St
  | .star => some ⟨st.hyph, true⟩
  | oc => if st.hyph || st.ast then none else some (stOf oc)

/-- what the second loop accepts from a state; `locked`: a hyphen or an asterisk has been seen -/
def shapeFrom : (locked : Bool) → List Oct → Bool
  | true, os => os.all Oct.isStar
  | false, os => shapeOk os

theorem shapeFrom_step (st : St) (oc : Oct) (r : List Oct) :
    shapeFrom (st.hyph || st.ast) (oc :: r) =
      match stepKind st oc with
      | some st' => shapeFrom (st'.hyph || st'.ast) r
      | none => false := by
  obtain ⟨h, a⟩ := st
  cases oc <;> cases h <;> cases a <;> rfl

theorem numeralOk_cases {t : List Char} (h : numeralOk t = true) : t = ['*'] ∨ plainNum t = true := by
  rw [numeralOk_eq] at h
  split at h
  · next e => exact Or.inl (beq_iff_eq.1 e)
  · exact Or.inr h

theorem step_ff (o : List Char) (h1 : (o.splitOn '-').all numeralOk = true) :
    stepOctet ⟨false, false⟩ o = (parseOct o).map stOf := by
  -- every piece is `*` or a plain numeral (`numeralOk_cases`), on which `int()` is `numVal` (`pyInt_plain`)
  by_cases hm : '-' ∈ o
  · obtain ⟨x, y, r, hs⟩ := splitOn_of_mem hm
    have hne : o ≠ ['*'] := by intro e; subst e; revert hm; decide
    have hc : o.contains '-' = true := List.contains_iff_mem.2 hm
    rw [hs] at h1
    simp only [List.all_cons, Bool.and_eq_true] at h1
    obtain ⟨hx, hy, hr⟩ := h1
    unfold stepOctet parseOct
    simp only [hc, if_true, Bool.false_eq_true, if_false, hne, hs]
    cases r with
    | cons z r' =>
      cases hmm : (x :: y :: z :: r').mapM (Py.pyInt 10) with
      | none => rfl
      | some l =>
        match l, hmm with
        | [], _ => rfl
        | [_], _ => rfl
        | [_, _], hmm => nomatch mapM_length hmm
        | _ :: _ :: _ :: _, _ => rfl
    | nil =>
      rw [mapM_opt_cons, mapM_opt_cons, List.mapM_nil]
      rcases numeralOk_cases hx with ex | px
      · subst ex; simp [pyInt_star, plain_star]
      · rcases numeralOk_cases hy with ey | py
        · subst ey; simp [pyInt_star, plain_star, pyInt_plain x px]
        · simp only [pyInt_plain x px, pyInt_plain y py, px, py, true_and]
          by_cases hlt : numVal x < numVal y
          · by_cases hle : numVal y ≤ 255
            · have c1 : ¬ ((numVal x : Int) ≥ (numVal y : Int)) := by omega
              have c2 : (0 ≤ (numVal x : Int) ∧ (numVal x : Int) ≤ 254) := by omega
              have c3 : (1 ≤ (numVal y : Int) ∧ (numVal y : Int) ≤ 255) := by omega
              simp [c1, c2, c3, hlt, hle, stOf]
            · have c1 : ¬ ((numVal x : Int) ≥ (numVal y : Int)) := by omega
              have c3 : ¬ (1 ≤ (numVal y : Int) ∧ (numVal y : Int) ≤ 255) := by omega
              simp [c1, c3, hlt, hle]
          · have c1 : ((numVal x : Int) ≥ (numVal y : Int)) := by omega
            simp [c1, hlt]
  · have hs : o.splitOn '-' = [o] := List.splitOn_eq_singleton hm
    have hc := contains_false_of_not_mem hm
    rw [hs] at h1
    simp only [List.all_cons, List.all_nil, Bool.and_true] at h1
    unfold stepOctet parseOct
    simp only [hc, Bool.false_eq_true, if_false, hs]
    by_cases e : o = ['*']
    · subst e; simp [stOf]
    · have po : plainNum o = true := (numeralOk_cases h1).resolve_left e
      have e' : (o == ['*']) = false := by rw [beq_eq_false_iff_ne]; exact e
      simp only [e', Bool.false_eq_true, if_false, e, pyInt_plain o po, po, true_and]
      by_cases hle : numVal o ≤ 255
      · have : (0 ≤ (numVal o : Int) ∧ (numVal o : Int) ≤ 255) := by omega
        simp [this, hle, stOf]
      · simp [hle]; omega

theorem step_locked (st : St) (hst : (st.hyph || st.ast) = true) (o : List Char) :
    stepOctet st o = if o = ['*'] then some ⟨st.hyph, true⟩ else none := by
  unfold stepOctet
  by_cases e : o = ['*']
  · subst e
    simp
  · have e' : (o == ['*']) = false := by rw [beq_eq_false_iff_ne]; exact e
    simp only [e', e, Bool.false_eq_true, if_false]
    rcases Bool.or_eq_true_iff.1 hst with h | h
    · simp [h]
    · by_cases hc : o.contains '-' = true
      · simp only [hc, if_true, h]
        cases st.hyph <;> simp
      · simp only [hc, h]
        cases st.hyph <;> simp

theorem parse_firstloop (o : List Char) (oc : Oct) (h : parseOct o = some oc) :
    (o.splitOn '-').all numeralOk = true := by
  rcases parseOct_inv h with ⟨rfl, -⟩ | ⟨hp, -, -⟩ | ⟨x, y, rfl, hx, hy, -⟩
  · decide
  · rw [List.splitOn_eq_singleton (plain_no_hyphen hp)]
    simp [numeralOk_eq, hp]
  · rw [splitOn_hyp hx hy]
    simp [numeralOk_eq, hx, hy]

theorem parse_star_iff (o : List Char) : parseOct o = some .star ↔ o = ['*'] := by
  refine ⟨fun h => ?_, fun e => e ▸ rfl⟩
  rcases parseOct_inv h with ⟨e, -⟩ | ⟨-, -, e⟩ | ⟨_, _, -, -, -, -, -, e⟩
  · exact e
  · cases e
  · cases e

theorem step_eq (st : St) (o : List Char) (h1 : (o.splitOn '-').all numeralOk = true) :
    stepOctet st o = (parseOct o).bind (stepKind st) := by
  cases hl : st.hyph || st.ast with
  | true =>
    rw [step_locked st hl o]
    by_cases he : o = ['*']
    · subst he
      rfl
    · rw [if_neg he]
      cases hp : parseOct o with
      | none => rfl
      | some oc =>
        cases oc with
        | star => exact absurd ((parse_star_iff o).1 hp) he
        | lit n => exact (if_pos hl).symm
        | hyp a b => exact (if_pos hl).symm
  | false =>
    obtain ⟨h, a⟩ := st
    obtain ⟨rfl, rfl⟩ := Bool.or_eq_false_iff.1 hl
    rw [step_ff o h1]
    cases parseOct o with
    | none => rfl
    | some oc => cases oc <;> rfl

/-- the two loops of `valid_glob`, the second started in any state (for the induction) -/
theorem loops_eq : ∀ (octs : List (List Char)) (st : St),
    (octs.all (fun o => (o.splitOn '-').all numeralOk) && machine st octs) =
      match mapOpt parseOct octs with
      | some os => shapeFrom (st.hyph || st.ast) os
      | none => false
  | [], st => by cases h : st.hyph || st.ast <;> simp [machine, mapOpt, shapeFrom, shapeOk]
  | o :: r, st => by
    rw [List.all_cons, machine, mapOpt]
    cases hf : (o.splitOn '-').all numeralOk with
    | false =>
      -- an octet the first loop refuses does not parse
      cases hp : parseOct o with
      | none => rfl
      | some oc => exact absurd (parse_firstloop o oc hp) (by rw [hf]; decide)
    | true =>
      rw [step_eq st o hf, Bool.true_and]
      cases parseOct o with
      | none => exact Bool.and_false _
      | some oc =>
        have ih := loops_eq r
        have hs := shapeFrom_step st oc
        rw [Option.bind_some]
        cases hk : stepKind st oc with
        | none =>
          rw [hk] at hs
          cases mapOpt parseOct r with
          | none => exact Bool.and_false _
          | some os => exact (Bool.and_false _).trans (hs os).symm
        | some st' =>
          rw [hk] at hs
          rw [ih st']
          cases mapOpt parseOct r with
          | none => rfl
          | some os => exact (hs os).symm

theorem globParse_iff {s : List Char} {os : List Oct} : globParse s = some os ↔
    mapOpt parseOct (s.splitOn '.') = some os ∧ os.length = 4 ∧ shapeOk os = true := by
  unfold globParse
  cases mapOpt parseOct (s.splitOn '.') with
  | none => simp
  | some os' =>
    simp only [Option.some.injEq]
    constructor
    · intro h
      split at h
      · next hc => cases h; exact ⟨rfl, hc⟩
      · exact absurd h (by simp)
    · rintro ⟨rfl, hc⟩
      rw [if_pos hc]

theorem validGlob_eq (s : List Char) : validGlob s = (globParse s).isSome := by
  have e : validGlob s = (decide ((s.splitOn '.').length = 4) &&
      ((s.splitOn '.').all (fun o => (o.splitOn '-').all numeralOk) && machine ⟨false, false⟩ (s.splitOn '.'))) := by
    unfold validGlob
    dsimp only
    by_cases hl : (s.splitOn '.').length = 4
    · rw [if_neg (fun h => h hl), decide_eq_true hl, Bool.true_and]
      cases (s.splitOn '.').all (fun o => (o.splitOn '-').all numeralOk) <;> rfl
    · rw [if_pos hl, decide_eq_false hl, Bool.false_and]
  rw [e, loops_eq]
  unfold globParse
  cases hm : mapOpt parseOct (s.splitOn '.') with
  | none => exact Bool.and_false _
  | some os =>
    rw [← mapOpt_length hm]
    by_cases hl : os.length = 4 <;> cases hs : shapeOk os <;> simp [hl, hs, shapeFrom]

theorem validGlob_iff_parse (s : List Char) : validGlob s = true ↔ ∃ os, globParse s = some os := by
  rw [validGlob_eq, Option.isSome_iff_exists]

end NV.C17
