/-
Lemmas/C01LFbPrint.lean — netaddr's fallback printer (`FbSocket.ntop6`: `_compact_ipv6_tokens`
with its positions list, sort and scan, and the integer test for the dotted-quad tail) prints
exactly what the platform model (`Text6.ntop6`) prints, for every 128-bit value.
-/
import NetaddrVerif.Lemmas.C01L6
namespace NV.C01L
open NV NV.Text4 NV.Text6

/-- the token assembly of `_compact_ipv6_tokens` (blank tests on the new list) equals the
    positional assembly of the platform model, on token lists without empty tokens -/
theorem assemble_eq (toks : List (List Char)) (hne : ∀ t ∈ toks, t ≠ []) (b l : Nat) (hbl : b + l ≤ toks.length) :
    (let new := toks.take b ++ [[]] ++ toks.drop (b + l)
     let new := if new.head? == some [] then [] :: new else new
     if new.getLast? == some [] then new ++ [[]] else new) =
    (if b == 0 then [[]] else []) ++ toks.take b ++ [[]] ++ toks.drop (b + l)
      ++ (if b + l == toks.length then [[]] else []) := by
  have hhead : ((toks.take b ++ [[]] ++ toks.drop (b + l)).head? == some []) = (b == 0) := by
    cases b with
    | zero => simp
    | succ b =>
      cases toks with
      | nil => simp at hbl
      | cons t0 r =>
        have : t0 ≠ [] := hne t0 (by simp)
        simp [this]
  have hlast : ∀ pre : List (List Char),
      ((pre ++ [[]] ++ toks.drop (b + l)).getLast? == some []) = (b + l == toks.length) := by
    intro pre
    rcases List.eq_nil_or_concat (toks.drop (b + l)) with h | ⟨L, t, h⟩
    · have : b + l = toks.length := by
        have := congrArg List.length h
        simp at this; omega
      simp [this]
    · rw [List.concat_eq_append] at h
      have hmem : t ∈ toks := List.mem_of_mem_drop (by rw [h]; simp)
      have ht : t ≠ [] := hne t hmem
      have hlt : ¬ (b + l = toks.length) := by
        intro e
        have := congrArg List.length h
        simp [e] at this
      rw [h, ← List.append_assoc, List.getLast?_concat]
      have e1 : (some t == some ([] : List Char)) = false := by
        cases t with
        | nil => exact absurd rfl ht
        | cons _ _ => rfl
      have e2 : (b + l == toks.length) = false := beq_eq_false_iff_ne.mpr hlt
      rw [e1, e2]
  dsimp only
  rw [hhead]
  cases hb : (b == 0) with
  | true =>
    simp only [if_true]
    have := hlast ([] :: toks.take b)
    simp only [List.cons_append] at this ⊢
    rw [this]
    cases (b + l == toks.length) <;> simp
  | false =>
    simp only [Bool.false_eq_true, if_false, List.nil_append]
    rw [hlast]
    cases (b + l == toks.length) <;> simp

theorem compactTokens_eq (toks : List (List Char)) (hne : ∀ t ∈ toks, t ≠ []) (best : Option (Nat × Nat))
    (hbest : FbSocket.bestPosition (FbSocket.zeroRuns (toks.map (· == ['0'])) 0 none 0 []) = best.map (fun p => (p.2, p.1)))
    (hrun : ∀ b l, best = some (b, l) → b + l ≤ toks.length) :
    FbSocket.compactTokens toks =
      match best with
      | none => toks
      | some (b, l) => (if b == 0 then [[]] else []) ++ toks.take b ++ [[]] ++ toks.drop (b + l)
          ++ (if b + l == toks.length then [[]] else []) := by
  unfold FbSocket.compactTokens
  simp only [hbest]
  cases best with
  | none => rfl
  | some bl =>
    obtain ⟨b, l⟩ := bl
    simp only [Option.map_some]
    exact assemble_eq toks hne b l (hrun b l rfl)

theorem flags_hex (ws : List Nat) : (ws.map hex).map (· == ['0']) = ws.map (· == 0) := by
  rw [List.map_map]
  apply List.map_congr_left
  intro w _
  exact hex_eq_zero_iff w

theorem eq_iff_low16 (x c : Nat) (hc : c < 65536) : x = c ↔ x >>> 16 = 0 ∧ x % 65536 = c := by
  rw [Nat.shiftRight_eq_div_pow]; omega

theorem hi_eq_iff (v c : Nat) (hv : v < 2 ^ 128) (hc : c < 65536) :
    v >>> 32 = c ↔ (v >>> 112) % 65536 = 0 ∧ (v >>> 96) % 65536 = 0 ∧ (v >>> 80) % 65536 = 0 ∧
      (v >>> 64) % 65536 = 0 ∧ (v >>> 48) % 65536 = 0 ∧ (v >>> 32) % 65536 = c := by
  have htop : v >>> 128 = 0 := by rw [Nat.shiftRight_eq_div_pow]; exact Nat.div_eq_of_lt hv
  rw [eq_iff_low16 (v >>> 32) c hc, eq_iff_low16 (v >>> 32 >>> 16) 0 (by decide),
    eq_iff_low16 (v >>> 32 >>> 16 >>> 16) 0 (by decide), eq_iff_low16 (v >>> 32 >>> 16 >>> 16 >>> 16) 0 (by decide),
    eq_iff_low16 (v >>> 32 >>> 16 >>> 16 >>> 16 >>> 16) 0 (by decide),
    eq_iff_low16 (v >>> 32 >>> 16 >>> 16 >>> 16 >>> 16 >>> 16) 0 (by decide)]
  simp only [← Nat.shiftRight_add, Nat.reduceAdd, htop, true_and, and_assoc]

/-- fbsocket's integer test for an IPv4-compatible address, on the bits -/
theorem low32_iff (v : Nat) : (0xffff < v ∧ v ≤ 0xffffffff) ↔ (v >>> 32 = 0 ∧ (v >>> 16) % 65536 ≠ 0) := by
  simp only [Nat.shiftRight_eq_div_pow]; omega

theorem v4Tail_eq_true (ws : List Nat) (best : Option (Nat × Nat)) :
    v4Tail ws best = true ↔ best = some (0, 6) ∨ (best = some (0, 5) ∧ ws.getD 5 0 = 0xffff) := by
  cases best with
  | none => simp [v4Tail]
  | some bl =>
    obtain ⟨b, l⟩ := bl
    rw [v4Tail_some]
    simp only [Option.some.injEq, Prod.mk.injEq]
    constructor
    · rintro ⟨rfl, rfl | ⟨rfl, h⟩⟩
      · exact Or.inl ⟨rfl, rfl⟩
      · exact Or.inr ⟨⟨rfl, rfl⟩, h⟩
    · rintro (⟨rfl, rfl⟩ | ⟨⟨rfl, rfl⟩, h⟩)
      · exact ⟨rfl, Or.inl rfl⟩
      · exact ⟨rfl, Or.inr ⟨rfl, h⟩⟩

theorem v4Tail_iff (w0 w1 w2 w3 w4 w5 w6 w7 : Nat) :
    v4Tail [w0, w1, w2, w3, w4, w5, w6, w7]
        (longestRun [w0 == 0, w1 == 0, w2 == 0, w3 == 0, w4 == 0, w5 == 0, w6 == 0, w7 == 0]) = true ↔
      (w0 = 0 ∧ w1 = 0 ∧ w2 = 0 ∧ w3 = 0 ∧ w4 = 0 ∧ w5 = 0 ∧ w6 ≠ 0) ∨
      (w0 = 0 ∧ w1 = 0 ∧ w2 = 0 ∧ w3 = 0 ∧ w4 = 0 ∧ w5 = 65535) := by
  obtain ⟨_, _, h6, h5, _⟩ := scan8 (w0 == 0) (w1 == 0) (w2 == 0) (w3 == 0) (w4 == 0) (w5 == 0) (w6 == 0) (w7 == 0)
  rw [Bool.eq_iff_iff] at h6 h5
  simp only [Bool.and_eq_true, Bool.not_eq_true', beq_iff_eq, beq_eq_false_iff_ne, and_assoc] at h6 h5
  rw [v4Tail_eq_true, h6, h5]
  apply or_congr_right
  constructor
  · rintro ⟨⟨h0, h1, h2, h3, h4, _⟩, h⟩
    exact ⟨h0, h1, h2, h3, h4, h⟩
  · rintro ⟨h0, h1, h2, h3, h4, h⟩
    exact ⟨⟨h0, h1, h2, h3, h4, fun e => by rw [e] at h; cases h⟩, h⟩

/-- fbsocket's integer test for the dotted-quad tail is the platform's test on the chosen run -/
theorem tail_iff (v : Nat) (hv : v < 2 ^ 128) :
    ((0xffff < v ∧ v ≤ 0xffffffff) ∨ v >>> 32 = 0xffff) ↔
      v4Tail (words v) (longestRun ((words v).map (· == 0))) = true := by
  rw [low32_iff, hi_eq_iff v 0 hv (by decide), hi_eq_iff v 0xffff hv (by decide)]
  simp only [and_assoc, words, List.map_cons, List.map_nil]
  exact (v4Tail_iff _ _ _ _ _ _ _ _).symm

/-- `fbsocket.inet_ntop(AF_INET6, ·)` = `socket.inet_ntop(AF_INET6, ·)` (models), all values -/
theorem fb_ntop6_eq (v : Nat) (hv : v < 2 ^ 128) : FbSocket.ntop6 v = Text6.ntop6 v := by
  have hx : v % 4294967296 < 2 ^ 32 := Nat.mod_lt _ (by decide)
  have hlow : (v >>> 16) % 65536 * 65536 + v % 65536 = v % 4294967296 := by
    rw [← (words_v4 v).1, ← (words_v4 v).2]
    exact Nat.div_add_mod' _ _
  -- the dotted-quad tail: fbsocket re-reads the last two hex tokens
  have hq : FbSocket.ntoa (ofBase 16 (((words v).map hex).getD 6 []) * 65536 +
      ofBase 16 (((words v).map hex).getD 7 [])) = ntoa (v % 4294967296) := by
    simp only [words, List.map_cons, List.map_nil, List.getD_cons_succ, List.getD_cons_zero]
    rw [hex, hex, ofBase_toDigits (by decide) (by decide), ofBase_toDigits (by decide) (by decide), hlow, fb_ntoa_eq _ hx]
  have hne8 : ∀ t ∈ (words v).map hex, t ≠ [] := fun t ht => by
    obtain ⟨n, _, rfl⟩ := List.mem_map.mp ht
    exact hex_ne_nil n
  have hne7 : ∀ t ∈ ((words v).map hex).take 6 ++ [ntoa (v % 4294967296)], t ≠ [] := by
    intro t ht
    rcases List.mem_append.mp ht with h | h
    · exact hne8 t (List.mem_of_mem_take h)
    · rw [List.mem_singleton.mp h]; exact ntoa_ne_nil _
  -- fbsocket's run search on the eight tokens, and on the seven left beside a dotted quad
  have hfb8 : FbSocket.bestPosition (FbSocket.zeroRuns ((words v).map (· == 0)) 0 none 0 []) =
      (longestRun ((words v).map (· == 0))).map (fun p => (p.2, p.1)) := (scan8 _ _ _ _ _ _ _ _).2.1
  have hfb7 : (longestRun ((words v).map (· == 0)) == some (0, 6) ||
        longestRun ((words v).map (· == 0)) == some (0, 5)) = true →
      FbSocket.bestPosition (FbSocket.zeroRuns (((words v).map (· == 0)).take 6 ++ [false]) 0 none 0 []) =
        (longestRun ((words v).map (· == 0))).map (fun p => (p.2, p.1)) := (scan8 _ _ _ _ _ _ _ _).2.2.2.2
  have hrun : ∀ b l, longestRun ((words v).map (· == 0)) = some (b, l) → b + l ≤ 8 :=
    fun b l h => (run_facts (words v) rfl b l h).2.1
  unfold FbSocket.ntop6 Text6.ntop6
  dsimp only
  congr 1
  -- fbsocket.py has its own `words` and `hex`; the model transcribes them, and they are `Text6`'s verbatim
  rw [show FbSocket.words v = words v from rfl, show FbSocket.hex = hex from rfl, hq]
  simp only [tail_iff v hv]
  generalize longestRun ((words v).map (· == 0)) = best at *
  by_cases htail : v4Tail (words v) best = true
  · obtain ⟨b, l, rfl⟩ : ∃ b l, best = some (b, l) := by
      cases best with
      | none => exact absurd htail (by simp [v4Tail])
      | some p => exact ⟨p.1, p.2, rfl⟩
    obtain ⟨rfl, hl⟩ := (v4Tail_some _ _ _).mp htail
    have hl' : l = 6 ∨ l = 5 := by omega
    simp only [ntop6Toks, htail, if_true]
    rw [compactTokens_eq _ hne7 (some (0, l)) ?_ (by intro b l' h; cases h; simp [length_words]; omega)]
    · rcases hl' with rfl | rfl <;> simp [length_words]
    · rw [List.map_append, ← List.map_take, flags_hex, List.map_cons, List.map_nil, ntoa_ne_zero]
      exact hfb7 (by rcases hl' with rfl | rfl <;> rfl)
  · simp only [ntop6Toks, htail, Bool.false_eq_true, if_false]
    rw [compactTokens_eq _ hne8 best (by rw [flags_hex]; exact hfb8) (by simpa [length_words] using hrun)]
    cases best with
    | none => rfl
    | some bl => simp [length_words]

end NV.C01L
