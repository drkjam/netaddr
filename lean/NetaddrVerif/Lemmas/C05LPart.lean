import NetaddrVerif.Lemmas.C09L
/-! What `cidr_partition` returns when the loop runs: `Run`, the shape of `before` and `after`;
    `loop_run` for an aligned target around an aligned block of longer prefix (the nested case of
    C09), and its instance `cidr_partition(target, (x, width))` (the two trims of `iprange_to_cidrs`). -/
namespace NV.C05L
open NV Blk

/-- the block view of an emitted `(value, prefixlen)` pair at width `w` -/
def toBlk (w : Nat) (b : Pfx) : Blk := ⟨b.val, w - b.plen⟩

theorem map_toBlk (w : Nat) (l : List Pfx) : l.map (toBlk w) = C09L.blks w l := rfl

theorem partLoop_acc {w ef ep : Nat} (hep : ep ≤ w) (np iL iU : Nat) (l r : List Pfx) :
    partLoop w ef ep np iL iU l r =
      (l ++ (partLoop w ef ep np iL iU [] []).1, r ++ (partLoop w ef ep np iL iU [] []).2) := by
  generalize hn : ep + 1 - np = n
  induction n generalizing np iL iU l r with
  | zero =>
    have hd : ep < np := Nat.lt_of_succ_le (Nat.le_of_sub_eq_zero hn)
    rw [partLoop_done hd, partLoop_done hd, List.append_nil, List.append_nil]
  | succ n ih =>
    have hle : np ≤ ep := Nat.le_of_lt_succ (Nat.lt_of_sub_eq_succ hn)
    have hn' : ep + 1 - (np + 1) = n := by rw [Nat.sub_succ, hn]; rfl
    rw [partLoop_step hep hle iL iU l r, partLoop_step hep hle iL iU [] []]
    split
    · rw [ih _ _ _ (l ++ _) r hn', ih _ _ _ ([] ++ _) [] hn', List.nil_append, List.nil_append, List.append_assoc]
    · rw [ih _ _ _ l (r ++ _) hn', ih _ _ _ [] ([] ++ _) hn', List.nil_append, List.nil_append, List.append_assoc]

/-- `l` is an ascending run of aligned blocks of pairwise distinct sizes below `2^K`, with
    prefix lengths inside the width, covering exactly `[lo, hi1)` -/
structure Run (w K : Nat) (l : List Pfx) (lo hi1 : Nat) : Prop where
  al : ∀ b ∈ l, alignedN w b
  plen : ∀ b ∈ l, b.plen ≤ w ∧ w - b.plen < K
  asc : l.Pairwise (fun b c => b.val + 2 ^ (w - b.plen) ≤ c.val)
  distinct : l.Pairwise (fun b c => b.plen ≠ c.plen)
  den : ∀ a, lden w l a ↔ lo ≤ a ∧ a < hi1

theorem run_nil (w K lo : Nat) : Run w K [] lo lo :=
  ⟨by simp, by simp, List.Pairwise.nil, List.Pairwise.nil, lden_nil_iff w lo⟩

theorem Run.canon {w K : Nat} {l : List Pfx} {lo hi1 : Nat} (h : Run w K l lo hi1) :
    Canon (l.map (toBlk w)) := by
  apply canon_of_asc
  · intro b hb
    obtain ⟨p, hp, rfl⟩ := List.mem_map.1 hb
    exact h.al p hp
  · exact List.pairwise_map.2 h.asc
  · refine nosib_of_distinct (List.pairwise_map.2 (h.distinct.imp_of_mem fun {b c} hb hc hne => ?_))
    have := (h.plen b hb).1
    have := (h.plen c hc).1
    show w - b.plen ≠ w - c.plen
    omega

theorem Run.bounds {w K : Nat} {l : List Pfx} {lo hi1 : Nat} (h : Run w K l lo hi1) (b : Pfx) (hb : b ∈ l) :
    lo ≤ b.val ∧ b.val + 2 ^ (w - b.plen) ≤ hi1 := lden_bounds (fun a => (h.den a).1) hb

theorem Run.ne_nil {w K : Nat} {l : List Pfx} {lo hi1 : Nat} (h : Run w K l lo hi1) (hlt : lo < hi1) : l ≠ [] :=
  fun e => lden_nil w lo (e ▸ (h.den lo).2 ⟨Nat.le_refl _, hlt⟩)

/-- The halving loop on an aligned target block `[tv, tv + 2^(w-tp))` that contains the aligned
    block `[ef, ef + 2^(w-ep))` of longer prefix: `left` is the run from the start of the target
    to `ef`, `right` reversed the run from the end of the excluded block to the end of the target. -/
theorem loop_run (w ef ep tv tp : Nat) (hep : ep ≤ w) (htp : tp < ep) (hal : ef % 2 ^ (w - ep) = 0)
    (halt : tv % 2 ^ (w - tp) = 0) (hlo : tv ≤ ef) (hhi : ef + 2 ^ (w - ep) ≤ tv + 2 ^ (w - tp)) :
    Run w (w - tp) (partLoop w ef ep (tp + 1) tv (tv + 2 ^ (w - (tp + 1))) [] []).1 tv ef ∧
    Run w (w - tp) (partLoop w ef ep (tp + 1) tv (tv + 2 ^ (w - (tp + 1))) [] []).2.reverse
      (ef + 2 ^ (w - ep)) (tv + 2 ^ (w - tp)) := by
  have hnw : tp + 1 ≤ w := Nat.le_trans htp hep
  have hnp : tp + 1 ≤ ep + 1 := Nat.le_succ_of_le htp
  rw [pow_half hnw] at halt hhi ⊢
  -- `_`, `rfl` and `Nat.le_add_left 1 tp` answer hypotheses (`fuel`, its equation, `1 ≤ np`) the two statements carry without using
  have hspec := partLoop_spec w ef ep tv (tv + 2 * 2 ^ (w - (tp + 1))) hep hal _ (tp + 1) tv [] [] rfl
    (Nat.le_add_left 1 tp) hnp hnw halt hlo hhi (Nat.le_refl _) (Nat.le_refl _)
    (lden_nil_iff w tv) (lden_nil_iff w _)
  have hstruct := partLoop_struct w ef ep hep _ (tp + 1) tv [] [] rfl (Nat.le_add_left 1 tp) hnp hnw halt
    ⟨by simp, List.Pairwise.nil⟩ ⟨by simp, List.Pairwise.nil⟩ (by simp) (by simp)
  have hplen := C09L.partLoop_plen w ef ep hep (tp + 1) tv (tv + 2 ^ (w - (tp + 1)))
  generalize partLoop w ef ep (tp + 1) tv (tv + 2 ^ (w - (tp + 1))) [] [] = lr at *
  obtain ⟨hL, hR⟩ := hstruct
  have hK : ∀ b : Pfx, tp + 1 ≤ b.plen ∧ b.plen ≤ w → b.plen ≤ w ∧ w - b.plen < w - tp :=
    fun b h => ⟨h.2, by omega⟩
  constructor
  · exact ⟨hL.1, fun b hb => hK b (hplen.1 b hb), hL.2.imp (fun {b c} h => h.1),
      hL.2.imp (fun {b c} h => Nat.ne_of_lt h.2), hspec.1⟩
  · refine ⟨fun b hb => hR.1 b (List.mem_reverse.1 hb), fun b hb => hK b (hplen.2 b (List.mem_reverse.1 hb)),
      List.pairwise_reverse.2 (hR.2.imp (fun {b c} h => h.1)),
      List.pairwise_reverse.2 (hR.2.imp (fun {b c} h => Nat.ne_of_gt h.2)), fun a => ?_⟩
    rw [lden_reverse, hspec.2 a]

theorem cidrPartition_host (w tv tp x : Nat) (htp : tp < w) (hal : tv % 2 ^ (w - tp) = 0)
    (hfit : tv + 2 ^ (w - tp) ≤ 2 ^ w) (h1 : tv ≤ x) (h2 : x < tv + 2 ^ (w - tp)) :
    cidrPartition w ⟨tv, tp⟩ ⟨x, w⟩ =
      ((partLoop w x w (tp + 1) tv (tv + 2 ^ (w - (tp + 1))) [] []).1, [⟨x, w⟩],
       (partLoop w x w (tp + 1) tv (tv + 2 ^ (w - (tp + 1))) [] []).2.reverse) := by
  have hp := Nat.two_pow_pos (w - tp)
  have hft : Pfx.first w ⟨tv, tp⟩ = tv := netFirst_of_aligned w tv tp (by omega) hal
  have hlt : Pfx.last w ⟨tv, tp⟩ = tv + (2 ^ (w - tp) - 1) := netLast_of_aligned w tv tp hal
  have hfe : Pfx.first w ⟨x, w⟩ = x := netFirst_full w x (by omega)
  have hle : Pfx.last w ⟨x, w⟩ = x := netLast_full w x
  rw [C09L.cidrPartition_inside w ⟨tv, tp⟩ ⟨x, w⟩ (by rw [hle, hft]; omega) (by rw [hlt, hfe]; omega) htp, hft, hfe]

/-- `cidr_partition(target, (x, width))` for an aligned target strictly larger than one address
    that contains `x`: the `before` list covers `[target.first, x)`, the `after` list `(x, target.last]` -/
theorem part_spec (w tv tp x : Nat) (htp : tp < w) (hal : tv % 2 ^ (w - tp) = 0)
    (hfit : tv + 2 ^ (w - tp) ≤ 2 ^ w) (h1 : tv ≤ x) (h2 : x < tv + 2 ^ (w - tp)) :
    Run w (w - tp) (cidrPartition w ⟨tv, tp⟩ ⟨x, w⟩).1 tv x ∧
    Run w (w - tp) (cidrPartition w ⟨tv, tp⟩ ⟨x, w⟩).2.2 (x + 1) (tv + 2 ^ (w - tp)) := by
  rw [cidrPartition_host w tv tp x htp hal hfit h1 h2]
  have := loop_run w x w tv tp (Nat.le_refl w) htp (by rw [Nat.sub_self]; exact Nat.mod_one x) hal h1
    (by rw [Nat.sub_self]; exact h2)
  rwa [Nat.sub_self] at this

/-- the `after` list when `x` lies in the lower half: it ends with the upper half, and what
    precedes it covers `(x, mid)` -/
theorem part_split (w tv tp x : Nat) (htp : tp < w) (hal : tv % 2 ^ (w - tp) = 0)
    (hfit : tv + 2 ^ (w - tp) ≤ 2 ^ w) (h1 : tv ≤ x) (h2 : x < tv + 2 ^ (w - (tp + 1))) :
    ∃ rest, (cidrPartition w ⟨tv, tp⟩ ⟨x, w⟩).2.2 = rest ++ [⟨tv + 2 ^ (w - (tp + 1)), tp + 1⟩] ∧
      Run w (w - (tp + 1)) rest (x + 1) (tv + 2 ^ (w - (tp + 1))) := by
  have hhalf := pow_half htp
  rw [cidrPartition_host w tv tp x htp hal hfit h1 (by omega)]
  -- one pass: the upper half goes to `right`; the rest of the loop runs on the lower half
  rw [partLoop_step (Nat.le_refl w) htp, if_neg (Nat.not_le_of_lt h2), partLoop_acc (Nat.le_refl w)]
  refine ⟨_, List.reverse_append, ?_⟩
  rcases Nat.lt_or_ge (tp + 1) w with h | h
  · have hal' : tv % 2 ^ (w - (tp + 1)) = 0 := mod_pow_of_le hal (Nat.sub_le_sub_left (Nat.le_succ tp) w)
    have := (loop_run w x w tv (tp + 1) (Nat.le_refl w) h (by rw [Nat.sub_self]; exact Nat.mod_one x) hal' h1
      (by rw [Nat.sub_self]; exact h2)).2
    rwa [Nat.sub_self] at this
  · rw [partLoop_done (Nat.lt_succ_of_le h)]
    have e : w - (tp + 1) = 0 := Nat.sub_eq_zero_of_le h
    rw [e] at h2 ⊢
    obtain rfl : x = tv := by omega
    exact run_nil w 0 (x + 1)

end NV.C05L
