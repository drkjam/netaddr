/-
Lemmas/IPSetLine.lean — both families on one number line (`lin`): the invariant says exactly
that the keys, placed on the line, form one canonical block set; a result known on the line is
canonical (`inv_of_shrink`) and reads per family (`denS_of_line`); what `iter_cidrs()` shows is
a canonical list, unique for its denotation (C06); the Boolean tests of the
sorted sweeps read on the line (C07).
-/
import NetaddrVerif.Lemmas.IPSetCompact
import NetaddrVerif.Lemmas.TupleOrder
import NetaddrVerif.Lemmas.Inter
namespace NV.IPSet
open NV NV.Blk

/-- offset that places the IPv6 space after the IPv4 space on one number line: beyond every IPv4
    address, and a multiple not only of every block size (`2^128` would do for that) but of twice
    every block size, which is what keeps sibling pairs sibling pairs (`lin_sib`): hence `2^129` -/
def off (ver : Nat) : Nat := if ver = 6 then 2 ^ 129 else 0

def lin (n : Net) : Blk := ⟨off n.ver + n.first, width n.ver - n.plen⟩

theorem off_mod (ver k : Nat) (hk : k ≤ 129) : off ver % 2 ^ k = 0 := by
  unfold off
  split
  · have : (2:Nat) ^ 129 = 2 ^ k * 2 ^ (129 - k) := by rw [← Nat.pow_add]; congr 1; omega
    rw [this]; exact Nat.mul_mod_right _ _
  · simp

/-- positions on the line are ordered by family first, then by address: the one place where
    the order on the line is computed.  `≤ 2^128`, not `<`: `lin_sib` compares
    the *end* of a block, which for the whole IPv6 space is `2^128` itself -/
theorem off_lex (u v x y : Nat) (hu : u = 4 ∨ u = 6) (hv : v = 4 ∨ v = 6)
    (hx : x ≤ 2 ^ 128) (hy : y ≤ 2 ^ 128) :
    off u + x < off v + y ↔ u < v ∨ (u = v ∧ x < y) := by
  have hp : (2:Nat) ^ 129 = 2 * 2 ^ 128 := by rw [Nat.pow_succ, Nat.mul_comm]
  unfold off
  rcases hu with rfl | rfl <;> rcases hv with rfl | rfl <;> simp <;> omega

theorem off_le {u v x y : Nat} (hu : u = 4 ∨ u = 6) (hv : v = 4 ∨ v = 6)
    (hx : x ≤ 2 ^ 128) (hy : y ≤ 2 ^ 128) (h : off u + x ≤ off v + y) : u ≤ v :=
  Nat.le_of_not_lt fun hlt => Nat.not_lt.2 h ((off_lex v u y x hv hu hy hx).2 (Or.inl hlt))

theorem off_inj {u v x y : Nat} (hu : u = 4 ∨ u = 6) (hv : v = 4 ∨ v = 6)
    (hx : x ≤ 2 ^ 128) (hy : y ≤ 2 ^ 128) (h : off u + x = off v + y) : u = v ∧ x = y := by
  have e : u = v := Nat.le_antisymm (off_le hu hv hx hy (Nat.le_of_eq h)) (off_le hv hu hy hx (Nat.le_of_eq h.symm))
  rw [e] at h
  exact ⟨e, Nat.add_left_cancel h⟩

theorem width_le (ver : Nat) (h : ver = 4 ∨ ver = 6) : width ver ≤ 128 := by
  rcases h with e | e <;> simp [width, e]

theorem last_lt_128 (n : Net) (h : n.WF) : n.last < 2 ^ 128 :=
  Nat.lt_of_lt_of_le (last_lt n h) (Nat.pow_le_pow_right (by decide) (width_le _ h.1))

/-- first and last address of an in-range network as the ordering lemmas want them -/
theorem le_128 (n : Net) (h : n.WF) : n.first ≤ 2 ^ 128 ∧ n.last ≤ 2 ^ 128 :=
  have := Nat.le_of_lt (last_lt_128 n h)
  ⟨Nat.le_trans (first_le_last n) this, this⟩

theorem lin_aligned (n : Net) (h : n.WF) : (lin n).aligned := by
  show (off n.ver + n.first) % 2 ^ (width n.ver - n.plen) = 0
  have h1 := off_mod n.ver (width n.ver - n.plen) (by have := width_le _ h.1; omega)
  have h2 : n.first % 2 ^ (width n.ver - n.plen) = 0 := blk_aligned n h
  rw [Nat.add_mod, h1, h2]; simp

theorem lin_end (n : Net) (h : n.WF) : (lin n).base + 2 ^ (lin n).k = off n.ver + n.last + 1 := by
  show off n.ver + n.first + 2 ^ (width n.ver - n.plen) = _
  have := last_eq n h; have := Nat.two_pow_pos (width n.ver - n.plen); omega

theorem lin_mem (n : Net) (h : n.WF) (x : Nat) :
    (lin n).mem x ↔ off n.ver + n.first ≤ x ∧ x ≤ off n.ver + n.last := by
  show off n.ver + n.first ≤ x ∧ x < (lin n).base + 2 ^ (lin n).k ↔ _
  rw [lin_end n h]; omega

theorem lin_mem_ver (a b : Net) (ha : a.WF) (hb : b.WF) (x : Nat) (h1 : (lin a).mem x) (h2 : (lin b).mem x) :
    a.ver = b.ver := by
  rw [lin_mem a ha] at h1; rw [lin_mem b hb] at h2
  have ka := le_128 a ha; have kb := le_128 b hb
  exact Nat.le_antisymm (off_le ha.1 hb.1 ka.1 kb.2 (Nat.le_trans h1.1 h2.2))
    (off_le hb.1 ha.1 kb.1 ka.2 (Nat.le_trans h2.1 h1.2))

theorem lin_mem_off (n : Net) (h : n.WF) (y : Nat) : (lin n).mem (off n.ver + y) ↔ (blk n).mem y := by
  rw [lin_mem n h, blk_mem n h]; omega

theorem lin_mem_shift (n : Net) (x : Nat) (hx : (lin n).mem x) : ∃ y, x = off n.ver + y :=
  ⟨x - off n.ver, (Nat.add_sub_cancel' (Nat.le_trans (Nat.le_add_right _ _) hx.1)).symm⟩

theorem lin_eq_iff (a b : Net) (ha : a.WF) (hb : b.WF) : lin a = lin b ↔ a.ver = b.ver ∧ blk a = blk b := by
  unfold lin blk
  simp only [Blk.mk.injEq]
  constructor
  · rintro ⟨e1, e2⟩
    obtain ⟨hv, hf⟩ := off_inj ha.1 hb.1 (le_128 a ha).1 (le_128 b hb).1 e1
    exact ⟨hv, hf, e2⟩
  · rintro ⟨hv, e1, e2⟩
    exact ⟨by rw [hv, e1], e2⟩

theorem lin_disj (a b : Net) (ha : a.WF) (hb : b.WF) :
    (lin a).disj (lin b) ↔ (a.ver = b.ver → (blk a).disj (blk b)) := by
  constructor
  · intro h hv y ⟨h1, h2⟩
    refine h (off a.ver + y) ⟨(lin_mem_off a ha y).2 h1, ?_⟩
    rw [hv]; exact (lin_mem_off b hb y).2 h2
  · intro h x ⟨h1, h2⟩
    have hv := lin_mem_ver a b ha hb x h1 h2
    obtain ⟨y, rfl⟩ := lin_mem_shift a x h1
    refine h hv y ⟨(lin_mem_off a ha y).1 h1, (lin_mem_off b hb y).1 ?_⟩
    rw [← hv]; exact h2

theorem lin_sub (a b : Net) (ha : a.WF) (hb : b.WF) :
    (lin a).sub (lin b) ↔ a.ver = b.ver ∧ (blk a).sub (blk b) := by
  constructor
  · intro h
    have hv := lin_mem_ver a b ha hb _ (mem_base _) (h _ (mem_base _))
    refine ⟨hv, fun y hy => ?_⟩
    have := h _ ((lin_mem_off a ha y).2 hy)
    rw [hv] at this
    exact (lin_mem_off b hb y).1 this
  · rintro ⟨hv, h⟩ x hx
    obtain ⟨y, rfl⟩ := lin_mem_shift a x hx
    rw [hv]; exact (lin_mem_off b hb y).2 (h y ((lin_mem_off a ha y).1 hx))

theorem lin_sib (a b : Net) (ha : a.WF) (hb : b.WF) :
    (lin a).sib (lin b) ↔ a.ver = b.ver ∧ (blk a).sib (blk b) := by
  have h1 := off_mod a.ver (width a.ver - a.plen + 1) (by have := width_le _ ha.1; omega)
  have hm : (off a.ver + a.first) % 2 ^ (width a.ver - a.plen + 1) = a.first % 2 ^ (width a.ver - a.plen + 1) := by
    rw [Nat.add_mod, h1, Nat.zero_add, Nat.mod_mod]
  show (width a.ver - a.plen = width b.ver - b.plen ∧
      (off a.ver + a.first) % 2 ^ (width a.ver - a.plen + 1) = 0 ∧
      off b.ver + b.first = off a.ver + a.first + 2 ^ (width a.ver - a.plen)) ↔
    a.ver = b.ver ∧ width a.ver - a.plen = width b.ver - b.plen ∧
      a.first % 2 ^ (width a.ver - a.plen + 1) = 0 ∧ b.first = a.first + 2 ^ (width a.ver - a.plen)
  rw [hm]
  constructor
  · rintro ⟨e1, e2, e3⟩
    have ka := last_lt_128 a ha; have kb := last_lt_128 b hb
    have la := last_eq a ha; have lb := first_le_last b
    have := Nat.two_pow_pos (width a.ver - a.plen)
    obtain ⟨hv, hf⟩ := off_inj hb.1 ha.1 (x := b.first) (y := a.first + 2 ^ (width a.ver - a.plen))
      (by omega) (by omega) (by omega)
    exact ⟨hv.symm, e1, e2, hf⟩
  · rintro ⟨hv, e1, e2, e3⟩
    exact ⟨e1, e2, by rw [← hv, e3]; omega⟩

theorem canonset_lin (s : St) (hw : ∀ n ∈ s, n.WF) (hcs : ∀ ver, CanonSet (fam ver s)) : CanonSet (s.map lin) := by
  refine ⟨?_, ?_, ?_⟩
  · intro b hb
    obtain ⟨n, hn, rfl⟩ := List.mem_map.1 hb
    exact lin_aligned n (hw n hn)
  · intro b hb c hc hne
    obtain ⟨n, hn, rfl⟩ := List.mem_map.1 hb
    obtain ⟨m, hm, rfl⟩ := List.mem_map.1 hc
    exact (lin_disj n m (hw n hn) (hw m hm)).2 fun hv =>
      (hcs n.ver).dj _ (mem_fam.2 ⟨n, hn, rfl, rfl⟩) _ (mem_fam.2 ⟨m, hm, hv.symm, rfl⟩)
        fun e => hne ((lin_eq_iff n m (hw n hn) (hw m hm)).2 ⟨hv, e⟩)
  · intro b hb c hc h
    obtain ⟨n, hn, rfl⟩ := List.mem_map.1 hb
    obtain ⟨m, hm, rfl⟩ := List.mem_map.1 hc
    obtain ⟨hv, h'⟩ := (lin_sib n m (hw n hn) (hw m hm)).1 h
    exact (hcs n.ver).ns _ (mem_fam.2 ⟨n, hn, rfl, rfl⟩) _ (mem_fam.2 ⟨m, hm, hv.symm, rfl⟩) h'

theorem Inv.lin {s : St} (hs : Inv s) : CanonSet (s.map lin) :=
  canonset_lin s hs.wf hs.cs

theorem lin_inj (a b : Net) (ha : Good a) (hb : Good b) (h : lin a = lin b) : a = b :=
  have := (lin_eq_iff a b ha.1 hb.1).1 h
  good_ext a b ha hb this.1 this.2

theorem inv_of_lin (s : St) (hg : ∀ n ∈ s, Good n) (hn : s.Nodup) (hc : CanonSet (s.map lin)) : Inv s := by
  refine inv_of_pairwise s hg hn ?_ ?_
  · intro a ha b hb hv hne
    exact (lin_disj a b (hg a ha).1 (hg b hb).1).1
      (hc.dj _ (List.mem_map.2 ⟨a, ha, rfl⟩) _ (List.mem_map.2 ⟨b, hb, rfl⟩)
        (fun e => hne (lin_inj a b (hg a ha) (hg b hb) e))) hv
  · intro a ha b hb hv h
    exact hc.ns _ (List.mem_map.2 ⟨a, ha, rfl⟩) _ (List.mem_map.2 ⟨b, hb, rfl⟩)
      ((lin_sib a b (hg a ha).1 (hg b hb).1).2 ⟨hv, h⟩)

/-- Keys taken from canonical states whose address sets contain the new state's: canonical.
    Each key's block is maximal in the larger set, hence in the smaller one. -/
theorem inv_of_shrink (r : St) (hg : ∀ n ∈ r, Good n) (hn : r.Nodup)
    (h : ∀ n ∈ r, ∃ s, Inv s ∧ n ∈ s ∧ ∀ x, den (r.map lin) x → den (s.map lin) x) : Inv r :=
  inv_of_lin r hg hn <| canonset_of_maximal _ fun b hb => by
    obtain ⟨n, hnr, rfl⟩ := List.mem_map.1 hb
    obtain ⟨s, hs, hns, hsub⟩ := h n hnr
    exact (canonset_mem_maximal _ hs.lin _ (List.mem_map_of_mem hns)).anti hsub fun a ha => ⟨_, hb, ha⟩

theorem den_lin (s : St) (hg : ∀ n ∈ s, n.WF) (x : Nat) :
    den (s.map lin) x ↔ ∃ ver a, x = off ver + a ∧ denS s ver a := by
  unfold den denS
  constructor
  · rintro ⟨b, hb, hx⟩
    obtain ⟨n, hn, rfl⟩ := List.mem_map.1 hb
    obtain ⟨y, rfl⟩ := lin_mem_shift n x hx
    exact ⟨n.ver, y, rfl, n, hn, rfl, (blk_mem n (hg n hn) y).1 ((lin_mem_off n (hg n hn) y).1 hx)⟩
  · rintro ⟨ver, a, rfl, n, hn, rfl, h⟩
    exact ⟨lin n, List.mem_map.2 ⟨n, hn, rfl⟩, (lin_mem_off n (hg n hn) a).2 ((blk_mem n (hg n hn) a).2 h)⟩

theorem denS_iff_lin (s : St) (hg : ∀ n ∈ s, n.WF) (ver a : Nat) :
    denS s ver a ↔ (ver = 4 ∨ ver = 6) ∧ a < 2 ^ 128 ∧ den (s.map lin) (off ver + a) := by
  constructor
  · rintro ⟨n, hn, hv, h⟩
    have hw := hg n hn
    refine ⟨hv ▸ hw.1, Nat.lt_of_le_of_lt h.2 (last_lt_128 n hw), lin n, List.mem_map.2 ⟨n, hn, rfl⟩, ?_⟩
    rw [← hv]; exact (lin_mem_off n hw a).2 ((blk_mem n hw a).2 h)
  · rintro ⟨hver, ha, b, hb, hx⟩
    obtain ⟨n, hn, rfl⟩ := List.mem_map.1 hb
    have hw := hg n hn
    have hx' := (lin_mem n hw _).1 hx
    have hv : n.ver = ver := Nat.le_antisymm
      (off_le hw.1 hver (le_128 n hw).1 (Nat.le_of_lt ha) hx'.1) (off_le hver hw.1 (Nat.le_of_lt ha) (le_128 n hw).2 hx'.2)
    rw [← hv] at hx
    exact ⟨n, hn, hv, (blk_mem n hw a).1 ((lin_mem_off n hw a).1 hx)⟩

theorem sub_lin (s t : St) (hs : ∀ n ∈ s, n.WF) (ht : ∀ n ∈ t, n.WF)
    (h : ∀ ver a, denS s ver a → denS t ver a) (x : Nat) : den (s.map lin) x → den (t.map lin) x := by
  rw [den_lin s hs, den_lin t ht]
  rintro ⟨ver, a, e, hd⟩; exact ⟨ver, a, e, h ver a hd⟩

theorem sub_of_lin (s t : St) (hs : ∀ n ∈ s, n.WF) (ht : ∀ n ∈ t, n.WF)
    (h : ∀ x, den (s.map lin) x → den (t.map lin) x) (ver a : Nat) : denS s ver a → denS t ver a := by
  rw [denS_iff_lin s hs, denS_iff_lin t ht]
  rintro ⟨h1, h2, h3⟩; exact ⟨h1, h2, h _ h3⟩

theorem den_lin_congr (s t : St) (hs : ∀ n ∈ s, n.WF) (ht : ∀ n ∈ t, n.WF)
    (h : ∀ ver a, denS s ver a ↔ denS t ver a) (x : Nat) : den (s.map lin) x ↔ den (t.map lin) x :=
  ⟨sub_lin s t hs ht (fun v a => (h v a).1) x, sub_lin t s ht hs (fun v a => (h v a).2) x⟩

/-- a pointwise set operation read on the line is the same operation per family -/
theorem denS_of_line {r s t : St} (hr : ∀ n ∈ r, Good n) (hs : ∀ n ∈ s, n.WF) (ht : ∀ n ∈ t, n.WF)
    (f : Prop → Prop → Prop) (hf : ¬ f False False)
    (h : ∀ x, den (r.map lin) x ↔ f (den (s.map lin) x) (den (t.map lin) x)) (ver a : Nat) :
    denS r ver a ↔ f (denS s ver a) (denS t ver a) := by
  rw [denS_iff_lin r (fun n hn => (hr n hn).1), denS_iff_lin s hs, denS_iff_lin t ht, h, ← and_assoc, ← and_assoc,
    ← and_assoc]
  by_cases g : (ver = 4 ∨ ver = 6) ∧ a < 2 ^ 128
  · simp only [g, true_and]
  · simp only [g, false_and, hf]

/-! ### what `iter_cidrs()` shows -/

theorem mem_iterCidrs (s : St) (n : Net) : n ∈ iterCidrs s ↔ n ∈ s := (sortNets_perm s).mem_iff

theorem iterCidrs_eq_nil (s : St) : iterCidrs s = [] ↔ s = [] :=
  ⟨fun h => List.Perm.eq_nil (h ▸ (sortNets_perm s).symm), fun h => List.Perm.eq_nil (h ▸ sortNets_perm s)⟩

/-- `sorted()` leaves a sorted key list alone (for evaluating concrete instances) -/
theorem iterCidrs_sorted (l : St) (h : l.Pairwise (fun a b => tupleLe a.sortKey b.sortKey = true)) :
    iterCidrs l = l := List.mergeSort_of_pairwise h

theorem Inv.good_sorted {s : St} (hs : Inv s) : ∀ n ∈ sortNets s, Good n :=
  fun n hn => hs.good n ((sortNets_perm s).mem_iff.1 hn)

theorem mem_map_lin_congr {l l' : List Net} (h : ∀ n, n ∈ l ↔ n ∈ l') (b : Blk) :
    b ∈ l.map lin ↔ b ∈ l'.map lin := by
  simp only [List.mem_map, h]

theorem den_shown (s : St) (x : Nat) : den ((iterCidrs s).map lin) x ↔ den (s.map lin) x :=
  den_congr (mem_map_lin_congr (mem_iterCidrs s)) x

theorem sortKey_lin (a b : Net) (ha : a.WF) (hb : b.WF) (hne : (lin a).base ≠ (lin b).base) :
    (tupleLt a.sortKey b.sortKey = true ↔ (lin a).base < (lin b).base) ∧
    (tupleLe a.sortKey b.sortKey = true ↔ (lin a).base < (lin b).base) := by
  have hlex := off_lex a.ver b.ver a.first b.first ha.1 hb.1 (le_128 a ha).1 (le_128 b hb).1
  have hne' : ¬ (a.ver = b.ver ∧ a.first = b.first) := fun h => hne (by show off a.ver + _ = off b.ver + _; rw [h.1, h.2])
  show (tupleLt a.sortKey b.sortKey = true ↔ off a.ver + a.first < off b.ver + b.first) ∧
    (tupleLe a.sortKey b.sortKey = true ↔ off a.ver + a.first < off b.ver + b.first)
  rw [hlex, tupleLt_eq, Bool.not_eq_true', ← Bool.not_eq_true, tupleLe_iff, tupleLe_iff]
  -- the first two components of the sort keys differ, so they decide
  simp only [Net.sortKey, LexLe]
  omega

/-- What `iter_cidrs()` shows, both families on one line, is a canonical block list:
    ascending (IPv4 before IPv6), aligned, pairwise disjoint, no two combinable. -/
theorem canon_shown (s : St) (hs : Inv s) : Canon ((iterCidrs s).map lin) := by
  have hcs := canonset_congr hs.lin (mem_map_lin_congr (mem_iterCidrs s))
  refine ⟨hcs.al, ?_, hcs.dj, hcs.ns⟩
  rw [List.pairwise_map]
  have hnd : (sortNets s).Nodup := (sortNets_perm s).nodup_iff.2 hs.nodup
  refine List.Pairwise.imp_of_mem ?_ ((sortNets_pairwise s).and hnd)
  intro a b ha hb ⟨hle, hne⟩
  have ha' := (mem_iterCidrs s a).1 ha; have hb' := (mem_iterCidrs s b).1 hb
  have haw := (hs.wf a ha'); have hbw := (hs.wf b hb')
  -- different stored keys start at different positions: their blocks are disjoint
  refine ((sortKey_lin a b haw hbw ?_).2).1 hle
  intro e
  exact (lin_disj a b haw hbw).2 (fun hv => hs.disj ha' hb' hv hne) _ ⟨mem_base _, e ▸ mem_base _⟩

/-- The shown list is determined by the denoted addresses alone. -/
theorem shown_unique (s t : St) (hs : Inv s) (ht : Inv t) (h : ∀ ver a, denS s ver a ↔ denS t ver a) :
    iterCidrs s = iterCidrs t := sortNets_perm_eq s t (perm_of_den s t hs ht h)

/-! ### the tests of the sorted sweeps, read on the line -/

theorem keyEq_lin (a b : Net) (ha : a.WF) (hb : b.WF) : keyEq a b = true ↔ lin a = lin b := by
  rw [keyEq_iff_blk a b ha hb, lin_eq_iff a b ha hb]

theorem netIn_lin (a b : Net) (ha : a.WF) (hb : b.WF) : netIn a b = true ↔ subB (lin a) (lin b) = true := by
  rw [subB_iff, lin_sub a b ha hb, sub_iff a b ha hb, netIn_iff]

theorem netLt_lin (a b : Net) (ha : a.WF) (hb : b.WF)
    (h1 : ¬ (lin a).sub (lin b)) (h2 : ¬ (lin b).sub (lin a)) :
    netLt a b = true ↔ (lin a).base < (lin b).base := by
  refine (sortKey_lin a b ha hb ?_).1
  -- blocks starting at the same position would be nested
  intro e
  exact (nest_or_disj _ _ (lin_aligned a ha) (lin_aligned b hb)).elim h1 fun h =>
    h.elim h2 fun d => d _ ⟨mem_base _, e ▸ mem_base _⟩

end NV.IPSet
