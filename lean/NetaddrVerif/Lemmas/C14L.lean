/-
Lemmas/C14L.lean — specification vocabulary of property C14 (`checked`, `ibit`) and what the
operator theorems share: the range test `x ≤ max_int` read as `x < 2^width`, the constructor and
the two guards as `checked`, the shifts (`lshift_wide` in `NV.C14L.Shift`), the bit facts under
`C14.ibit_ext` and `C14.bitops_sign` of Props/C14.
-/
import NetaddrVerif.Model.Address
namespace NV.C14
open NV NV.Address

/-- Specification of "exact and range-checked": the exact unbounded result `x` as an address
    of version `ver` when `0 ≤ x < 2^width`, otherwise the error `e`. -/
def checked (ver : Nat) (x : Int) (e : Err) : R Addr :=
  if 0 ≤ x ∧ x < ((2 ^ width ver : Nat) : Int) then .ok ⟨ver, x.toNat⟩ else .error e

/-- bit `i` of the infinite two's-complement expansion of an integer (`-(m+1) = ~m`) -/
def ibit (x : Int) (i : Nat) : Bool :=
  match x with
  | .ofNat n => n.testBit i
  | .negSucc m => !m.testBit i

theorem maxInt_cast (v : Nat) : ((maxInt v : Nat) : Int) = ((2 ^ width v : Nat) : Int) - 1 :=
  Int.ofNat_sub (Nat.two_pow_pos (width v))

/-- the model's `x <= max_int` is the specification's `x < 2^width` -/
theorem le_maxInt_iff (v : Nat) (x : Int) : x ≤ (maxInt v : Int) ↔ x < ((2 ^ width v : Nat) : Int) := by
  rw [maxInt_cast]; exact Int.le_sub_one_iff

theorem maxInt_lt_iff (v : Nat) (x : Int) : (maxInt v : Int) < x ↔ ((2 ^ width v : Nat) : Int) ≤ x := by
  rw [maxInt_cast]; exact Int.sub_one_lt_iff

theorem checked_in (ver : Nat) (x : Int) (e : Err) (h0 : 0 ≤ x) (h1 : x < ((2 ^ width ver : Nat) : Int)) :
    checked ver x e = .ok ⟨ver, x.toNat⟩ :=
  if_pos ⟨h0, h1⟩

theorem checked_out (ver : Nat) (x : Int) (e : Err) (h : x < 0 ∨ ((2 ^ width ver : Nat) : Int) ≤ x) :
    checked ver x e = .error e :=
  if_neg fun c => h.elim (Int.not_lt.mpr c.1) (Int.not_le.mpr c.2)

theorem checked_nat (ver k : Nat) (e : Err) (hk : k < 2 ^ width ver) :
    checked ver (k : Int) e = .ok ⟨ver, k⟩ :=
  checked_in ver k e (Int.natCast_nonneg k) (Int.ofNat_lt.mpr hk)

theorem ctor_some (x : Int) (v : Nat) (hv : v = 4 ∨ v = 6) :
    ctor x (some v) = checked v x .addrFormat := by
  simp only [ctor, if_pos hv, checked, le_maxInt_iff]

/-- the constructor accepts an in-range natural as it is (`ListLike.mkAddr` is this function: `mkAddr_eq_ctor`) -/
theorem ctor_nat (v : Nat) (hv : v = 4 ∨ v = 6) (k : Nat) (hk : k < 2 ^ width v) :
    ctor (k : Int) (some v) = .ok ⟨v, k⟩ :=
  (ctor_some _ v hv).trans (checked_nat v k _ hk)

theorem guardInplace_eq (a : Addr) (nv : Int) :
    guardInplace a nv = checked a.ver nv .index := by
  simp only [guardInplace, checked, le_maxInt_iff]

/-- the constructor behind the guard re-tests the range the guard has just tested -/
theorem guardNew_eq (a : Addr) (nv : Int) (h : a.WF) :
    guardNew a nv = checked a.ver nv .index := by
  simp only [guardNew, ctor_some _ _ h.1, checked, le_maxInt_iff]
  split
  · rfl
  · rfl

theorem stepInplace_checked (a : Addr) (x : Int) (e : Err) :
    stepInplace a (checked a.ver x e) =
      if 0 ≤ x ∧ x < ((2 ^ width a.ver : Nat) : Int) then (⟨a.ver, x.toNat⟩, none) else (a, some e) := by
  unfold checked
  split
  · rfl
  · rfl

/-! ### shifts: the `n ≥ 0` operators, and the any-operand ones as those behind a sign test -/

theorem shl_eq (a : Addr) (n : Nat) (h : a.WF) :
    shl a n = checked a.ver (((a.val * 2 ^ n : Nat)) : Int) .addrFormat := by
  unfold shl; rw [ctor_some _ _ h.1, Nat.shiftLeft_eq]

theorem shr_eq (a : Addr) (n : Nat) (h : a.WF) :
    shr a n = checked a.ver (((a.val / 2 ^ n : Nat)) : Int) .addrFormat := by
  unfold shr; rw [ctor_some _ _ h.1, Nat.shiftRight_eq_div_pow]

theorem lshift_int (a : Addr) (n : Int) :
    lshift a (.int n) = if n < 0 then .error .value else shl a n.toNat := by
  simp only [lshift, pyShl]
  split
  · rfl
  · rfl

theorem rshift_int (a : Addr) (n : Int) :
    rshift a (.int n) = if n < 0 then .error .value else shr a n.toNat := by
  simp only [rshift, pyShr]
  split
  · rfl
  · rfl

/-! ### two's complement -/

theorem testBit_big (n k : Nat) : n.testBit (n + k) = false :=
  Nat.testBit_lt_two_pow (Nat.lt_of_lt_of_le Nat.lt_two_pow_self (Nat.pow_le_pow_right (by decide) (Nat.le_add_right n k)))

/-- a non-negative and a negative integer differ at every bit beyond both magnitudes -/
theorem ibit_ofNat_ne_negSucc (n k : Nat) : ibit (.ofNat n) (n + k) ≠ ibit (.negSucc k) (n + k) := by
  show n.testBit (n + k) ≠ !k.testBit (n + k)
  rw [testBit_big n k, Nat.add_comm, testBit_big k n]
  decide

/-- `a & n` is a sub-mask of `a`, whatever the sign of `n` -/
theorem pyAnd_le (a : Nat) (n : Int) : ∃ k : Nat, pyAnd a n = (k : Int) ∧ k ≤ a := by
  cases n with
  | ofNat n => exact ⟨a &&& n, rfl, Nat.and_le_left⟩
  | negSucc m =>
    refine ⟨a ^^^ (a &&& m), rfl, ?_⟩
    have : a ^^^ (a &&& m) = a &&& (a ^^^ (a &&& m)) := by
      apply Nat.eq_of_testBit_eq
      intro i
      simp only [Nat.testBit_xor, Nat.testBit_and]
      cases a.testBit i <;> cases m.testBit i <;> rfl
    rw [this]; exact Nat.and_le_left

end NV.C14

/- `NV.C14.lshift_wide` is the property theorem of Props/C14Deep (same statement); this lemma has a namespace of its own
   to avoid the clash. -/
namespace NV.C14L.Shift
open NV NV.Address NV.C14

theorem lshift_wide (a : Addr) (n : Int) (h : a.WF) (hn : (width a.ver : Int) ≤ n) :
    lshift a (.int n) = if a.val = 0 then .ok ⟨a.ver, 0⟩ else .error .addrFormat := by
  have h0 : 0 ≤ n := Int.le_trans (Int.natCast_nonneg _) hn
  rw [lshift_int, if_neg (Int.not_lt.mpr h0), shl_eq a _ h]
  split
  · rename_i hz
    rw [hz, Nat.zero_mul]
    exact checked_nat _ 0 _ (Nat.two_pow_pos _)
  · rename_i hz
    exact checked_out _ _ _ (Or.inr (Int.ofNat_le.mpr (Nat.le_trans
      (Nat.pow_le_pow_right (by decide) ((Int.le_toNat h0).mpr hn))
      (Nat.le_mul_of_pos_left _ (Nat.pos_of_ne_zero hz)))))

end NV.C14L.Shift
