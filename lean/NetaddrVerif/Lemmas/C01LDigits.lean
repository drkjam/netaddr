/-
Lemmas/C01LDigits.lean — the numerals of the address text: `ofBase b` (`b ≤ 16`) reads back what
`Nat.toDigits b` prints and accepts nothing else without a leading zero (instances of
Lemmas/Numerals.lean); decimal octet numerals (`'%d'`) and hexadecimal group numerals (`'%x'`,
`'%.4x'`) with their readers `octet` and `hextet`.
-/
import NetaddrVerif.Model.Text6
import NetaddrVerif.Lemmas.Numerals
namespace NV.C01L
open NV NV.Text4 NV.Text6

theorem hexVal_digitChar : ∀ d, d < 16 → hexVal (Nat.digitChar d) = d := by decide

theorem ofBase_toDigits {b : Nat} (hb : 1 < b) (hb16 : b ≤ 16) (n : Nat) : ofBase b (Nat.toDigits b n) = n :=
  foldl_toDigits_zero hb hexVal (fun d hd => hexVal_digitChar d (Nat.lt_of_lt_of_le hd hb16)) n

theorem toDigits_ofBase {b : Nat} (hb : 1 < b) (hb16 : b ≤ 16) (c : Char) (r : List Char)
    (ht : ∀ x ∈ c :: r, ∃ d, d < b ∧ x = Nat.digitChar d) (h0 : r = [] ∨ c ≠ '0') :
    Nat.toDigits b (ofBase b (c :: r)) = c :: r :=
  toDigits_foldl_zero hb hexVal (fun d hd => hexVal_digitChar d (Nat.lt_of_lt_of_le hd hb16)) c r ht h0

theorem ofBase_zeros (b k : Nat) (t : List Char) : ofBase b (List.replicate k '0' ++ t) = ofBase b t := by
  rw [ofBase, foldl_zeros b hexVal rfl, Nat.zero_mul]
  rfl

theorem isDec_digitChar (c : Char) (h : isDec c = true) : ∃ d, d < 10 ∧ c = Nat.digitChar d := by
  simp only [isDec, Bool.and_eq_true, decide_eq_true_eq] at h
  have h1 : 48 ≤ c.toNat := Char.le_def.mp h.1
  have h2 : c.toNat ≤ 57 := Char.le_def.mp h.2
  have hk : ∀ k, k < 10 → Char.ofNat (48 + k) = Nat.digitChar k := by decide
  refine ⟨c.toNat - 48, by omega, ?_⟩
  rw [← hk _ (by omega), show 48 + (c.toNat - 48) = c.toNat by omega, Char.ofNat_toNat]

theorem dec_all (n : Nat) : ∀ c ∈ dec n, isDec c = true :=
  toDigits_all (by decide) (isDec · = true) (by decide) n

theorem showInt_nat (n : Nat) : showInt (n : Int) = dec n := by
  unfold showInt
  have : ¬ ((n : Int) < 0) := by omega
  simp only [this, if_false, Int.toNat_natCast]

theorem ofBase_dec (n : Nat) : ofBase 10 (dec n) = n := ofBase_toDigits (by decide) (by decide) n

theorem octet_dec (n : Nat) (hn : n < 256) : Text4.octet (dec n) = some n := by
  have hlen : (dec n).length ≤ 3 := (Nat.length_toDigits_le_iff (by decide) (by decide)).mpr (by omega)
  have hpos : 1 ≤ (dec n).length := Nat.length_toDigits_pos
  have hall : (dec n).all isDec = true := List.all_eq_true.mpr (dec_all n)
  have hhead : (dec n).length = 1 ∨ (dec n).head? ≠ some '0' := toDigits_lead (by decide) n
  have hle : n ≤ 255 := by omega
  simp only [Text4.octet, hpos, hlen, hall, hhead, ofBase_dec, hle, and_self, if_true]

theorem octet_canon (t : List Char) (n : Nat) (h : Text4.octet t = some n) : n < 256 ∧ t = dec n := by
  unfold Text4.octet at h
  split at h
  · rename_i hc
    obtain ⟨hl1, _, hall, hhead⟩ := hc
    dsimp only at h
    split at h
    · cases h
      rename_i hle
      refine ⟨by omega, ?_⟩
      match t, hl1 with
      | c :: r, _ =>
        have h0 : r = [] ∨ c ≠ '0' := by
          rcases hhead with h | h
          · exact Or.inl (List.length_eq_zero_iff.mp (by simpa using h))
          · exact Or.inr (fun e => h (by rw [e]; rfl))
        exact (toDigits_ofBase (by decide) (by decide) c r
          (fun x hx => isDec_digitChar x (List.all_eq_true.mp hall x hx)) h0).symm
    · cases h
  · cases h

theorem hex_ne_nil (n : Nat) : hex n ≠ [] := Nat.toDigits_ne_nil

theorem hex_all (n : Nat) : ∀ c ∈ hex n, isHexC c = true :=
  toDigits_all (by decide) (isHexC · = true) (by decide) n

theorem hextet_hex (n : Nat) (h : n < 65536) : hextet (hex n) = some n := by
  have h1 : 1 ≤ (hex n).length := Nat.length_toDigits_pos
  have h2 : (hex n).length ≤ 4 := (Nat.length_toDigits_le_iff (by decide) (by decide)).mpr h
  have h3 : (hex n).all isHexC = true := List.all_eq_true.mpr (hex_all n)
  simp only [hextet, h1, h2, h3, and_self, if_true]
  exact congrArg some (ofBase_toDigits (by decide) (by decide) n)

theorem hex_eq_zero_iff (n : Nat) : (hex n == ['0']) = (n == 0) := by
  by_cases h : n = 0
  · subst h; rfl
  · have := toDigits_head (b := 16) (by decide) n h
    rw [beq_eq_false_iff_ne.mpr h, beq_eq_false_iff_ne.mpr (fun e => this (by rw [show Nat.toDigits 16 n = _ from e]; rfl))]

theorem hex4_len (n : Nat) (h : n < 65536) : (hex4 n).length = 4 := by
  have : (hex n).length ≤ 4 := (Nat.length_toDigits_le_iff (by decide) (by decide)).mpr h
  simp only [hex4, List.length_append, List.length_replicate]
  omega

theorem hex4_all (n : Nat) : ∀ c ∈ hex4 n, isHexC c = true := by
  intro c hc
  rcases List.mem_append.mp hc with hc | hc
  · rw [(List.mem_replicate.mp hc).2]; rfl
  · exact hex_all n c hc

theorem hex4_ne_nil (n : Nat) (h : n < 65536) : hex4 n ≠ [] :=
  fun e => absurd (hex4_len n h) (by simp [e])

theorem hextet_hex4 (n : Nat) (h : n < 65536) : hextet (hex4 n) = some n := by
  have h3 : (hex4 n).all isHexC = true := List.all_eq_true.mpr (hex4_all n)
  simp only [hextet, hex4_len n h, h3, Nat.le_refl, Nat.reduceLeDiff, and_self, if_true]
  exact congrArg some ((ofBase_zeros 16 _ _).trans (ofBase_toDigits (by decide) (by decide) n))

end NV.C01L
