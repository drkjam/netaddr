/-
Lemmas/C13L.lean — the widening loop of `spanning_cidr` (`spanLoop` of Model/Cidr.lean) stops at
the longest prefix whose block around `highest` reaches down to `lowest` (`NV.Span.spanningOf_spec`,
in terms of `trunc`); running min / max folds; `spanning_cidr` on converted inputs as one equation.
The tail of the file, in `NV.C05L`, reads the same loop the way `iprange_to_cidrs` needs it: `fl`,
`NV.C05L.spanningOf_spec` (aligned, contains `lo` and `hi`, `lo` in its lower and `hi` in its upper half;
a corollary of the `NV.Span` one, same short name) and `span_of_block`.
-/
import NetaddrVerif.Lemmas.NetworkL
import NetaddrVerif.Lemmas.Canon
import NetaddrVerif.Model.SpanErr
namespace NV.Span
open NV

/-- `hi` with its low `j` bits cleared -/
def trunc (hi j : Nat) : Nat := hi / 2 ^ j * 2 ^ j

theorem trunc_le (hi j : Nat) : trunc hi j ≤ hi := Nat.div_mul_le_self _ _

theorem lt_trunc_add (hi j : Nat) : hi < trunc hi j + 2 ^ j := Nat.lt_div_mul_add (Nat.two_pow_pos j)

theorem trunc_mod (hi j : Nat) : trunc hi j % 2 ^ j = 0 := Nat.mul_mod_left _ _

theorem trunc_half (hi j : Nat) : trunc hi j = trunc hi (j + 1) ∨ trunc hi j = trunc hi (j + 1) + 2 ^ j := by
  have h1 : trunc hi j = hi - hi % 2 ^ j := Nat.div_mul_self_eq_mod_sub_self
  have h2 : trunc hi (j + 1) = hi - hi % 2 ^ (j + 1) := Nat.div_mul_self_eq_mod_sub_self
  have h3 := Nat.mod_le hi (2 ^ (j + 1))
  rw [Nat.mod_pow_succ] at h2 h3
  rcases Nat.mod_two_eq_zero_or_one (hi / 2 ^ j) with h | h
  · rw [h, Nat.mul_zero, Nat.add_zero] at h2
    exact Or.inl (h1.trans h2.symm)
  · rw [h, Nat.mul_one] at h2 h3
    rw [h1, h2, Nat.sub_add_eq]
    exact Or.inr (Nat.sub_add_cancel (Nat.le_sub_of_add_le' h3)).symm

theorem trunc_unique (hi j m : Nat) (hm : m % 2 ^ j = 0) (h1 : m ≤ hi) (h2 : hi < m + 2 ^ j) :
    trunc hi j = m := by
  obtain ⟨t, rfl⟩ := Nat.dvd_of_mod_eq_zero hm
  unfold trunc
  have : hi / 2 ^ j = t := by
    apply Nat.div_eq_of_lt_le
    · rw [Nat.mul_comm]; exact h1
    · rw [Nat.mul_comm, Nat.mul_succ]; exact h2
  rw [this, Nat.mul_comm]

/-- clearing more bits gives less: `trunc hi j` is a multiple of `2^k` at or below `hi`, and `trunc hi k` is the
    largest such multiple -/
theorem trunc_anti (hi k j : Nat) (h : k ≤ j) : trunc hi j ≤ trunc hi k := by
  have hd : 2 ^ k ∣ trunc hi j := Nat.dvd_of_mod_eq_zero (mod_pow_of_le (trunc_mod hi j) h)
  calc trunc hi j = trunc hi j / 2 ^ k * 2 ^ k := (Nat.div_mul_cancel hd).symm
    _ ≤ hi / 2 ^ k * 2 ^ k := Nat.mul_le_mul_right _ (Nat.div_le_div_right (trunc_le hi j))

theorem span_plen (w lo hi : Nat) : ∀ p ipnum, (spanLoop w lo hi p ipnum).plen ≤ p
  | 0, _ => Nat.le_refl 0
  | p + 1, ipnum => by
    rw [spanLoop]
    split
    · exact Nat.le_succ_of_le (span_plen w lo hi p _)
    · exact Nat.le_refl _

/-- The loop keeps: `ipnum` is `hi` with its low `w - p` bits cleared, and every block around `hi` smaller than
    that starts above `lo` (the third hypothesis); it stops as soon as `ipnum ≤ lo`. -/
theorem spanLoop_spec (w lo hi : Nat) (hhi : hi < 2 ^ w) :
    ∀ (p ipnum : Nat), p ≤ w → ipnum = trunc hi (w - p) → (∀ j, j < w - p → lo < trunc hi j) →
      (spanLoop w lo hi p ipnum).val = trunc hi (w - (spanLoop w lo hi p ipnum).plen) ∧
      (spanLoop w lo hi p ipnum).val ≤ lo ∧
      (∀ j, j < w - (spanLoop w lo hi p ipnum).plen → lo < trunc hi j)
  | 0, ipnum, _, hip, hinv => by
    simp only [spanLoop]
    refine ⟨hip, ?_, hinv⟩
    rw [hip]; unfold trunc
    rw [Nat.sub_zero, Nat.div_eq_of_lt hhi]; omega
  | p + 1, ipnum, hp, hip, hinv => by
    unfold spanLoop
    by_cases hgt : ipnum > lo
    · rw [if_pos hgt]
      exact spanLoop_spec w lo hi hhi p ((hi >>> (w - p)) <<< (w - p)) (by omega)
        (by rw [shr_shl]; rfl)
        (by
          intro j hj
          by_cases hj' : j < w - (p + 1)
          · exact hinv j hj'
          · have : j = w - (p + 1) := by omega
            rw [this, ← hip]; exact hgt)
    · rw [if_neg hgt]
      exact ⟨hip, by show ipnum ≤ lo; omega, hinv⟩

theorem spanningOf_spec (w lo hi : Nat) (hhi : hi < 2 ^ w) :
    (spanningOf w lo hi).plen ≤ w ∧
    (spanningOf w lo hi).val = trunc hi (w - (spanningOf w lo hi).plen) ∧
    (spanningOf w lo hi).val ≤ lo ∧
    (∀ j, j < w - (spanningOf w lo hi).plen → lo < trunc hi j) := by
  unfold spanningOf
  exact ⟨span_plen w lo hi w hi,
    spanLoop_spec w lo hi hhi w hi (Nat.le_refl _) (by unfold trunc; simp) (by intro j hj; omega)⟩

theorem cover_trunc (w v q lo hi : Nat) (hv : v < 2 ^ w)
    (h1 : netFirst w v q ≤ lo) (h2 : hi ≤ netLast w v q) (hlh : lo ≤ hi) : trunc hi (w - q) ≤ lo := by
  rw [netFirst_eq w v q hv] at h1
  rw [netLast_eq] at h2
  have := Nat.two_pow_pos (w - q)
  rw [trunc_unique hi (w - q) _ (Nat.mul_mod_left (v / 2 ^ (w - q)) _) (by omega) (by omega)]
  exact h1

/-- A fold that keeps one of its two arguments, the one an order `R` prefers (`min` with `≤`,
    `max` with `≥`): the result is preferred to the start value and to every `f n`, and is one of them. -/
theorem foldl_pick {α : Type} (f : α → Nat) (op : Nat → Nat → Nat) (R : Nat → Nat → Prop)
    (hrefl : ∀ x, R x x) (htrans : ∀ {x y z}, R x y → R y z → R x z)
    (hl : ∀ x y, R (op x y) x) (hr : ∀ x y, R (op x y) y) (hp : ∀ x y, op x y = x ∨ op x y = y) :
    ∀ (l : List α) (s : Nat),
      R (l.foldl (fun m n => op m (f n)) s) s ∧ (∀ n ∈ l, R (l.foldl (fun m n => op m (f n)) s) (f n)) ∧
      (l.foldl (fun m n => op m (f n)) s = s ∨ ∃ n ∈ l, l.foldl (fun m n => op m (f n)) s = f n)
  | [], s => ⟨hrefl s, nofun, Or.inl rfl⟩
  | x :: xs, s => by
    obtain ⟨h1, h2, h3⟩ := foldl_pick f op R hrefl htrans hl hr hp xs (op s (f x))
    refine ⟨htrans h1 (hl _ _), fun n hn => ?_, ?_⟩
    · rcases List.mem_cons.1 hn with rfl | hn
      · exact htrans h1 (hr _ _)
      · exact h2 n hn
    · rcases h3 with h3 | ⟨n, hn, h3⟩
      · rcases hp s (f x) with h | h
        · exact Or.inl (h3.trans h)
        · exact Or.inr ⟨x, List.mem_cons_self .., h3.trans h⟩
      · exact Or.inr ⟨n, List.mem_cons_of_mem _ hn, h3⟩

theorem foldl_pick_cons {α : Type} (f : α → Nat) (op : Nat → Nat → Nat) (R : Nat → Nat → Prop)
    (hrefl : ∀ x, R x x) (htrans : ∀ {x y z}, R x y → R y z → R x z)
    (hl : ∀ x y, R (op x y) x) (hr : ∀ x y, R (op x y) y) (hp : ∀ x y, op x y = x ∨ op x y = y)
    (a : α) (rest : List α) :
    (∀ n ∈ a :: rest, R (rest.foldl (fun m n => op m (f n)) (f a)) (f n)) ∧
    (∃ n ∈ a :: rest, rest.foldl (fun m n => op m (f n)) (f a) = f n) := by
  obtain ⟨h1, h2, h3⟩ := foldl_pick f op R hrefl htrans hl hr hp rest (f a)
  constructor
  · intro n hn
    rcases List.mem_cons.1 hn with rfl | hn
    · exact h1
    · exact h2 n hn
  · rcases h3 with h3 | ⟨n, hn, h3⟩
    · exact ⟨a, List.mem_cons_self .., h3⟩
    · exact ⟨n, List.mem_cons_of_mem _ hn, h3⟩

theorem foldl_pick_congr {α : Type} {m m' : Nat} {f : α → Nat} {R : Nat → Nat → Prop} {l l' : List α}
    (hanti : ∀ {x y}, R x y → R y x → x = y) (h : ∀ x, x ∈ l ↔ x ∈ l')
    (h1 : (∀ n ∈ l, R m (f n)) ∧ ∃ n ∈ l, m = f n) (h2 : (∀ n ∈ l', R m' (f n)) ∧ ∃ n ∈ l', m' = f n) :
    m = m' := by
  obtain ⟨l1, n, hn, e1⟩ := h1
  obtain ⟨l2, n', hn', e2⟩ := h2
  exact hanti (e2 ▸ l1 n' ((h n').2 hn')) (e1 ▸ l2 n ((h n).1 hn))

/-- lowest first address of a non-empty list: the running minimum
    `lowest_ipnum = min(lowest_ipnum, network.first)` -/
def lowest (w : Nat) (a : Pfx) (rest : List Pfx) : Nat :=
  rest.foldl (fun m n => min m (n.first w)) (a.first w)
/-- highest last address of a non-empty list: the running maximum
    `highest_ipnum = max(highest_ipnum, network.last)` -/
def highest (w : Nat) (a : Pfx) (rest : List Pfx) : Nat :=
  rest.foldl (fun m n => max m (n.last w)) (a.last w)

theorem lowest_spec (w : Nat) (a : Pfx) (rest : List Pfx) :
    (∀ n ∈ a :: rest, lowest w a rest ≤ n.first w) ∧ (∃ n ∈ a :: rest, lowest w a rest = n.first w) :=
  foldl_pick_cons (fun n : Pfx => n.first w) min (· ≤ ·) Nat.le_refl Nat.le_trans Nat.min_le_left Nat.min_le_right
    (fun x y => by omega) a rest

theorem highest_spec (w : Nat) (a : Pfx) (rest : List Pfx) :
    (∀ n ∈ a :: rest, n.last w ≤ highest w a rest) ∧ (∃ n ∈ a :: rest, highest w a rest = n.last w) :=
  foldl_pick_cons (fun n : Pfx => n.last w) max (· ≥ ·) Nat.le_refl (fun h1 h2 => Nat.le_trans h2 h1)
    Nat.le_max_left Nat.le_max_right (fun x y => by omega) a rest

theorem spanningCidr_eq (w : Nat) (a b : Pfx) (rest : List Pfx) :
    spanningCidr w (a :: b :: rest) = .ok (spanningOf w (lowest w a (b :: rest)) (highest w a (b :: rest))) := rfl

theorem lowest_congr (w : Nat) (a a' : Pfx) (r r' : List Pfx) (h : ∀ x, x ∈ a :: r ↔ x ∈ a' :: r') :
    lowest w a r = lowest w a' r' :=
  foldl_pick_congr Nat.le_antisymm h (lowest_spec w a r) (lowest_spec w a' r')

theorem highest_congr (w : Nat) (a a' : Pfx) (r r' : List Pfx) (h : ∀ x, x ∈ a :: r ↔ x ∈ a' :: r') :
    highest w a r = highest w a' r' :=
  foldl_pick_congr (fun h1 h2 => Nat.le_antisymm h2 h1) h (highest_spec w a r) (highest_spec w a' r')

/-- `spanning_cidr` on two or more converted inputs: a TypeError unless all are of the first one's family,
    else the spanning block of the family-level list, tagged with that family -/
theorem spanningCidrNets_eq (a b : Net) (rest : List Net) :
    spanningCidrNets (a :: b :: rest) =
      if ∀ n ∈ a :: b :: rest, n.ver = a.ver then
        (spanningCidr (width a.ver) ((a :: b :: rest).map fun n => (⟨n.val, n.plen⟩ : Pfx))).map
          fun p => ⟨a.ver, p.val, p.plen⟩
      else .error .type_ := by
  have hiff : (b :: rest).all (fun n => n.ver == a.ver) = true ↔ ∀ n ∈ a :: b :: rest, n.ver = a.ver := by
    rw [List.all_eq_true, List.forall_mem_cons (l := b :: rest)]
    simp only [beq_iff_eq, true_and]
  simp only [spanningCidrNets]
  by_cases h : ∀ n ∈ a :: b :: rest, n.ver = a.ver
  · rw [if_pos (hiff.2 h), if_pos h]; rfl
  · rw [if_neg (mt hiff.1 h), if_neg h]

end NV.Span

/-! The same in the form `iprange_to_cidrs` needs: the smallest aligned block that contains `lo` and `hi`. -/
namespace NV.C05L
open NV NV.Span

/-- floor of `x` to a multiple of `2^k` (`Span.trunc` with the arguments the other way round) -/
def fl (k x : Nat) : Nat := x / 2 ^ k * 2 ^ k

theorem fl_eq_trunc (k x : Nat) : fl k x = trunc x k := rfl

/-- `spanning_cidr` over the two ends `lo ≤ hi < 2^w`: an aligned block inside the width that
    starts at or below `lo`, contains `hi`, and — unless it is a single address — has `lo` in its
    lower and `hi` in its upper half (it is the smallest such block) -/
theorem spanningOf_spec (w lo hi : Nat) (_hle : lo ≤ hi) (hhi : hi < 2 ^ w) :
    (spanningOf w lo hi).plen ≤ w ∧
    (spanningOf w lo hi).val % 2 ^ (w - (spanningOf w lo hi).plen) = 0 ∧
    (spanningOf w lo hi).val ≤ lo ∧
    hi < (spanningOf w lo hi).val + 2 ^ (w - (spanningOf w lo hi).plen) ∧
    (spanningOf w lo hi).val + 2 ^ (w - (spanningOf w lo hi).plen) ≤ 2 ^ w ∧
    ((spanningOf w lo hi).plen < w →
      lo < (spanningOf w lo hi).val + 2 ^ (w - ((spanningOf w lo hi).plen + 1)) ∧
      (spanningOf w lo hi).val + 2 ^ (w - ((spanningOf w lo hi).plen + 1)) ≤ hi) ∧
    (∀ q, (spanningOf w lo hi).plen < q → q ≤ w → lo < fl (w - q) hi) := by
  obtain ⟨s1, s2, s3, s4⟩ := Span.spanningOf_spec w lo hi hhi
  generalize spanningOf w lo hi = s at *
  have hmin : ∀ q, s.plen < q → q ≤ w → lo < fl (w - q) hi := fun q h1 h2 => s4 (w - q) (by omega)
  refine ⟨s1, by rw [s2]; exact trunc_mod _ _, s3, by rw [s2]; exact lt_trunc_add _ _,
    by rw [s2]; exact block_lt w hi s.plen hhi s1, ?_, hmin⟩
  intro hlt
  have hq := s4 (w - (s.plen + 1)) (by omega)
  have hle := trunc_le hi (w - (s.plen + 1))
  rw [s2, show w - s.plen = (w - (s.plen + 1)) + 1 by omega] at s3 ⊢
  rcases trunc_half hi (w - (s.plen + 1)) with hh | hh <;> omega

/-- the spanning block of an aligned block `[m, hi0]` of size `2^j` is that block: the loop cannot stop at a
    smaller size (`trunc hi0 j = m` is not above `m`), and at its size it is at `m` (`trunc` is antitone) -/
theorem span_of_block (w m j hi0 : Nat) (hal : m % 2 ^ j = 0) (hfit : m + 2 ^ j ≤ 2 ^ w)
    (h0 : hi0 + 1 = m + 2 ^ j) :
    (spanningOf w m hi0).val = m ∧ 2 ^ (w - (spanningOf w m hi0).plen) = 2 ^ j := by
  obtain ⟨_, s2, s3, s4⟩ := Span.spanningOf_spec w m hi0 (by omega)
  generalize spanningOf w m hi0 = s at *
  have hflj : trunc hi0 j = m := trunc_unique _ _ _ hal (by omega) (by omega)
  have hk : w - s.plen ≤ j := by
    rcases Nat.lt_or_ge j (w - s.plen) with h | h
    · exact absurd (hflj ▸ s4 j h) (Nat.lt_irrefl m)
    · exact h
  have hge := trunc_anti hi0 (w - s.plen) j hk
  have hlt := lt_trunc_add hi0 (w - s.plen)
  have hpow : 2 ^ (w - s.plen) ≤ 2 ^ j := Nat.pow_le_pow_right (by decide) hk
  rw [← s2] at hge hlt
  exact ⟨by omega, by omega⟩

end NV.C05L
