/-
Lemmas/C08LBare.lean — separator-less dialects with more than one word:
`class nosep(mac_eui48): word_sep = ''` keeps word_size 8, num_words 6 and `'%.2X'`, so its text
is twelve hex digits — the bare spelling — and parses back; `fits` (Lemmas/C08LText.lean) only
allows an empty separator for one-word dialects.  `fitsBare` is that case: every word printed
with exactly `word_size / 4` digits and nothing in between; `print_bare` shows that the text is
then one hex token (`tok_spelling`, Lemmas/C08LMatch.lean, makes it a spelling).
-/
import NetaddrVerif.Lemmas.C08LText
namespace NV.Eui
open NV.Py NV.PyL NV.Codec NV.Gen

/-- what makes the printed text of a separator-less dialect one bare numeral that the one-group
    row `f` captures: the words are printed with exactly `pad = word_size / 4` digits each (so
    that the digits of the words line up to the digits of the value), and their total
    `pad * num_words` is within the row's bounds -/
def fitsBare (d : Dialect) (f : MacFmt) (width : Nat) : Bool :=
  (f.sep == []) && (f.groups == 1) && (d.sep == []) && decide (1 ≤ d.numWords) &&
  (d.wordSize == 4 * d.pad) && decide (1 ≤ d.pad) && (d.wordSize * d.numWords == width) &&
  decide (f.lo ≤ d.pad * d.numWords) && decide (d.pad * d.numWords ≤ f.hi)

theorem print_bare {d : Dialect} {f : MacFmt} {width : Nat} (hfit : fitsBare d f width = true)
    {v : Nat} (hv : v < 2 ^ width) :
    let s := ((wordsLoop d.wordSize d.numWords v).reverse.map (fmtHex d.pad d.upper)).flatten
    intToStr d v = .ok s ∧ HexTok s ∧ s.length = d.pad * d.numWords ∧ tokVal s = v ∧
    f.sep = [] ∧ f.groups = 1 ∧ f.lo ≤ s.length ∧ s.length ≤ f.hi := by
  show let s := ((beWords d.wordSize d.numWords v).map (fmtHex d.pad d.upper)).flatten; _
  intro s
  simp only [fitsBare, Bool.and_eq_true, beq_iff_eq, decide_eq_true_eq] at hfit
  obtain ⟨⟨⟨⟨⟨⟨⟨⟨hfsep, hgroups⟩, hdsep⟩, hn⟩, hws⟩, hpad⟩, hwidth⟩, hlo⟩, hhi⟩ := hfit
  have hv' : v < 2 ^ (d.numWords * d.wordSize) := by rwa [Nat.mul_comm, hwidth]
  have hprint : intToStr d v = .ok s := by
    rw [intToStr_ok d v hv', hdsep, intercalate_nil_sep]
  -- the words have `pad` hex digits each, so the text is one numeral of `pad * num_words` digits
  obtain ⟨hslen, hhex, hval⟩ : s.length = _ ∧ _ ∧ tokVal s = _ :=
    fmtHex_concat hpad d.upper (hws ▸ beWords_lt16 d.pad d.numWords v)
  rw [beWords_length] at hslen
  have hne : s ≠ [] := fun e => by
    rw [e] at hslen
    exact Nat.ne_of_lt (Nat.mul_pos hpad hn) hslen
  rw [← hws, beWordsValue_words hv'] at hval
  exact ⟨hprint, ⟨hne, hhex⟩, hslen, hval, hfsep, hgroups, hslen ▸ hlo, hslen ▸ hhi⟩

end NV.Eui
