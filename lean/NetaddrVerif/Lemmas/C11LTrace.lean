/-
Lemmas/C11LTrace.lean — the statement-level runs of Model/SubnetTrace.lean in closed form:
`runStmts (body o minus k) st = specBody o minus k st m` for every start state in which the
body's `self` is bound.  The property theorems are in Props/C11Audit2.lean.
-/
import NetaddrVerif.Model.SubnetTrace
import NetaddrVerif.Lemmas.C11L
namespace NV.C11LT
open NV NV.Subnet NV.Subnet.Trace

theorem runStmts_cons (s : Stmt) (ss : List Stmt) (st : St) (h : st.out = none) :
    runStmts (s :: ss) st = runStmts ss (step st s) := by
  rw [runStmts, h]; rfl

theorem runStmts_done (l : List Stmt) (st : St) (x : Except Err Obj) (h : st.out = some x) :
    runStmts l st = st := by
  cases l with
  | nil => rfl
  | cons s ss => rw [runStmts, h]; rfl

theorem obj_with (st : St) (a : Int) (l : List Ev) (o : Obj) :
    ({ st with nv := a, log := l } : St).obj o = st.obj o := by
  cases o <;> rfl

/-! ### one statement of a body at a time

A body runs from a state `st` whose `self` (`o`) is bound to `m`; every state on the way is `st`
with a new local and a longer log, `{ st with nv := a, log := st.log ++ l }`. -/

section
variable {st : St} {o : Obj} {m : Net} (hout : st.out = none) (hobj : st.obj o = some m)
  (rest : List Stmt) (a : Int) (l : List Ev)
include hout hobj

theorem run_compute (minus : Bool) (k : Int) :
    runStmts (.compute o minus k :: rest) st =
      runStmts rest { st with nv := newValue minus m k, log := st.log ++ [.computed o (newValue minus m k)] } := by
  rw [runStmts_cons _ _ _ hout]
  simp only [step, hobj, newValue]

theorem run_above :
    runStmts (.ifAboveRaise o :: rest) { st with nv := a, log := st.log ++ l } =
      if a + (((netSize (width m.ver) m.val m.plen : Nat) : Int) - 1) > ((maxInt m.ver : Nat) : Int) then
        { st with nv := a, out := some (.error .index), log := st.log ++ (l ++ [.testAbove o true, .raise .index]) }
      else runStmts rest { st with nv := a, log := st.log ++ (l ++ [.testAbove o false]) } := by
  rw [runStmts_cons _ _ { st with nv := a, log := st.log ++ l } hout]
  simp only [step, obj_with, hobj, List.append_assoc]
  split
  · exact runStmts_done _ _ _ rfl
  · rfl

theorem run_below :
    runStmts (.ifBelowRaise o :: rest) { st with nv := a, log := st.log ++ l } =
      if a < 0 then
        { st with nv := a, out := some (.error .index), log := st.log ++ (l ++ [.testBelow o true, .raise .index]) }
      else runStmts rest { st with nv := a, log := st.log ++ (l ++ [.testBelow o false]) } := by
  rw [runStmts_cons _ _ { st with nv := a, log := st.log ++ l } hout]
  simp only [step, obj_with, hobj, List.append_assoc]
  split
  · exact runStmts_done _ _ _ rfl
  · rfl

theorem run_store_ret :
    runStmts [.store o, .ret o] { st with nv := a, log := st.log ++ l } =
      { (st.setObj o { m with val := a.toNat }) with
        nv := a, out := some (.ok o), log := st.log ++ (l ++ [.store o a, .ret o]) } := by
  rw [runStmts_cons _ _ { st with nv := a, log := st.log ++ l } hout]
  simp only [step, obj_with, hobj]
  cases o <;> simp only [runStmts, step, St.setObj, hout, List.append_assoc] <;> rfl

end

/-- the state after the in-place body (`minus`: `-=`) has run from `st` with its `self` (`o`) bound to `m`: one of three
    runs — first test fires, second test fires, both pass and the value is stored — each with its complete log -/
def specBody (o : Obj) (minus : Bool) (k : Int) (st : St) (m : Net) : St :=
  let nv := newValue minus m k
  if minus then
    if nv < 0 then
      { st with nv := nv, out := some (.error .index),
                log := st.log ++ [.computed o nv, .testBelow o true, .raise .index] }
    else if Above m nv then
      { st with nv := nv, out := some (.error .index),
                log := st.log ++ [.computed o nv, .testBelow o false, .testAbove o true, .raise .index] }
    else
      { (st.setObj o { m with val := nv.toNat }) with
        nv := nv, out := some (.ok o),
        log := st.log ++ [.computed o nv, .testBelow o false, .testAbove o false, .store o nv, .ret o] }
  else
    if Above m nv then
      { st with nv := nv, out := some (.error .index),
                log := st.log ++ [.computed o nv, .testAbove o true, .raise .index] }
    else if nv < 0 then
      { st with nv := nv, out := some (.error .index),
                log := st.log ++ [.computed o nv, .testAbove o false, .testBelow o true, .raise .index] }
    else
      { (st.setObj o { m with val := nv.toNat }) with
        nv := nv, out := some (.ok o),
        log := st.log ++ [.computed o nv, .testAbove o false, .testBelow o false, .store o nv, .ret o] }

theorem runStmts_body (o : Obj) (minus : Bool) (k : Int) (st : St) (m : Net)
    (hout : st.out = none) (hobj : st.obj o = some m) :
    runStmts (body o minus k) st = specBody o minus k st m := by
  cases minus
  · rw [body, if_neg Bool.false_ne_true, run_compute hout hobj, run_above hout hobj, run_below hout hobj,
      run_store_ret hout hobj]
    rfl
  · rw [body, if_pos rfl, run_compute hout hobj, run_below hout hobj, run_above hout hobj,
      run_store_ret hout hobj]
    rfl

theorem stores_append (a b : List Ev) : stores (a ++ b) = stores a ++ stores b := by
  induction a with
  | nil => rfl
  | cons e r ih => cases e <;> simp only [List.cons_append, stores, ih]

/-- a refused step, whichever test fires and in whichever order they are made, from a state whose log holds
    no store: IndexError, the objects as they were, and still no store in the log -/
theorem specBody_refused (o : Obj) (minus : Bool) (k : Int) (st : St) (m : Net) (hs : stores st.log = [])
    (h : Above m (newValue minus m k) ∨ newValue minus m k < 0) :
    ∃ l, specBody o minus k st m =
        { st with nv := newValue minus m k, out := some (.error .index), log := l } ∧
      stores l = [] := by
  have hl : ∀ l, stores l = [] → stores (st.log ++ l) = [] := fun l h => by rw [stores_append, hs, h]; rfl
  unfold specBody
  dsimp only
  cases minus
  · rw [if_neg Bool.false_ne_true]
    by_cases hA : Above m (newValue false m k)
    · rw [if_pos hA]; exact ⟨_, rfl, hl _ rfl⟩
    · rw [if_neg hA, if_pos (h.resolve_left hA)]; exact ⟨_, rfl, hl _ rfl⟩
  · rw [if_pos rfl]
    by_cases hB : newValue true m k < 0
    · rw [if_pos hB]; exact ⟨_, rfl, hl _ rfl⟩
    · rw [if_neg hB, if_pos (h.resolve_right hB)]; exact ⟨_, rfl, hl _ rfl⟩

/-- an accepted step from such a state: both tests pass, then the single store of the new value into `o`,
    then `return`; that store is the only one of the log -/
theorem specBody_accepted (o : Obj) (minus : Bool) (k : Int) (st : St) (m : Net) (hs : stores st.log = [])
    (hA : ¬ Above m (newValue minus m k)) (hB : ¬ newValue minus m k < 0) :
    ∃ pre, specBody o minus k st m =
        { (st.setObj o { m with val := (newValue minus m k).toNat }) with
          nv := newValue minus m k, out := some (.ok o),
          log := pre ++ [.store o (newValue minus m k), .ret o] } ∧
      stores pre = [] ∧ stores (pre ++ [.store o (newValue minus m k), .ret o]) = [(o, newValue minus m k)] := by
  have hp : ∀ t, stores t = [] → stores (st.log ++ t) = [] ∧
      stores ((st.log ++ t) ++ [.store o (newValue minus m k), .ret o]) = [(o, newValue minus m k)] :=
    fun t h => ⟨by rw [stores_append, hs, h]; rfl, by rw [stores_append, stores_append, hs, h]; rfl⟩
  unfold specBody
  dsimp only
  cases minus
  · rw [if_neg Bool.false_ne_true, if_neg hA, if_neg hB]
    exact ⟨st.log ++ [_, _, _], by rw [List.append_assoc]; rfl, hp _ rfl⟩
  · rw [if_pos rfl, if_neg hB, if_neg hA]
    exact ⟨st.log ++ [_, _, _], by rw [List.append_assoc]; rfl, hp _ rfl⟩

end NV.C11LT
