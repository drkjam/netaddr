/-
Lemmas/C19LLoad.lean — C19: the dict `iana.query` returns (which keys exist), `load_index`
(`Registry.loadRows`), what the loaded dict shows to a lookup, and the key an IAB record gets (only its
`(base 16)` lines matter: `iab_recKey_filter`).
-/
import NetaddrVerif.Model.Registry
import NetaddrVerif.Lemmas.C19L
import NetaddrVerif.Lemmas.C19LKey
namespace NV.C19L
open NV NV.Registry

/-- a list as a dict entry that exists only when something was appended -/
def toEntry (l : List Rec) : Option (List Rec) := if l.isEmpty then none else some l

theorem toEntry_none_iff (l : List Rec) : toEntry l = none ↔ l = [] := by
  unfold toEntry; cases l <;> simp

theorem toEntry_some_iff (l m : List Rec) : toEntry l = some m ↔ l = m ∧ m ≠ [] := by
  cases l <;> simp [toEntry, eq_comm]
  rintro rfl; exact List.cons_ne_nil _ _

/-- A scan that appends the rows satisfying `p` to a dict entry which the first hit creates (the shape
    shared by `scanD` and `scanObjD`) yields the filtered rows, and leaves the entry alone when there is none. -/
theorem scanAcc_eq (p : Rec → Bool) (f : List Rec → Option (List Rec) → Option (List Rec))
    (hnil : ∀ acc, f [] acc = acc)
    (hcons : ∀ r t acc, f (r :: t) acc = if p r then f t (some (acc.getD [] ++ [r])) else f t acc) :
    ∀ t acc, f t acc = if (t.filter p).isEmpty then acc else some (acc.getD [] ++ t.filter p) := by
  intro t
  induction t with
  | nil => intro acc; rw [hnil]; rfl
  | cons r t ih =>
    intro acc
    rw [hcons, ih, ih]
    by_cases h : p r = true
    · rw [if_pos h, List.filter_cons_of_pos h]
      cases t.filter p <;> simp
    · rw [if_neg h, List.filter_cons_of_neg h]

theorem scanD_eq (ip : Addr) (t : List Rec) : ∀ acc : Option (List Rec),
    scanD ip t acc = (if (scan ip t).isEmpty then acc
      else some (acc.getD [] ++ scan ip t)) :=
  scanAcc_eq (fun r => withinBounds ip r.key) (scanD ip) (fun _ => rfl) (fun _ _ acc => by cases acc <;> rfl) t

theorem scanD_none (ip : Addr) (t : List Rec) : scanD ip t none = toEntry (scan ip t) :=
  scanD_eq ip t none

theorem queryD_eq (T : Tables) (a : Addr) :
    queryD T a = ⟨toEntry (query T a).ipv4, toEntry (query T a).ipv6, toEntry (query T a).ipv6u,
      toEntry (query T a).mcast⟩ := by
  unfold queryD query
  by_cases h4 : a.ver = 4
  · simp only [h4, ↓reduceIte, scanD_none]
    by_cases hm : isMulticast4 a.val = true
    · simp [hm, toEntry]
    · simp [hm, toEntry]
  · by_cases h6 : a.ver = 6
    · simp [h6, scanD_none, toEntry]
    · simp [h4, h6, toEntry]

section load
variable {K : Type} (key : K → R Int)

theorem loadRows_eq_mapM (rows : List (Row K)) :
    loadRows key rows = rows.mapM (fun r => (key r.1).map (·, r.2)) := by
  induction rows with
  | nil => rfl
  | cons r t ih =>
    obtain ⟨k, o, s⟩ := r
    rw [List.mapM_cons, ← ih, loadRows]
    cases key k <;> rfl

theorem loadRows_ok (rows : List (Row K)) (idx : List (Int × Nat × Nat)) (h : loadRows key rows = .ok idx) :
    All2 (fun (row : Row K) (i : Int × Nat × Nat) => key row.1 = .ok i.1 ∧ i.2 = row.2) rows idx :=
  All2.imp (mapM_ok (loadRows_eq_mapM key rows ▸ h)) fun _ _ hi =>
    (Exc.map_eq_ok.1 hi).elim fun _ ⟨hk, e⟩ => e ▸ ⟨hk, rfl⟩

theorem loadRows_err (rows : List (Row K)) (e : Err) (h : loadRows key rows = .error e) :
    ∃ r ∈ rows, key r.1 = .error e :=
  (mapM_error_mem (loadRows_eq_mapM key rows ▸ h)).imp fun _ ⟨hr, hf⟩ => ⟨hr, Exc.map_eq_error.1 hf⟩

theorem loadRows_ok_iff (rows : List (Row K)) :
    (∃ idx, loadRows key rows = .ok idx) ↔ ∀ r ∈ rows, ∃ n, key r.1 = .ok n := by
  rw [loadRows_eq_mapM, mapM_ok_iff]
  exact forall₂_congr fun _ _ => Exc.exists_map_eq_ok

end load

end NV.C19L

namespace NV.Registry

theorem mem_lookupRows {index : List (Nat × Nat × Nat)} {v o s : Nat} :
    (o, s) ∈ lookupRows index v ↔ (v, o, s) ∈ index := by
  simp [lookupRows]

theorem lookupRows_nil_iff (index : List (Nat × Nat × Nat)) (v : Nat) :
    lookupRows index v = [] ↔ ∀ r ∈ index, r.1 ≠ v := by
  simp [lookupRows, List.filter_eq_nil_iff]

end NV.Registry

namespace NV.C19L
open NV NV.Registry

/-- what `OUI(v)` / `IAB(v)` find in the loaded dict: the rows whose key is the integer `v`, in file order -/
theorem lookupRows_dictView (idx : List (Int × Nat × Nat)) (v : Nat) :
    lookupRows (dictView idx) v =
      (idx.filter (fun i => i.1 == (v : Int))).map (fun i => (i.2.1, i.2.2)) := by
  -- both sides as one `filterMap` over `idx`, then row by row: `dictView` drops a negative key, and such a key is not `↑v`
  rw [lookupRows, dictView, List.filter_filterMap, List.map_filterMap, ← List.filterMap_eq_map', List.filterMap_filter]
  congr 1
  funext ⟨k, o, s⟩
  by_cases hv : k = (v : Int)
  · simp [hv]
  · by_cases hk : 0 ≤ k <;> simp [hk, hv]
    omega

theorem dictView_ofNat (idx : List (Nat × Nat × Nat)) :
    dictView (idx.map (fun r => ((r.1 : Int), r.2.1, r.2.2))) = idx := by
  induction idx with
  | nil => rfl
  | cons r t ih =>
    simp only [dictView] at ih
    simp [dictView, ih]

/-! ### the IAB key of a record: only its `(base 16)` lines matter -/

theorem iabCont_raw_ok {p : List Nat} {b : Line} {k : IabKey} (hb : hasBase16 b = true) (h : iabCont (.raw p) b = .ok k) :
    ∃ n, k = .num n := by
  rw [iabCont_raw hb] at h
  obtain ⟨_, _, h⟩ := Exc.bind_eq_ok.mp h
  obtain ⟨v, _, h⟩ := Exc.bind_eq_ok.mp h
  cases h
  exact ⟨_, rfl⟩

theorem iab_recKey_filter (h : Line) (t : List Line) :
    recKey iabStart iabCont (h :: t) =
      (firstTok h >>= fun p => (t.filter hasBase16).foldlM iabCont (.raw p)) := by
  simp only [recKey, iabStart, bind_assoc, pure_bind]
  exact bind_congr fun p => foldlM_filter iabCont hasBase16 (fun _ hl k => iabCont_other hl k) t _

theorem iab_recKey_eq {h b : Line} (t1 t2 : List Line)
    (h1 : ∀ l ∈ t1, hasBase16 l = false) (h2 : ∀ l ∈ t2, hasBase16 l = false) (hb : hasBase16 b = true) :
    recKey iabStart iabCont (h :: (t1 ++ b :: t2)) = (firstTok h >>= fun p => iabCont (.raw p) b) := by
  rw [iab_recKey_filter, List.filter_append, List.filter_cons_of_pos hb,
    List.filter_eq_nil_iff.mpr fun l hl => by simp [h1 l hl], List.filter_eq_nil_iff.mpr fun l hl => by simp [h2 l hl]]
  exact bind_congr fun p => bind_pure _

theorem iab_recKey_kind (h : Line) (t : List Line) (k : IabKey) (hk : recKey iabStart iabCont (h :: t) = .ok k) :
    (∃ n, k = .num n) ↔ ∃ l ∈ t, hasBase16 l = true := by
  rw [iab_recKey_filter] at hk
  obtain ⟨p, _, hk⟩ := Exc.bind_eq_ok.mp hk
  rw [show (∃ l ∈ t, hasBase16 l = true) ↔ t.filter hasBase16 ≠ [] by simp [List.filter_eq_nil_iff]]
  have hmem : ∀ l ∈ t.filter hasBase16, hasBase16 l = true := fun l hl => (List.mem_filter.mp hl).2
  generalize t.filter hasBase16 = bs at hk hmem
  match bs with
  | [] => cases hk; simp
  | b :: r =>
    rw [List.foldlM_cons] at hk
    obtain ⟨k1, h1, hk⟩ := Exc.bind_eq_ok.mp hk
    obtain ⟨n, rfl⟩ := iabCont_raw_ok (hmem b List.mem_cons_self) h1
    match r with
    | [] => cases hk; simp
    | c :: _ =>
      rw [List.foldlM_cons, iabCont_int (hmem c (List.mem_cons_of_mem _ List.mem_cons_self))] at hk
      cases hk

end NV.C19L
