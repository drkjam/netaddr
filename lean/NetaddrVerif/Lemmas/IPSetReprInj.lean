/-
Lemmas/IPSetReprInj.lean — `repr(IPSet)` determines the set.  The list of CIDR strings
determines the stored keys (C03's `str()` round trip makes the printer injective), hence —
under the invariant — the set; and the full text determines the list of CIDR strings:
`str(IPNetwork)` only uses hex digits, `.`, `:` and `/` (so no quote), and the quoted,
comma-separated rendering of quote-free strings is injective.
The declarations stand in `NV.IPSet.Iter`, the namespace IPSetIterAddrs, IPSetStore and this file share.
-/
import NetaddrVerif.Lemmas.IPSetLine
import NetaddrVerif.Props.C03b
import NetaddrVerif.Model.IPSetText
namespace NV.IPSet.Iter
open NV NV.IPSet NV.AddrParse NV.NetParse

/-- `str()` of in-range networks is injective: the text parses back to the network (C03) -/
theorem netStr_inj (be : Backend) (a b : Net) (ha : a.WF) (hb : b.WF) (h : netStr be a = netStr be b) : a = b := by
  have h1 : ipNetwork be (.str (netStr be a)) false none 0 = .ok a := C03.str_roundtrip_all be a ha none (Or.inl rfl) 0 false
  have h2 : ipNetwork be (.str (netStr be b)) false none 0 = .ok b := C03.str_roundtrip_all be b hb none (Or.inl rfl) 0 false
  rw [h, h2] at h1
  injection h1 with h1
  exact h1.symm

theorem reprStrs_inj (be : Backend) (s t : St) (hs : ∀ n ∈ s, n.WF) (ht : ∀ n ∈ t, n.WF)
    (h : reprStrs be s = reprStrs be t) : reprSet s = reprSet t :=
  map_inj_on (netStr be) Net.WF (netStr_inj be) _ _
    (fun n hn => hs n ((mem_iterCidrs s n).1 hn)) (fun n hn => ht n ((mem_iterCidrs t n).1 hn)) h

theorem reprSet_eq_iff (s t : St) (hs : Inv s) (ht : Inv t) : reprSet s = reprSet t ↔ IPSet.eq s t = true := by
  rw [eq_iff_mem s t hs ht]
  constructor
  · intro h n
    rw [← mem_iterCidrs s n, ← mem_iterCidrs t n]
    show n ∈ reprSet s ↔ n ∈ reprSet t
    rw [h]
  · intro h
    exact shown_unique s t hs ht (denS_of_mem h)

open NV.Text4 NV.Text6 NV.C01L

def CidrCh (c : Char) : Prop := isHexC c = true ∨ c = '.' ∨ c = ':' ∨ c = '/'

theorem dec_cidrCh (n : Nat) : ∀ c ∈ dec n, CidrCh c :=
  fun c hc => Or.inl (C01L.AtonG.hex_of_dec c (C03L.dec_decCh n c hc).isDec)

theorem ntoa_cidrCh (v : Nat) : ∀ c ∈ ntoa v, CidrCh c := by
  intro c hc
  rcases mem_ntoa v c hc with h | h | h | h | h
  · exact Or.inr (Or.inl h)
  all_goals exact dec_cidrCh _ c h

theorem ntop6_cidrCh (v : Nat) (hv : v < 2 ^ 128) : ∀ c ∈ ntop6 v, CidrCh c := by
  intro c hc
  rcases ntop6_chars v hv c hc with e | e | e
  · exact Or.inl e
  · exact Or.inr (Or.inr (Or.inl e))
  · exact Or.inr (Or.inl e)

theorem netStr_cidrCh (be : Backend) (n : Net) (hn : n.WF) : ∀ c ∈ netStr be n, CidrCh c := by
  intro c hc
  unfold netStr at hc
  simp only [List.mem_append, List.mem_singleton] at hc
  rcases hc with (h | h) | h
  · unfold intToStr at h
    rcases hn.1 with hv | hv
    · rw [if_pos hv] at h; exact ntoa_cidrCh _ c h
    · rw [if_neg (by omega)] at h
      have hlt : n.val < 2 ^ 128 := by have := hn.2.1; rw [hv] at this; exact this
      have h' : c ∈ inetNtop6 be n.val := h
      rw [inetNtop6_eq be n.val hlt] at h'
      exact ntop6_cidrCh _ hlt c h'
  · exact Or.inr (Or.inr (Or.inr h))
  · exact dec_cidrCh _ c h

theorem quote_not_cidrCh : ¬ CidrCh '\'' := by unfold CidrCh; decide

theorem netStr_noquote (be : Backend) (n : Net) (hn : n.WF) : '\'' ∉ netStr be n :=
  fun h => quote_not_cidrCh (netStr_cidrCh be n hn _ h)

/-! ### the quoted join is injective on quote-free strings -/

theorem joinQuoted_cons (a : List Char) (r : List (List Char)) :
    joinQuoted (a :: r) = '\'' :: (a ++ '\'' :: (if r = [] then [] else [',', ' '] ++ joinQuoted r)) := by
  cases r with
  | nil => simp [joinQuoted, pyStrRepr]
  | cons b r' => simp [joinQuoted, pyStrRepr]

theorem joinQuoted_inj : ∀ (A B : List (List Char)), (∀ t ∈ A, '\'' ∉ t) → (∀ t ∈ B, '\'' ∉ t) →
    joinQuoted A = joinQuoted B → A = B
  | [], [], _, _, _ => rfl
  | [], b :: B, _, _, h => by rw [joinQuoted_cons] at h; simp [joinQuoted] at h
  | a :: A, [], _, _, h => by rw [joinQuoted_cons] at h; simp [joinQuoted] at h
  | a :: A, b :: B, hA, hB, h => by
    rw [joinQuoted_cons, joinQuoted_cons] at h
    simp only [List.cons.injEq, true_and] at h
    obtain ⟨e1, e2⟩ := append_cons_inj (hA a (List.mem_cons_self ..)) (hB b (List.mem_cons_self ..)) h
    subst e1
    congr 1
    by_cases hA' : A = [] <;> by_cases hB' : B = []
    · rw [hA', hB']
    · rw [if_pos hA', if_neg hB'] at e2; simp at e2
    · rw [if_neg hA', if_pos hB'] at e2; simp at e2
    · rw [if_neg hA', if_neg hB'] at e2
      exact joinQuoted_inj A B (fun t ht => hA t (List.mem_cons_of_mem _ ht))
        (fun t ht => hB t (List.mem_cons_of_mem _ ht)) (List.append_cancel_left e2)

theorem pyListRepr_inj (A B : List (List Char)) (hA : ∀ t ∈ A, '\'' ∉ t) (hB : ∀ t ∈ B, '\'' ∉ t)
    (h : pyListRepr A = pyListRepr B) : A = B := by
  unfold pyListRepr at h
  injection h with _ h
  exact joinQuoted_inj A B hA hB (List.append_cancel_right h)

theorem reprText_inj (be : Backend) (s t : St) (hs : ∀ n ∈ s, n.WF) (ht : ∀ n ∈ t, n.WF)
    (h : reprText be s = reprText be t) : reprStrs be s = reprStrs be t := by
  unfold reprText at h
  have h1 := List.append_cancel_left (List.append_cancel_right h)
  have hq : ∀ u : St, (∀ n ∈ u, n.WF) → ∀ x ∈ reprStrs be u, '\'' ∉ x := by
    intro u hu x hx
    obtain ⟨n, hn, rfl⟩ := List.mem_map.1 hx
    exact netStr_noquote be n (hu n ((mem_iterCidrs u n).1 hn))
  exact pyListRepr_inj _ _ (hq s hs) (hq t ht) h1

end NV.IPSet.Iter
