/-
Lemmas/C15LBits.lean — binary numerals: `padBits n v` (n binary digits of v, most significant first) as the
one-bit words of v, the byte-chunk construction of `wordBits` behind `int_to_bits`, `valid_bits` / `valid_bin`
with their decoders, and the bit-string round trip for every separator that Lemmas/C15LSep.lean can strip.
Core only.
-/
import NetaddrVerif.Lemmas.C15LBytes
import NetaddrVerif.Lemmas.C15LSep
import NetaddrVerif.Lemmas.Numerals
namespace NV.Codec
open NV.Py NV.PyL

/-- the n-digit zero-padded binary spelling of v (mod 2^n), most significant digit first -/
def padBits (n v : Nat) : List Char := (byteBitsLE n v).reverse

theorem bit01_mod (v : Nat) : bit01 (v % 2) = bit01 v := by simp [bit01]

theorem byteBitsLE_eq (n v : Nat) : byteBitsLE n v = (wordsLoop 1 n v).map bit01 := by
  induction n generalizing v with
  | zero => rfl
  | succ n ih =>
    simp only [byteBitsLE, wordsLoop, List.map_cons, ih]
    have : v &&& 2 ^ 1 - 1 = v % 2 := Nat.and_two_pow_sub_one_eq_mod v 1
    rw [this, bit01_mod]

theorem padBits_eq (n v : Nat) : padBits n v = (beWords 1 n v).map bit01 := by
  rw [padBits, byteBitsLE_eq, ← List.map_reverse, beWords]

theorem padBits_length (n v : Nat) : (padBits n v).length = n := by
  rw [padBits_eq, List.length_map, beWords_length]

theorem padBits_add (a b v : Nat) : padBits (a + b) v = padBits a (v / 2 ^ b) ++ padBits b v := by
  simp only [padBits_eq, beWords_add, List.map_append, Nat.one_mul]

theorem padBits_mod (n v : Nat) : padBits n (v % 2 ^ n) = padBits n v := by
  have := beWords_mod 1 n v
  rw [Nat.one_mul] at this
  rw [padBits_eq, this, padBits_eq]

theorem padBits_zero_val (n : Nat) : padBits n 0 = List.replicate n '0' := by
  rw [padBits_eq, beWords_zero, List.map_replicate]
  rfl

theorem padBits_zeros (n m v : Nat) (hv : v < 2 ^ n) (hnm : n ≤ m) :
    padBits m v = List.replicate (m - n) '0' ++ padBits n v := by
  have e : m = (m - n) + n := by omega
  conv => lhs; rw [e, padBits_add]
  rw [Nat.div_eq_of_lt hv, padBits_zero_val]

theorem is01_bit01 (n : Nat) : is01 (bit01 n) = true := by
  unfold bit01 is01; split <;> rfl

theorem is01_iff (c : Char) : is01 c = true ↔ c = '0' ∨ c = '1' := by
  simp [is01]

theorem padBits_01 (n v : Nat) : ∀ c ∈ padBits n v, is01 c = true := by
  intro c hc
  rw [padBits_eq] at hc
  obtain ⟨x, _, rfl⟩ := List.mem_map.mp hc
  exact is01_bit01 x

theorem digitVal2_of_is01 (c : Char) (h : is01 c = true) : ∃ d, digitVal 2 c = some d := by
  simp only [is01, Bool.or_eq_true, beq_iff_eq] at h
  rcases h with rfl | rfl
  · exact ⟨0, by decide⟩
  · exact ⟨1, by decide⟩

theorem digitVal2_bit01 (n : Nat) : (digitVal 2 (bit01 n)).getD 0 = n % 2 := by
  unfold bit01
  by_cases h : n % 2 = 1
  · rw [if_pos h, h]; decide
  · rw [if_neg h]; have : n % 2 = 0 := by omega
    rw [this]; decide

/-- Horner's rule for the one-bit words of v, read through `bit01` -/
theorem digitsNat_padBits (n v acc : Nat) : digitsNat 2 (padBits n v) acc = acc * 2 ^ n + v % 2 ^ n := by
  have h := horner_eq 1 (beWords 1 n v) acc
  rw [Nat.pow_one, beWords_length, beWordsValue_beWords, Nat.one_mul] at h
  rw [← h, padBits_eq, digitsNat, List.foldl_map]
  exact foldl_congr_mem _ (fun a w hw => by
    rw [digitVal2_bit01, Nat.mod_eq_of_lt (beWords_lt 1 n v w hw)]) acc

theorem toDigits2_01 (v : Nat) : ∀ c ∈ Nat.toDigits 2 v, c = '0' ∨ c = '1' :=
  toDigits_all (by decide) _ (by decide) v

theorem digitsNat_toDigits2 (v : Nat) : digitsNat 2 (Nat.toDigits 2 v) 0 = v :=
  foldl_toDigits_zero (by decide) (fun c => (digitVal 2 c).getD 0) (by decide) v

theorem bytesToBits_eq (b : Nat) : bytesToBits b = padBits 8 b := rfl

/-- the byte loop of `int_to_bits` on one word: its chunks, most significant first, spell the word with 8
    digits per chunk, they hold all of it, and there is none exactly for 0 (the `or '0' * word_size` case) -/
theorem wordChunks_spec : ∀ fuel word, word ≤ fuel →
    ((wordChunks fuel word).reverse.flatten = padBits (8 * (wordChunks fuel word).length) word ∧
     word < 2 ^ (8 * (wordChunks fuel word).length) ∧
     ((wordChunks fuel word) = [] ↔ word = 0)) := by
  intro fuel
  induction fuel with
  | zero =>
    intro word h
    have : word = 0 := by omega
    subst this; simp [wordChunks, padBits, byteBitsLE]
  | succ f ih =>
    intro word h
    by_cases h0 : word = 0
    · subst h0; simp [wordChunks, padBits, byteBitsLE]
    · have hq : word >>> 8 = word / 2 ^ 8 := Nat.shiftRight_eq_div_pow word 8
      have hb : word &&& 255 = word % 2 ^ 8 := Nat.and_two_pow_sub_one_eq_mod word 8
      have hle : word / 2 ^ 8 ≤ f := by
        have : word / 2 ^ 8 < word := Nat.div_lt_self (by omega) (by decide)
        omega
      obtain ⟨i1, i2, _⟩ := ih (word / 2 ^ 8) hle
      simp only [wordChunks, h0, if_false, hq, List.reverse_cons, List.flatten_append, List.flatten_cons,
        List.flatten_nil, List.append_nil, List.length_cons, i1, bytesToBits_eq, hb]
      generalize (wordChunks f (word / 2 ^ 8)).length = n at *
      refine ⟨?_, ?_, by simp⟩
      · rw [Nat.mul_succ, padBits_add, padBits_mod]
      · rw [Nat.mul_succ, Nat.pow_add]
        exact (Nat.div_lt_iff_lt_mul (by decide : 0 < 2 ^ 8)).mp i2

/-- `('0' * ws + bits)[-ws:]` of an m-digit spelling of a word below 2^ws is its ws-digit spelling -/
theorem takeLast_padBits (ws m word : Nat) (hws : ws ≠ 0) (hm : word < 2 ^ m) :
    takeLast ws (List.replicate ws '0' ++ padBits m word) = padBits ws word := by
  have e := padBits_zeros m (ws + m) word hm (Nat.le_add_left m ws)
  rw [Nat.add_sub_cancel, Nat.add_comm ws m, padBits_add] at e
  rw [takeLast, if_neg hws, ← e, List.length_append, padBits_length, padBits_length, Nat.add_sub_cancel,
    List.drop_left' (padBits_length _ _)]

theorem wordBits_spec (ws word : Nat) (hw : word < 2 ^ ws) : wordBits ws word = padBits ws word := by
  obtain ⟨c1, c2, c3⟩ := wordChunks_spec word word (Nat.le_refl _)
  by_cases hws : ws = 0
  · -- then word = 0: no chunks, and `[-0:]` keeps the empty string
    subst hws
    have h0 : word = 0 := by simpa using hw
    subst h0
    rfl
  · unfold wordBits
    simp only [c1]
    by_cases h0 : word = 0
    · -- no chunks: `or '0' * word_size`
      rw [c3.mpr h0, h0, List.length_nil]
      show takeLast ws (_ ++ List.replicate ws '0') = _
      have e := takeLast_padBits ws ws 0 hws (Nat.two_pow_pos ws)
      rw [padBits_zero_val] at e ⊢
      exact e
    · have hne : (padBits (8 * (wordChunks word word).length) word).isEmpty = false := by
        rw [List.isEmpty_eq_false_iff, ← List.length_pos_iff, padBits_length]
        have := List.length_pos_iff.mpr (mt c3.mp h0)
        omega
      simp only [hne, Bool.false_eq_true, if_false]
      exact takeLast_padBits ws _ word hws c2

theorem flatten_padBits_words (ws n v : Nat) :
    ((beWords ws n v).map (padBits ws)).flatten = padBits (ws * n) v := by
  have h := regroup 1 ws n v
  rw [Nat.one_mul] at h
  rw [padBits_eq, funext (padBits_eq ws), ← h, List.map_flatten, List.map_map]
  rfl

theorem any_not01_eq_false (t : List Char) :
    t.any (fun c => !is01 c) = false ↔ ∀ c ∈ t, c = '0' ∨ c = '1' := by
  simp only [List.any_eq_false, Bool.not_eq_true', Bool.not_eq_false, is01_iff]

theorem pyInt2_bits (t : List Char) (hne : t ≠ []) (h01 : ∀ c ∈ t, c = '0' ∨ c = '1') :
    pyInt 2 t = some (Int.ofNat (digitsNat 2 t 0)) :=
  pyInt_digits 2 t hne (fun c hc => digitVal2_of_is01 c ((is01_iff c).mpr (h01 c hc)))

/-- on at most `width` binary digits the range test only asks for a digit: their value is
    below 2^width anyway, and `int('', 2)` raises -/
theorem inRange2_bits (t : List Char) (width : Nat) (h01 : ∀ c ∈ t, c = '0' ∨ c = '1')
    (hl : t.length ≤ width) : inRange2 t width = true ↔ t ≠ [] := by
  constructor
  · rintro h rfl
    simp [inRange2, pyInt, stripWs] at h
  · intro hne
    have hlt : digitsNat 2 t 0 < 2 ^ width := digitsNat_zero_lt (by decide) t hl
    have hz : (digitsNat 2 t 0 : Int) < (2 : Int) ^ width := by exact_mod_cast hlt
    simp only [inRange2, pyInt2_bits t hne h01, decide_eq_true_eq, Int.ofNat_eq_natCast]
    omega

/-- the two tests shared by `valid_bits` and `valid_bin` after their length test: every character
    a binary digit, then `int(t, 2)` in range -/
theorem check01_iff (t : List Char) (width : Nat) (hl : t.length ≤ width) :
    (if t.any (fun c => !is01 c) = true then false else inRange2 t width) = true ↔
      t ≠ [] ∧ ∀ c ∈ t, c = '0' ∨ c = '1' := by
  by_cases h01 : ∀ c ∈ t, c = '0' ∨ c = '1'
  · rw [(any_not01_eq_false t).mpr h01, if_neg Bool.false_ne_true, inRange2_bits t width h01 hl]
    exact ⟨fun h => ⟨h, h01⟩, fun h => h.1⟩
  · rw [if_pos (by rw [← Bool.not_eq_false, any_not01_eq_false]; exact h01)]
    exact ⟨fun h => absurd h Bool.false_ne_true, fun h => absurd h.2 h01⟩

/-- `valid_bits` and `bits_to_int` test `if word_sep != ''` before `bits.replace(word_sep, '')`;
    `replaceDel` starts with the same test, so the guarded form is `replaceDel sep s` -/
theorem strip_eq (sep s : List Char) : (if sep ≠ [] then replaceDel sep s else s) = replaceDel sep s := by
  by_cases h : sep = []
  · rw [if_neg (fun h' => h' h), replaceDel, if_pos h]
  · rw [if_pos h]

/-- `valid_bits`: with the separator occurrences removed, exactly the strings of `width ≥ 1`
    binary digits (for `width = 0` nothing is valid: `int('', 2)` raises) -/
theorem validBits_iff (s : List Char) (width : Nat) (sep : List Char) :
    validBits s width sep = true ↔
      ((replaceDel sep s).length = width ∧ (∀ c ∈ replaceDel sep s, c = '0' ∨ c = '1') ∧ 1 ≤ width) := by
  simp only [validBits, strip_eq]
  generalize replaceDel sep s = t
  by_cases hl : t.length = width
  · subst hl
    rw [if_neg (fun h => h rfl), check01_iff t _ (Nat.le_refl _), ← List.length_pos_iff]
    exact ⟨fun h => ⟨rfl, h.2, h.1⟩, fun h => ⟨h.2.2, h.2.1⟩⟩
  · rw [if_pos hl]
    exact ⟨fun h => absurd h Bool.false_ne_true, fun h => absurd h.1 hl⟩

theorem bitsToInt_eq (s : List Char) (width : Nat) (sep : List Char) :
    bitsToInt s width sep = if validBits s width sep = true
      then .ok (Int.ofNat (digitsNat 2 (replaceDel sep s) 0)) else .error .value := by
  cases hv : validBits s width sep with
  | false => simp [bitsToInt, hv]
  | true =>
    obtain ⟨hl, h01, hw⟩ := (validBits_iff s width sep).mp hv
    have hne : replaceDel sep s ≠ [] := by
      rw [← List.length_pos_iff, hl]; exact hw
    simp only [bitsToInt, hv, Bool.not_true, Bool.false_eq_true, if_false, strip_eq, pyInt2_bits _ hne h01, if_true]

theorem validBin_cons (t : List Char) (width : Nat) :
    validBin ('0' :: 'b' :: t) width = true ↔
      t ≠ [] ∧ t.length ≤ width ∧ ∀ c ∈ t, c = '0' ∨ c = '1' := by
  simp only [validBin, List.isPrefixOf, beq_self_eq_true, Bool.and_self, Bool.not_true, Bool.false_eq_true,
    if_false, List.drop_succ_cons, List.drop_zero]
  by_cases hl : t.length ≤ width
  · rw [if_neg (Nat.not_lt.mpr hl), check01_iff t width hl]
    exact ⟨fun h => ⟨h.1, hl, h.2⟩, fun h => ⟨h.1, h.2.2⟩⟩
  · rw [if_pos (Nat.lt_of_not_le hl)]
    exact ⟨fun h => absurd h Bool.false_ne_true, fun h => absurd h.2.1 hl⟩

theorem validBin_iff (s : List Char) (width : Nat) :
    validBin s width = true ↔
      ∃ t, s = '0' :: 'b' :: t ∧ t ≠ [] ∧ t.length ≤ width ∧ ∀ c ∈ t, c = '0' ∨ c = '1' := by
  constructor
  · intro hv
    have hp : ['0', 'b'].isPrefixOf s = true := by
      cases hp : ['0', 'b'].isPrefixOf s with
      | true => rfl
      | false => simp [validBin, hp] at hv
    obtain ⟨t, rfl⟩ := List.isPrefixOf_iff_prefix.mp hp
    exact ⟨t, rfl, (validBin_cons t width).mp hv⟩
  · rintro ⟨t, rfl, h⟩
    exact (validBin_cons t width).mpr h

theorem binToInt_eq (s : List Char) (width : Nat) :
    binToInt s width = if validBin s width = true
      then .ok (Int.ofNat (digitsNat 2 (s.drop 2) 0)) else .error .value := by
  cases hv : validBin s width with
  | false => simp [binToInt, hv]
  | true =>
    obtain ⟨t, rfl, hne, _, h01⟩ := (validBin_iff s width).mp hv
    simp only [binToInt, hv, Bool.not_true, Bool.false_eq_true, if_false, List.drop_succ_cons, List.drop_zero,
      pyInt2_bits t hne h01, if_true]

theorem intToBits_ok {v ws nw : Nat} (sep : List Char) (hv : v < 2 ^ (nw * ws)) :
    intToBits v ws nw sep = .ok (sep.intercalate ((beWords ws nw v).map (padBits ws))) := by
  simp only [intToBits, intToWords_ok hv]
  show Except.ok _ = _
  congr 2
  apply List.map_congr_left
  intro w hw
  exact wordBits_spec ws w (beWords_lt ws nw v w hw)

theorem intToBits_error {v ws nw : Nat} (sep : List Char) (hv : ¬ v < 2 ^ (nw * ws)) :
    intToBits v ws nw sep = .error .index := by
  simp only [intToBits, intToWords_error hv]
  rfl

theorem bits_roundtrip_sep (v ws nw : Nat) (sep : List Char) (hv : v < 2 ^ (nw * ws)) (hw : 1 ≤ ws * nw)
    (hsep : sep = [] ∨ ∃ c ∈ sep, c ≠ '0' ∧ c ≠ '1') :
    ∃ s, intToBits v ws nw sep = .ok s ∧ bitsToInt s (ws * nw) sep = .ok (Int.ofNat v) := by
  refine ⟨_, intToBits_ok sep hv, ?_⟩
  -- the words are binary digits and the separator has another character: stripping it leaves the ws·nw digits of v
  have hstrip : replaceDel sep (sep.intercalate ((beWords ws nw v).map (padBits ws))) = padBits (ws * nw) v := by
    rw [← flatten_padBits_words]
    exact C15L.Sep.replaceDel_intercalate_any is01 sep _
      (fun l hl c hc => by
        obtain ⟨w, _, rfl⟩ := List.mem_map.mp hl
        exact padBits_01 ws w c hc)
      (hsep.imp_right fun ⟨c, hc, h⟩ => ⟨c, hc, Bool.eq_false_iff.mpr (mt (is01_iff c).mp (not_or.mpr h))⟩)
  have hvalid := (validBits_iff (sep.intercalate ((beWords ws nw v).map (padBits ws))) (ws * nw) sep).mpr
    (by rw [hstrip]; exact ⟨padBits_length _ v, fun c hc => (is01_iff c).mp (padBits_01 _ v c hc), hw⟩)
  rw [bitsToInt_eq, if_pos hvalid, hstrip, digitsNat_padBits, Nat.mul_comm ws nw, Nat.mod_eq_of_lt hv,
    Nat.zero_mul, Nat.zero_add]

end NV.Codec
