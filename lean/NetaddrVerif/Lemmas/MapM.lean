/-
Lemmas/MapM.lean — `List.mapM` in `Option` and `Except ε`: one step of a successful `mapM`, success and failure
element by element (in `Except ε` the error is that of the first element that fails), when two passes over a
list are one; `List.foldlM` may skip the elements on which the step returns its state. Core Lean only.
-/
namespace NV

theorem mapM_eq_pure_map {m : Type → Type} [Monad m] [LawfulMonad m] {α β : Type} (f : α → m β) (g : α → β) :
    ∀ l : List α, (∀ a ∈ l, f a = pure (g a)) → l.mapM f = pure (l.map g)
  | [], _ => rfl
  | a :: t, h => by
    rw [List.mapM_cons, h a List.mem_cons_self, mapM_eq_pure_map f g t (fun b hb => h b (List.mem_cons_of_mem a hb)),
      pure_bind, pure_bind, List.map_cons]

theorem mapM_map {m : Type → Type} [Monad m] [LawfulMonad m] {α β γ : Type} (f : α → m β) (g : β → γ) :
    ∀ l : List α, l.mapM (fun x => g <$> f x) = List.map g <$> l.mapM f
  | [] => by rw [List.mapM_nil, List.mapM_nil, map_pure, List.map_nil]
  | a :: l => by
    rw [List.mapM_cons, List.mapM_cons, mapM_map f g l]
    simp only [map_eq_pure_bind, bind_assoc, pure_bind, List.map_cons]

theorem mapM_cons_ok {ε α β : Type} {f : α → Except ε β} {a : α} {l : List α} {rs : List β} :
    (a :: l).mapM f = .ok rs ↔ ∃ b bs, f a = .ok b ∧ l.mapM f = .ok bs ∧ rs = b :: bs := by
  rw [List.mapM_cons]
  cases f a <;> cases l.mapM f <;> simp [bind, Except.bind, pure, Except.pure, eq_comm]

theorem mapM_cons_some {α β} {f : α → Option β} {a : α} {l : List α} {rs : List β} :
    (a :: l).mapM f = some rs ↔ ∃ b bs, f a = some b ∧ l.mapM f = some bs ∧ rs = b :: bs := by
  rw [List.mapM_cons]
  cases f a <;> cases l.mapM f <;> simp [eq_comm]

/-- one step as a `match`, the form to rewrite with when `f a` is known -/
theorem mapM_exc_cons {ε α β : Type} (f : α → Except ε β) (a : α) (l : List α) :
    (a :: l).mapM f = match f a with
      | .error e => .error e
      | .ok b => match l.mapM f with
        | .error e => .error e
        | .ok bs => .ok (b :: bs) := by
  rw [List.mapM_cons]
  cases f a with
  | error e => rfl
  | ok b => cases l.mapM f <;> rfl

theorem mapM_opt_cons {α β : Type} (f : α → Option β) (a : α) (l : List α) :
    (a :: l).mapM f = match f a with
      | none => none
      | some b => match l.mapM f with
        | none => none
        | some bs => some (b :: bs) := by
  rw [List.mapM_cons]
  cases f a with
  | none => rfl
  | some b => cases l.mapM f <;> rfl

/-- `mapM` of a function that succeeds exactly on `P`, always failing with the same error -/
theorem mapM_ite {ε α β : Type} {P : α → Prop} [DecidablePred P] {g : α → β} {e : ε} {f : α → Except ε β}
    (hf : ∀ a, f a = if P a then .ok (g a) else .error e) :
    ∀ l : List α, l.mapM f = if ∀ a ∈ l, P a then .ok (l.map g) else .error e
  | [] => (if_pos fun _ h => nomatch h).symm
  | a :: r => by
    rw [mapM_exc_cons, hf, mapM_ite hf r]
    by_cases ha : P a
    · by_cases hr : ∀ a ∈ r, P a
      · rw [if_pos ha, if_pos hr, if_pos (List.forall_mem_cons.2 ⟨ha, hr⟩)]
        rfl
      · rw [if_pos ha, if_neg hr, if_neg fun h => hr (List.forall_mem_cons.1 h).2]
    · rw [if_neg ha, if_neg fun h => ha (List.forall_mem_cons.1 h).1]

theorem mapM_eq_some_iff {α β} {f : α → Option β} : ∀ {l : List α} {rs : List β},
    l.mapM f = some rs ↔ l.map f = rs.map some
  | [], rs => by cases rs <;> simp
  | a :: l, rs => by
    rw [mapM_cons_some]
    constructor
    · rintro ⟨b, bs, hb, hbs, rfl⟩
      rw [List.map_cons, hb, mapM_eq_some_iff.1 hbs, List.map_cons]
    · intro h
      cases rs with
      | nil => cases h
      | cons b bs =>
        rw [List.map_cons, List.map_cons, List.cons.injEq] at h
        exact ⟨b, bs, h.1, mapM_eq_some_iff.2 h.2, rfl⟩

theorem mapM_length {α β} {f : α → Option β} {l : List α} {rs : List β} (h : l.mapM f = some rs) :
    rs.length = l.length := by
  rw [← List.length_map some, ← mapM_eq_some_iff.1 h, List.length_map]

theorem mapM_none {α β} {f : α → Option β} {l : List α} {x : α} (hx : x ∈ l) (hf : f x = none) : l.mapM f = none := by
  cases hm : l.mapM f with
  | none => rfl
  | some rs =>
    obtain ⟨_, _, h⟩ := List.mem_map.1 (mapM_eq_some_iff.1 hm ▸ hf ▸ List.mem_map_of_mem (f := f) hx)
    cases h

theorem mapM_all {α β} {f : α → Option β} {l : List α} {r : List β} (h : l.mapM f = some r) :
    ∀ x ∈ l, ∃ y, f x = some y := by
  intro x hx
  cases hf : f x with
  | none => rw [mapM_none hx hf] at h; cases h
  | some y => exact ⟨y, rfl⟩

/-- `mapM` in `Except ε` fails with the error of the first element that fails -/
theorem mapM_error_iff {ε α β : Type} {f : α → Except ε β} {e : ε} {l : List α} :
    l.mapM f = .error e ↔ ∃ pre x post, l = pre ++ x :: post ∧ f x = .error e ∧ ∃ ys, pre.mapM f = .ok ys := by
  refine ⟨fun h => ?_, fun ⟨pre, x, post, hl, hx, ys, hp⟩ => by rw [hl, List.mapM_append, hp, List.mapM_cons, hx]; rfl⟩
  induction l with
  | nil => cases h
  | cons a l ih =>
    rw [List.mapM_cons] at h
    cases ha : f a with
    | error e' => rw [ha] at h; cases h; exact ⟨[], a, l, rfl, ha, [], rfl⟩
    | ok b =>
      cases hl : l.mapM f with
      | ok bs => rw [ha, hl] at h; cases h
      | error e' =>
        rw [ha, hl] at h
        cases h
        obtain ⟨pre, x, post, rfl, hx, ys, hp⟩ := ih hl
        exact ⟨a :: pre, x, post, rfl, hx, b :: ys, mapM_cons_ok.2 ⟨b, ys, ha, hp, rfl⟩⟩

theorem mapM_error_mem {ε α β : Type} {f : α → Except ε β} {e : ε} {l : List α} (h : l.mapM f = .error e) :
    ∃ x ∈ l, f x = .error e := by
  obtain ⟨pre, x, _, rfl, hx, _⟩ := mapM_error_iff.1 h
  exact ⟨x, List.mem_append_right pre List.mem_cons_self, hx⟩

theorem mapM_ok_iff {ε α β : Type} {f : α → Except ε β} {l : List α} :
    (∃ rs, l.mapM f = .ok rs) ↔ ∀ x ∈ l, ∃ b, f x = .ok b := by
  induction l with
  | nil => exact ⟨fun _ _ h => (nomatch h), fun _ => ⟨[], rfl⟩⟩
  | cons a l ih =>
    rw [List.forall_mem_cons, ← ih, mapM_exc_cons]
    cases f a <;> cases l.mapM f <;> simp

/-- converting a whole list by `f` and then the result by `g` is one pass with `f` then `g` on each
    element, provided no error can tell which pass raised it: the second pass of the left side
    starts only when the first is through, so an element that fails in `f` can be overtaken by an
    earlier one that fails in `g` -/
theorem mapM_two_pass {ε α β γ : Type} (f : α → Except ε β) (g : β → Except ε γ) (e₀ : ε)
    (hf : ∀ x e, f x = .error e → e = e₀) (hg : ∀ x y e, f x = .ok y → g y = .error e → e = e₀) :
    ∀ xs : List α, (xs.mapM f).bind (fun ys => ys.mapM g) = xs.mapM (fun x => (f x).bind g)
  | [] => rfl
  | x :: xs => by
    rw [List.mapM_cons, List.mapM_cons, ← mapM_two_pass f g e₀ hf hg xs]
    cases hx : f x with
    | error e => rfl
    | ok y =>
      cases hxs : xs.mapM f with
      | ok ys => exact List.mapM_cons
      | error e =>
        show Except.error e = (g y).bind fun _ => Except.error e
        cases hy : g y with
        | ok _ => rfl
        | error e' =>
          obtain ⟨z, _, hz⟩ := mapM_error_mem hxs
          rw [hf z e hz, hg x y e' hx hy]
          rfl

/-- a monadic fold may skip the elements on which the step returns its state -/
theorem foldlM_filter {m : Type → Type} [Monad m] [LawfulMonad m] {α β : Type} (f : β → α → m β) (p : α → Bool)
    (h : ∀ a, p a = false → ∀ b, f b a = pure b) (l : List α) : ∀ b, l.foldlM f b = (l.filter p).foldlM f b := by
  induction l with
  | nil => intro b; rfl
  | cons a l ih =>
    intro b
    by_cases hp : p a = true
    · rw [List.filter_cons_of_pos hp, List.foldlM_cons, List.foldlM_cons]
      exact bind_congr ih
    · rw [List.filter_cons_of_neg hp, List.foldlM_cons, h a (by simpa using hp), pure_bind, ih]

end NV
