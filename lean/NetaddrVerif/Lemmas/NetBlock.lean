/-
Lemmas/NetBlock.lean — a network `(w, v, p)` — width, stored value, prefix length — as the aligned block
`[first, first + 2^(w-p))`.  Everything is stated on the triple: `Net.first`, `Pfx.first`, `IPSet.blk`
and the other views of a network unfold to `netFirst w v p` / `blkOf w v p`, so their lemmas are
instances of these.
-/
import NetaddrVerif.Lemmas.NetworkL
import NetaddrVerif.Lemmas.Canon
namespace NV

def blkOf (w v p : Nat) : Blk := ⟨netFirst w v p, w - p⟩

theorem blkOf_aligned (w v p : Nat) (hv : v < 2 ^ w) : (blkOf w v p).aligned := by
  show netFirst w v p % 2 ^ (w - p) = 0
  rw [netFirst_eq w v p hv]; exact Nat.mul_mod_left _ _

theorem blkOf_mem (w v p a : Nat) (hv : v < 2 ^ w) :
    (blkOf w v p).mem a ↔ netFirst w v p ≤ a ∧ a ≤ netLast w v p := by
  show netFirst w v p ≤ a ∧ a < netFirst w v p + 2 ^ (w - p) ↔ _
  rw [netLast_eq_add w v p hv]
  have := Nat.two_pow_pos (w - p); omega

theorem blkOf_val_mem (w v p : Nat) (hv : v < 2 ^ w) : (blkOf w v p).mem v := by
  show netFirst w v p ≤ v ∧ v < netFirst w v p + 2 ^ (w - p)
  rw [netFirst_eq w v p hv]
  exact ⟨Nat.div_mul_le_self _ _, Nat.lt_div_mul_add (Nat.two_pow_pos _)⟩

theorem val_between (w v p : Nat) (hv : v < 2 ^ w) : netFirst w v p ≤ v ∧ v ≤ netLast w v p :=
  (blkOf_mem w v p v hv).1 (blkOf_val_mem w v p hv)

/-! ### a value without host bits is the base of its block -/

theorem netFirst_of_aligned (w v p : Nat) (hv : v < 2 ^ w) (hal : v % 2 ^ (w - p) = 0) : netFirst w v p = v := by
  rw [netFirst_eq w v p hv]; exact Nat.div_mul_cancel (Nat.dvd_of_mod_eq_zero hal)

theorem netLast_of_aligned (w v p : Nat) (hal : v % 2 ^ (w - p) = 0) : netLast w v p = v + (2 ^ (w - p) - 1) := by
  rw [netLast_eq, Nat.div_mul_cancel (Nat.dvd_of_mod_eq_zero hal)]

theorem blkOf_of_aligned (w v p : Nat) (hv : v < 2 ^ w) (hal : v % 2 ^ (w - p) = 0) : blkOf w v p = ⟨v, w - p⟩ := by
  unfold blkOf; rw [netFirst_of_aligned w v p hv hal]

theorem aligned_mem (w v p a : Nat) (hv : v < 2 ^ w) (hal : v % 2 ^ (w - p) = 0) :
    (netFirst w v p ≤ a ∧ a ≤ netLast w v p) ↔ (Blk.mk v (w - p)).mem a := by
  rw [← blkOf_of_aligned w v p hv hal]; exact (blkOf_mem w v p a hv).symm

theorem netFirst_full (w x : Nat) (hx : x < 2 ^ w) : netFirst w x w = x :=
  netFirst_of_aligned w x w hx (by rw [Nat.sub_self]; exact Nat.mod_one x)

theorem netLast_full (w x : Nat) : netLast w x w = x := by
  rw [netLast_of_aligned w x w (by rw [Nat.sub_self]; exact Nat.mod_one x), Nat.sub_self]; rfl

/-! ### clearing the host bits (`cidr`) keeps the block -/

theorem netFirst_idem (w v p : Nat) (hv : v < 2 ^ w) : netFirst w (netFirst w v p) p = netFirst w v p :=
  netFirst_of_aligned w _ p (netFirst_lt w v p hv) (blkOf_aligned w v p hv)

theorem netLast_netFirst (w v p : Nat) (hv : v < 2 ^ w) : netLast w (netFirst w v p) p = netLast w v p := by
  rw [netLast_of_aligned w (netFirst w v p) p (blkOf_aligned w v p hv), netLast_eq_add w v p hv]

/-- two networks that share an address are nested, the shorter prefix outside -/
theorem nested_of_share (w v p u q a : Nat) (hv : v < 2 ^ w) (hu : u < 2 ^ w) (hpq : p ≤ q)
    (hva : netFirst w v p ≤ a ∧ a ≤ netLast w v p) (hua : netFirst w u q ≤ a ∧ a ≤ netLast w u q) :
    netFirst w v p ≤ netFirst w u q ∧ netLast w u q ≤ netLast w v p := by
  have hsub := Blk.sub_of_share (blkOf w u q) (blkOf w v p) (blkOf_aligned w u q hu) (blkOf_aligned w v p hv)
    (Nat.sub_le_sub_left hpq w) a ((blkOf_mem w u q a hu).2 hua) ((blkOf_mem w v p a hv).2 hva)
  have hne : netFirst w u q ≤ netLast w u q := Nat.le_trans hua.1 hua.2
  have h1 := (blkOf_mem w v p _ hv).1 (hsub _ ((blkOf_mem w u q _ hu).2 ⟨Nat.le_refl _, hne⟩))
  have h2 := (blkOf_mem w v p _ hv).1 (hsub _ ((blkOf_mem w u q _ hu).2 ⟨hne, Nat.le_refl _⟩))
  exact ⟨h1.1, h2.2⟩

theorem fits_of_aligned (w v p : Nat) (hv : v < 2 ^ w) (hp : p ≤ w) (hal : v % 2 ^ (w - p) = 0) :
    v + 2 ^ (w - p) ≤ 2 ^ w := by
  have := block_lt w v p hv hp
  rwa [Nat.div_mul_cancel (Nat.dvd_of_mod_eq_zero hal)] at this

end NV
