/-
Lemmas/C01LCross.lean — what each reader can accept, read off the theorem that says which strings it accepts:
`inet_pton(AF_INET6)` (the grammar `C01G.Rfc4291`) only hex digits, ':' and '.', with a ':' after hex digits only;
`inet_pton(AF_INET)` only digits and dots; `inet_aton` literal characters up to the first blank; the ZEROFILL rewrite
only what `int()` takes between the dots.  So no IPv4 reader, with or without ZEROFILL, accepts a string whose first
':' is preceded only by hex digits; and what `strategy.ipv6.int_to_str` prints, in every dialect and with either back
end, is read back by `inet_pton(AF_INET6)`, hence is such a string and contains no '/'.  The back end is a normal
form: each module function is the platform's.
-/
import NetaddrVerif.Lemmas.C01LFbPrint
import NetaddrVerif.Lemmas.MapM
import NetaddrVerif.Lemmas.C01LAtonG
import NetaddrVerif.Lemmas.C17LPyLit
namespace NV.C01L
open NV NV.Text4 NV.Text6 NV.AddrParse

theorem inetPton4_colon (be : Backend) (s : List Char) (h : ':' ∈ s) : inetPton4 be s = none :=
  inetPton4_bad be s ':' h (by decide) (by decide)

/-- the ZEROFILL rewrite is defined only if `int()` takes every part: a character that is no dot and
    that `int()` refuses does not occur in the text -/
theorem zerofill_not_mem {s t : List Char} (h : zerofill s = some t) (c : Char) (hne : c ≠ '.')
    (hbad : ∀ p, c ∈ p → Py.pyInt 10 p = none) : c ∉ s := fun hm => by
  obtain ⟨p, hp, hc⟩ := mem_splitOn hm hne
  unfold zerofill at h
  rw [mapM_none hp (by simp [hbad p hc])] at h
  cases h

theorem zerofill_nocolon {s t : List Char} (h : zerofill s = some t) : ':' ∉ s :=
  zerofill_not_mem h ':' (by decide) pyInt_colon

theorem aton_colon (pre r : List Char) (hpre : ∀ c ∈ pre, isHexC c = true) : Text4.aton (pre ++ ':' :: r) = none :=
  AtonG.aton_bad pre ':' r (by decide) (by decide) fun d hd => Bool.eq_false_iff.mpr fun e =>
    absurd ((AtonG.space_facts d e).1.symm.trans (hpre d hd)) Bool.false_ne_true

theorem inetPton6_eq (be : Backend) (s : List Char) : inetPton6 be s = Text6.pton6 s := by
  cases be
  · rfl
  · exact fb_pton6_eq s

theorem inetPton6_iff (be : Backend) (s : List Char) (v : Nat) : inetPton6 be s = some v ↔ C01G.Rfc4291 s v := by
  rw [inetPton6_eq]; exact C01G.pton6_iff_rfc4291 s v

theorem inetPton6_lt {be : Backend} {s : List Char} {v : Nat} (h : inetPton6 be s = some v) : v < 2 ^ 128 :=
  C01G.rfc4291_lt s v ((inetPton6_iff be s v).mp h)

theorem inetPton6_shape {be : Backend} {s : List Char} {v : Nat} (h : inetPton6 be s = some v) :
    ∃ pre r, s = pre ++ ':' :: r ∧ ∀ c ∈ pre, isHexC c = true :=
  C01G.rfc4291_shape s v ((inetPton6_iff be s v).mp h)

theorem inetPton6_charset {be : Backend} {s : List Char} {v : Nat} (h : inetPton6 be s = some v) :
    ∀ c ∈ s, isHexC c = true ∨ c = ':' ∨ c = '.' :=
  pton6_charset s v ((inetPton6_eq be s).symm.trans h)

theorem inetPton6_noslash {be : Backend} {s : List Char} {v : Nat} (h : inetPton6 be s = some v) : '/' ∉ s := fun hm => by
  rcases inetPton6_charset h '/' hm with e | e | e <;> exact absurd e (by decide)

theorem inetPton6_no_colon (be : Backend) (s : List Char) (h : ':' ∉ s) : inetPton6 be s = none := by
  cases h6 : inetPton6 be s with
  | none => rfl
  | some v =>
    obtain ⟨pre, r, e, _⟩ := inetPton6_shape h6
    exact absurd (e ▸ List.mem_append_right pre (List.mem_cons_self ..)) h

theorem inetNtop6_eq (be : Backend) (v : Nat) (hv : v < 2 ^ 128) : inetNtop6 be v = Text6.ntop6 v := by
  cases be
  · rfl
  · exact fb_ntop6_eq v hv

/-! the back end does not show: each module function is the platform's -/

theorem strToInt4_be (be be' : Backend) (s : List Char) (fl : Nat) : strToInt4 be s fl = strToInt4 be' s fl := by
  simp only [strToInt4, inetPton4_eq]

theorem strToInt6_be (be be' : Backend) (s : List Char) (fl : Nat) : strToInt6 be s fl = strToInt6 be' s fl := by
  simp only [strToInt6, inetPton6_eq]

theorem intToStr6_be (be be' : Backend) (d : Dialect) (v : Nat) (hv : v < 2 ^ 128) :
    intToStr6 be d v = intToStr6 be' d v := by
  cases d with
  | compact => exact (inetNtop6_eq be v hv).trans (inetNtop6_eq be' v hv).symm
  | full => rfl
  | verbose => rfl

theorem text6_parse (be : Backend) (d : Dialect) (v : Nat) (hv : v < 2 ^ 128) :
    inetPton6 be (intToStr6 be d v) = some v := by
  rw [inetPton6_eq]
  cases d with
  | compact => show Text6.pton6 (inetNtop6 be v) = some v; rw [inetNtop6_eq be v hv]; exact pton6_ntop6 v hv
  | full =>
    show Text6.pton6 ([':'].intercalate ((words v).map hex)) = some v
    rw [pton6_nogap hex goodF_hex (words v) (small_words v) rfl, ofWords_words v hv]
  | verbose =>
    show Text6.pton6 ([':'].intercalate ((words v).map hex4)) = some v
    rw [pton6_nogap hex4 goodF_hex4 (words v) (small_words v) rfl, ofWords_words v hv]

theorem text6_shape (be : Backend) (d : Dialect) (v : Nat) (hv : v < 2 ^ 128) :
    ∃ pre r, intToStr6 be d v = pre ++ ':' :: r ∧ ∀ c ∈ pre, isHexC c = true :=
  inetPton6_shape (text6_parse be d v hv)

theorem text6_noslash (be : Backend) (d : Dialect) (v : Nat) (hv : v < 2 ^ 128) :
    (intToStr6 be d v).contains '/' = false :=
  contains_false_of_not_mem (inetPton6_noslash (text6_parse be d v hv))

theorem ntop6_chars (v : Nat) (hv : v < 2 ^ 128) : ∀ c ∈ Text6.ntop6 v, isHexC c = true ∨ c = ':' ∨ c = '.' :=
  pton6_charset _ v (pton6_ntop6 v hv)

end NV.C01L
