import NetaddrVerif.Lemmas.Canon
/-! The two-cursor sweep of `IPSet.intersection` on sorted block lists: `inter` with its Boolean inclusion
    test `subB`; every block it yields is a block of one operand (`inter_subset`); on canonical lists it denotes
    the common addresses (`inter_den`).  That the result is canonical is not shown here: Lemmas/IPSetInter has it
    from `inter_subset` through `IPSet.inv_of_shrink`. -/
namespace NV
open Blk

def subB (a b : Blk) : Bool := b.base ≤ a.base && a.base + 2 ^ a.k ≤ b.base + 2 ^ b.k

theorem subB_iff (a b : Blk) : subB a b = true ↔ a.sub b := by
  rw [subB, Bool.and_eq_true, decide_eq_true_eq, decide_eq_true_eq]
  constructor
  · rintro ⟨h1, h2⟩ x ⟨h3, h4⟩
    exact ⟨Nat.le_trans h1 h3, Nat.lt_of_lt_of_le h4 h2⟩
  · intro h
    have hp := Nat.two_pow_pos a.k
    have h2 := (h _ (mem_last a)).2
    exact ⟨(h _ (mem_base a)).1, by omega⟩

def inter : List Blk → List Blk → List Blk
  | [], _ => []
  | _ :: _, [] => []
  | a :: as, b :: bs =>
    if a = b then a :: inter as bs
    else if subB a b then a :: inter as (b :: bs)
    else if subB b a then b :: inter (a :: as) bs
    else if a.base < b.base then inter as (b :: bs)
    else inter (a :: as) bs
termination_by l₁ l₂ => l₁.length + l₂.length

theorem inter_subset : ∀ (A B : List Blk) (x : Blk), x ∈ inter A B → x ∈ A ∨ x ∈ B := by
  intro A B
  fun_induction inter A B with
  | case1 B => intro x h; cases h
  | case2 a as => intro x h; cases h
  | case3 a as bs ih =>
    intro x h
    rcases List.mem_cons.1 h with e | e
    · exact Or.inl (e ▸ List.mem_cons_self ..)
    · exact (ih x e).imp (List.mem_cons_of_mem _) (List.mem_cons_of_mem _)
  | case4 a as b bs _ _ ih =>
    intro x h
    rcases List.mem_cons.1 h with e | e
    · exact Or.inl (e ▸ List.mem_cons_self ..)
    · exact (ih x e).imp_left (List.mem_cons_of_mem _)
  | case5 a as b bs _ _ _ ih =>
    intro x h
    rcases List.mem_cons.1 h with e | e
    · exact Or.inr (e ▸ List.mem_cons_self ..)
    · exact (ih x e).imp_right (List.mem_cons_of_mem _)
  | case6 a as b bs _ _ _ _ ih => exact fun x h => (ih x h).imp_left (List.mem_cons_of_mem _)
  | case7 a as b bs _ _ _ _ ih => exact fun x h => (ih x h).imp_right (List.mem_cons_of_mem _)

theorem head_disj_tail {a : Blk} {l : List Blk} (h : Canon (a :: l)) (x : Nat) :
    a.mem x → ¬ den l x := by
  rintro hax ⟨c, hc, hcx⟩
  have hne : a ≠ c := by
    intro e; subst e
    have := (List.pairwise_cons.1 h.sorted).1 a hc; omega
  exact h.dj a (by simp) c (List.mem_cons_of_mem _ hc) hne x ⟨hax, hcx⟩

theorem disj_of_not_subB {a b : Blk} (ha : a.aligned) (hb : b.aligned) (h1 : ¬ subB a b = true)
    (h2 : ¬ subB b a = true) : a.disj b :=
  (nest_or_disj a b ha hb).elim (fun h => absurd ((subB_iff a b).2 h) h1)
    fun h => h.elim (fun h => absurd ((subB_iff b a).2 h) h2) id

theorem below_head {a b : Blk} {bs : List Blk} (hB : Canon (b :: bs)) (h : a.base + 2 ^ a.k ≤ b.base)
    (x : Nat) (hax : a.mem x) : ¬ den (b :: bs) x := by
  rintro ⟨c, hc, hcx⟩
  have hbc : b.base ≤ c.base := by
    rcases List.mem_cons.1 hc with rfl | e
    · exact Nat.le_refl _
    · exact Nat.le_of_lt ((List.pairwise_cons.1 hB.sorted).1 c e)
  exact Nat.lt_irrefl x (Nat.lt_of_lt_of_le hax.2 (Nat.le_trans h (Nat.le_trans hbc hcx.1)))

/-- emitting `R` beside `P`, when `R` lies inside `D` … -/
theorem or_and_of_imp {P D R : Prop} (h : R → D) : (P ∧ D) ∨ R ↔ (P ∨ R) ∧ D :=
  ⟨fun | .inl ⟨p, d⟩ => ⟨.inl p, d⟩ | .inr r => ⟨.inr r, h r⟩,
   fun | ⟨.inl p, d⟩ => .inl ⟨p, d⟩ | ⟨.inr r, _⟩ => .inr r⟩

/-- … and dropping `R`, when it misses `D` -/
theorem and_of_not {P D R : Prop} (h : R → ¬ D) : P ∧ D ↔ (P ∨ R) ∧ D :=
  ⟨fun ⟨p, d⟩ => ⟨.inl p, d⟩, fun | ⟨.inl p, d⟩ => ⟨p, d⟩ | ⟨.inr r, d⟩ => absurd d (h r)⟩

theorem inter_den : ∀ (A B : List Blk), Canon A → Canon B →
    ∀ x, den (inter A B) x ↔ den A x ∧ den B x := by
  intro A B
  fun_induction inter A B with
  | case1 B => intro _ _ x; simp [den]
  | case2 a as => intro _ _ x; simp [den]
  | case3 a as bs ih =>
    intro hA hB x
    rw [den_cons, den_cons, den_cons, ih (canon_tail hA) (canon_tail hB) x]
    exact and_or_right
  | case4 a as b bs hab hsub ih =>
    intro hA hB x
    rw [den_cons, den_cons a as, ih (canon_tail hA) hB x]
    exact or_and_of_imp fun hax => ⟨b, List.mem_cons_self .., (subB_iff a b).1 hsub x hax⟩
  | case5 a as b bs hab hnsub hsub ih =>
    intro hA hB x
    rw [den_cons, den_cons b bs, ih hA (canon_tail hB) x, and_comm, and_comm (b := _ ∨ _)]
    exact or_and_of_imp fun hbx => ⟨a, List.mem_cons_self .., (subB_iff b a).1 hsub x hbx⟩
  | case6 a as b bs hab hn1 hn2 hlt ih =>
    intro hA hB x
    -- `a` is disjoint from `b` and starts lower: it lies below all of `B`
    have hdisj := disj_of_not_subB (hA.al a (List.mem_cons_self ..)) (hB.al b (List.mem_cons_self ..)) hn1 hn2
    rw [den_cons a as, ih (canon_tail hA) hB x]
    exact and_of_not (below_head hB (below_of_disj a b hdisj hlt) x)
  | case7 a as b bs hab hn1 hn2 hnlt ih =>
    intro hA hB x
    have hdisj := disj_of_not_subB (hA.al a (List.mem_cons_self ..)) (hB.al b (List.mem_cons_self ..)) hn1 hn2
    have hlt : b.base < a.base := by
      rcases Nat.lt_trichotomy a.base b.base with h | h | h
      · exact absurd h hnlt
      · exact absurd ⟨mem_base a, h ▸ mem_base b⟩ (hdisj a.base)
      · exact h
    rw [den_cons b bs, ih hA (canon_tail hB) x, and_comm, and_comm (b := _ ∨ _)]
    exact and_of_not (below_head hA (below_of_disj b a (disj_symm hdisj) hlt) x)

end NV
