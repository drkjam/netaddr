/-
Lemmas/C19LAudit2.lean — `.info` of a block (`Registry.queryObjD`): its list view, the dict view in terms of it,
agreement with the address query on an address operand; `shr24_lt`, `shr40_lt`: the OUI field of an EUI-48 / EUI-64 value is
`≤ 0xffffff` (`C19A2.ouiOf_le` is the same bound for `ouiOf`).
-/
import NetaddrVerif.Lemmas.C19LLoad
namespace NV.C19L
open NV NV.Registry NV.Contains

/-- list view of one registry scan for any operand kind -/
def scanObj (ip : Obj) (t : List Rec) : List Rec := t.filter (fun r => withinBoundsObj ip r.key)

theorem scanObjD_eq (ip : Obj) (t : List Rec) : ∀ acc : Option (List Rec),
    scanObjD ip t acc = (if (scanObj ip t).isEmpty then acc
      else some (acc.getD [] ++ scanObj ip t)) :=
  scanAcc_eq (fun r => withinBoundsObj ip r.key) (scanObjD ip) (fun _ => rfl) (fun _ _ acc => by cases acc <;> rfl) t

theorem scanObjD_none (ip : Obj) (t : List Rec) : scanObjD ip t none = toEntry (scanObj ip t) :=
  scanObjD_eq ip t none

theorem withinBoundsObj_addr (a : Addr) (k : Key) : withinBoundsObj (.addr a) k = withinBounds a k := by
  cases k with
  | net n =>
    simp only [withinBoundsObj, withinBounds, netContains, Obj.ver]
    by_cases hv : n.ver = a.ver <;> simp [hv]
  | rng r =>
    simp only [withinBoundsObj, withinBounds, rngContains, Obj.ver]
    by_cases hv : r.ver = a.ver <;> simp [hv]
  | addr b => simp [withinBoundsObj, withinBounds]

theorem scanObjD_addr (a : Addr) (t : List Rec) : ∀ acc, scanObjD (.addr a) t acc = scanD a t acc := by
  induction t with
  | nil => intro acc; rfl
  | cons r t ih => intro acc; simp only [scanObjD, scanD, withinBoundsObj_addr, ih]

theorem shr24_lt (v : Nat) (h : v < 2 ^ 48) : v >>> 24 ≤ 0xffffff := by
  rw [Nat.shiftRight_eq_div_pow]; omega

theorem shr40_lt (v : Nat) (h : v < 2 ^ 64) : v >>> 40 ≤ 0xffffff := by
  rw [Nat.shiftRight_eq_div_pow]; omega

end NV.C19L
