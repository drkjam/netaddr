/-
Lemmas/IPSetFaithful.lean — where netaddr's IPSet calls `IPNetwork` methods, Model/IPSet.lean
spells the computation out.  This file proves each spelling equal to the modelled method, so
that the C06/C07 theorems, which are about the model as spelled, speak about the calls the
code makes (DESIGN.md section 5, C06, "Modelled, not verified").  No other proof module uses it.

`a in b` between two networks is taken in interval form (`netIn`); `netIn_eq_netContains`
proves it equal to the shift-compare `IPNetwork.__contains__` of Model/Contains.lean (C04) on
all in-range networks.  `_compact_single_network` calls `added_network.supernet()`,
`.previous()` and `.next()`; the model uses `supernetAt` and the merge loop's `candOf`;
`cand_eq_step`, `supernet_eq` and `supernet_walk` prove these equal to the methods of
Model/Subnet.lean (C11), error branches included, on every good key.
-/
import NetaddrVerif.Model.IPSet
import NetaddrVerif.Lemmas.C04L
import NetaddrVerif.Lemmas.IPSetState
import NetaddrVerif.Props.C11
namespace NV.IPSet
open NV NV.Contains

theorem netIn_eq_netContains (a b : Net) (ha : a.WF) (hb : b.WF) :
    netIn a b = netContains b (.net a) := by
  exact Bool.eq_iff_iff.2 ((netIn_iff a b).trans (netContains_iff b (.net a) hb ha).symm)

/-- on a good key the host-bit-free copy taken by `next()` / `previous()` is the key itself -/
theorem netCopy_good (a : Net) (ha : Good a) : Subnet.netCopy a = a := by
  obtain ⟨_, hfirst⟩ := ha
  have hnet : netNetwork (width a.ver) a.val a.plen = a.val := hfirst.symm
  unfold Subnet.netCopy; rw [hnet]

/-- The merge loop's candidate is `previous()` / `next()` of the modelled `IPNetwork`
    methods (Model/Subnet.lean, C11): on every good key with a non-zero prefix the call the
    Python code makes (`previous()` when the block's own bit is set, else `next()`, both with
    the default step 1) returns — it cannot raise IndexError — and returns exactly the
    network `candOf a` the IPSet model looks up. -/
theorem cand_eq_step (a : Net) (ha : Good a) (hp : 1 ≤ a.plen) :
    (if (a.val >>> (width a.ver - a.plen)) % 2 = 1 then Subnet.previous a 1 else Subnet.next a 1)
      = .ok (candOf a) := by
  have hwf := ha.1
  have hk := Nat.two_pow_pos (width a.ver - a.plen)
  -- which half of its parent the block is (`bit_iff_upper`), and that the other half has room (`half_bounds`, `parent_lt`)
  have hbit := bit_iff_upper a.val _ (good_aligned a ha)
  obtain ⟨hup, hlow⟩ := half_bounds (blk a) (blk_aligned a hwf)
  have hpar := parent_lt a ha hp _ (Blk.mem_last (blk a).parent)
  rw [blk_good a ha] at hup hlow hpar
  simp only [Blk.parent] at hup hlow hpar
  have hv := hwf.2.1
  have e := Nat.pow_succ 2 (width a.ver - a.plen)
  unfold candOf Subnet.previous Subnet.next
  rw [netCopy_good a ha, show netNetwork (width a.ver) a.val a.plen = a.val from ha.2.symm]
  by_cases hb : (a.val >>> (width a.ver - a.plen)) % 2 = 1
  · rw [if_pos hb, if_pos hb]
    have := hup (hbit.1 hb)
    obtain ⟨⟨ver, val, plen⟩, e', rfl, rfl, e3, -⟩ := (C11.isub_spec a hwf 1).1 ⟨by rw [← ha.2]; omega, by rw [← ha.2]; omega⟩
    rw [e']; congr 2; simp only at e3; rw [← ha.2] at e3; omega
  · rw [if_neg hb, if_neg hb]
    have h0 : a.val % 2 ^ (width a.ver - a.plen + 1) = 0 := Classical.byContradiction fun h => hb (hbit.2 h)
    rw [hlow h0] at hpar
    obtain ⟨⟨ver, val, plen⟩, e', rfl, rfl, e3, -⟩ := (C11.iadd_spec a hwf 1).1 ⟨by rw [← ha.2]; omega, by rw [← ha.2]; omega⟩
    rw [e']; congr 2; simp only at e3; rw [← ha.2] at e3; omega

/-- in particular neither call raises inside the merge loop -/
theorem step_no_error (a : Net) (ha : Good a) (hp : 1 ≤ a.plen) :
    ((a.val >>> (width a.ver - a.plen)) % 2 = 1 → Subnet.previous a 1 = .ok (candOf a)) ∧
    (¬ (a.val >>> (width a.ver - a.plen)) % 2 = 1 → Subnet.next a 1 = .ok (candOf a)) := by
  have h := cand_eq_step a ha hp
  constructor
  · intro hb; rw [if_pos hb] at h; exact h
  · intro hb; rw [if_neg hb] at h; exact h

/-- `added_network.supernet()` (default `prefixlen=0`) of the modelled method is the list of
    the model's `supernetAt a q`, `q = 0 … plen-1`, in that order — for every network whose
    prefix is within the width (no host-bit condition needed) -/
theorem supernet_eq_of_le (a : Net) (hpl : a.plen ≤ width a.ver) :
    Subnet.supernet a 0 = .ok ((List.range a.plen).map (supernetAt a)) := by
  unfold Subnet.supernet
  have hg : (0 ≤ (0 : Int) ∧ (0 : Int) ≤ (width a.ver : Nat)) := by omega
  rw [if_neg (fun h => h hg)]
  rw [Subnet.supernetLoop_le a.ver (width a.ver) _ a.plen (0 : Int).toNat [] (Nat.zero_le _) hpl]
  simp only [List.nil_append, Int.toNat_zero, Nat.sub_zero, List.range_eq_range']
  rfl

/-- the `/width` path's `for supernet in added_network.supernet()` loop visits exactly the
    keys `supernetAt a q`, `q < plen`, that `compactSingle` looks up -/
theorem supernet_eq (a : Net) (ha : Good a) :
    Subnet.supernet a 0 = .ok ((List.range a.plen).map (supernetAt a)) :=
  supernet_eq_of_le a ha.1.2.2

/-- the `for potential_supernet in added_network.supernet(): if potential_supernet in
    self._cidrs` walk, run over the modelled method's own result list, is the test
    `compactSingle` makes -/
theorem supernet_walk (s : St) (a : Net) (ha : Good a) :
    ∃ l, Subnet.supernet a 0 = .ok l ∧
      l.any (fun c => dMem s c) = (List.range a.plen).any (fun q => dMem s (supernetAt a q)) :=
  ⟨_, supernet_eq a ha, by rw [List.any_map]; rfl⟩

/-- the same list in the closed form of `C11.supernet_spec`: on a good key each visited
    supernet is the floor of the key's value to the `/q` grid -/
theorem supernetAt_good (a : Net) (ha : Good a) (q : Nat) (hq : q < a.plen) :
    supernetAt a q = ⟨a.ver, a.val / 2 ^ (width a.ver - q) * 2 ^ (width a.ver - q), q⟩ := by
  have h := (C11.supernet_spec a ha.1 0).2 (by omega) (by omega)
  rw [supernet_eq a ha] at h
  simp only [Int.toNat_zero, Nat.sub_zero, ← List.range_eq_range'] at h
  have h2 := Except.ok.inj h
  have h3 := List.map_inj_left.1 h2 q (List.mem_range.2 hq)
  exact h3

/-- a concrete instance of the hypotheses: 192.0.2.128/25 is a good key with `1 ≤ plen` -/
example : Good ⟨4, 0xC0000280, 25⟩ ∧ 1 ≤ (⟨4, 0xC0000280, 25⟩ : Net).plen :=
  ⟨⟨⟨Or.inl rfl, by decide +kernel, by decide +kernel⟩, by decide +kernel⟩, by decide⟩
example : Subnet.previous ⟨4, 0xC0000280, 25⟩ 1 = .ok (candOf ⟨4, 0xC0000280, 25⟩) := by decide +kernel
example : Subnet.next ⟨4, 0xC0000200, 25⟩ 1 = .ok (candOf ⟨4, 0xC0000200, 25⟩) := by decide +kernel
example : Subnet.supernet ⟨4, 0xC0000280, 25⟩ 0 =
    .ok ((List.range 25).map (supernetAt ⟨4, 0xC0000280, 25⟩)) := by decide +kernel

end NV.IPSet
