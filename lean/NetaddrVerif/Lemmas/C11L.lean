import NetaddrVerif.Model.Subnet
import NetaddrVerif.Lemmas.NetworkL
import NetaddrVerif.Lemmas.NetBlock
/-! Lemmas for C11 (Model/Subnet.lean): arithmetic of aligned blocks on the grids
`2^(w-q)`, closed forms of the loops, and what the two range tests of `+=` / `-=` decide
(`newValue`, `Above`: in `NV.C11LT`, the namespace of the statement-level runs, which speak of them too). -/
namespace NV.C11LT
open NV

/-- `new_value` of the in-place bodies: `int(self.network) ± self.size * k` on the object `n` -/
def newValue (minus : Bool) (n : Net) (k : Int) : Int :=
  if minus then ((netNetwork (width n.ver) n.val n.plen : Nat) : Int) - ((netSize (width n.ver) n.val n.plen : Nat) : Int) * k
  else ((netNetwork (width n.ver) n.val n.plen : Nat) : Int) + ((netSize (width n.ver) n.val n.plen : Nat) : Int) * k

/-- the first test of `__iadd__` (second of `__isub__`): `(new_value + (self.size - 1)) > max_int` -/
def Above (n : Net) (nv : Int) : Prop :=
  nv + (((netSize (width n.ver) n.val n.plen : Nat) : Int) - 1) > ((maxInt n.ver : Nat) : Int)

instance (n : Net) (nv : Int) : Decidable (Above n nv) := by unfold Above; infer_instance

end NV.C11LT

namespace NV.Subnet
open NV NV.C11LT

theorem netSize_eq (w v p : Nat) (hv : v < 2 ^ w) : netSize w v p = 2 ^ (w - p) := NV.netSize_eq w v p hv

theorem first_lt (w v p : Nat) (hv : v < 2 ^ w) : netFirst w v p < 2 ^ w := netFirst_lt w v p hv

theorem floor_floor (v B : Nat) (hB : 0 < B) : v / B * B / B * B = v / B * B := by
  rw [Nat.mul_div_cancel _ hB]

theorem floor_coarse (v B C : Nat) (hB : 0 < B) : v / B * B / (B * C) * (B * C) = v / (B * C) * (B * C) := by
  rw [← Nat.div_div_eq_div_mul, Nat.mul_div_cancel _ hB, Nat.div_div_eq_div_mul]

theorem pow_split' (w p k : Nat) (hk : k ≤ p) (hp : p ≤ w) : 2 ^ (w - k) = 2 ^ (w - p) * 2 ^ (p - k) := by
  rw [← Nat.pow_add, Nat.sub_add_sub_cancel hp hk]

theorem block_in_run (F T M i : Nat) (hi : i < M) : F + T * i + T ≤ F + M * T := by
  rw [Nat.add_assoc, ← Nat.mul_succ, Nat.mul_comm M T]
  exact Nat.add_le_add_left (Nat.mul_le_mul_left T hi) F

theorem run_tiles (F T M a : Nat) (hT : 0 < T) :
    (∃ i, i < M ∧ F + T * i ≤ a ∧ a < F + T * i + T) ↔ (F ≤ a ∧ a < F + M * T) := by
  constructor
  · rintro ⟨i, hi, h1, h2⟩
    have := block_in_run F T M i hi
    omega
  · rintro ⟨h1, h2⟩
    refine ⟨(a - F) / T, ?_, ?_, ?_⟩
    · rw [Nat.div_lt_iff_lt_mul hT]; omega
    · have := Nat.mul_div_le (a - F) T; omega
    · have := Nat.lt_mul_div_succ (a - F) hT
      rw [Nat.mul_succ] at this
      omega

/-- block `i < 2^(q-p)` of the `/q` grid from the network address of `v/p` starts inside the address space -/
theorem grid_block_lt (w v p q i : Nat) (hv : v < 2 ^ w) (hp : p ≤ w) (hpq : p ≤ q) (hq : q ≤ w)
    (hi : i < 2 ^ (q - p)) :
    v / 2 ^ (w - p) * 2 ^ (w - p) + 2 ^ (w - q) * i < 2 ^ w := by
  have e : 2 ^ (q - p) * 2 ^ (w - q) = 2 ^ (w - p) := by rw [Nat.mul_comm, ← pow_split' w q p hpq hq]
  exact Nat.lt_of_lt_of_le (Nat.lt_add_of_pos_right (Nat.two_pow_pos (w - q)))
    (Nat.le_trans (block_in_run _ _ _ i hi) (e ▸ block_lt w v p hv hp))

theorem grid_block_mod (w v p q i : Nat) (hpq : p ≤ q) (hq : q ≤ w) :
    (v / 2 ^ (w - p) * 2 ^ (w - p) + 2 ^ (w - q) * i) % 2 ^ (w - q) = 0 :=
  Nat.mod_eq_zero_of_dvd
    (Nat.dvd_add (Nat.dvd_trans ⟨_, pow_split' w q p hpq hq⟩ (Nat.dvd_mul_left _ _)) (Nat.dvd_mul_right _ _))

/-! ### subnet -/

theorem maxSubnets_eq (w p q : Nat) (hpq : p ≤ q) (hq : q ≤ w) : maxSubnets w p q = 2 ^ (q - p) := by
  unfold maxSubnets
  rw [if_pos hq, pow_split' w q p hpq hq, Nat.mul_div_cancel_left _ (Nat.two_pow_pos (w - q))]

theorem subnetCount_eq (n : Net) (hp : n.plen ≤ width n.ver) (q : Int) (count : Option Int) :
    subnetCount n q count =
      if q < (n.plen : Int) then .ok none
      else if 1 ≤ count.getD ((maxSubnets (width n.ver) n.plen q.toNat : Nat) : Int) ∧
          count.getD ((maxSubnets (width n.ver) n.plen q.toNat : Nat) : Int) ≤ ((maxSubnets (width n.ver) n.plen q.toNat : Nat) : Int)
        then .ok (some (count.getD ((maxSubnets (width n.ver) n.plen q.toNat : Nat) : Int)).toNat)
        else .error .value := by
  unfold subnetCount
  dsimp only
  rw [if_neg (fun h => h ⟨Int.natCast_nonneg _, hp⟩)]
  by_cases h : q < (n.plen : Int)
  · rw [if_pos (Int.not_le.mpr h), if_pos h]
  · rw [if_neg (fun h' => h' (Int.not_lt.mp h)), if_neg h]
    split
    · rfl
    · rw [if_pos (Decidable.not_not.mp ‹_›)]

/-- the checks for a target prefix on the grid, `p ≤ q ≤ w`: the count (default: all `2^(q-p)`
    blocks) must lie in `1 .. 2^(q-p)` -/
theorem subnetCount_grid (n : Net) (hp : n.plen ≤ width n.ver) (q : Int) (count : Option Int)
    (h1 : (n.plen : Int) ≤ q) (h2 : q ≤ (width n.ver : Nat)) :
    subnetCount n q count =
      if 1 ≤ count.getD ((2 ^ (q.toNat - n.plen) : Nat) : Int) ∧
          count.getD ((2 ^ (q.toNat - n.plen) : Nat) : Int) ≤ ((2 ^ (q.toNat - n.plen) : Nat) : Int)
        then .ok (some (count.getD ((2 ^ (q.toNat - n.plen) : Nat) : Int)).toNat)
        else .error .value := by
  rw [subnetCount_eq n hp, if_neg (Int.not_lt.mpr h1),
    maxSubnets_eq _ _ _ ((Int.le_toNat (Int.le_trans (Int.natCast_nonneg _) h1)).mpr h1) (Int.toNat_le.mpr h2)]

theorem subnetLoop_eq (n : Net) (q count : Nat) (f : Nat → Net)
    (hf : ∀ i, i < count → subnetItem n q i = .ok (f i)) (i : Nat) (acc : List Net) :
    subnetLoop n q count i acc = .ok (acc ++ (List.range' i (count - i)).map f) := by
  fun_induction subnetLoop n q count i acc with
  | case1 i acc hi s hs ih =>
    obtain rfl : s = f i := Except.ok.inj (hs.symm.trans (hf i hi))
    rw [ih, List.append_assoc, List.singleton_append, ← List.map_cons, ← List.range'_succ,
      Nat.sub_add_eq, Nat.sub_add_cancel (Nat.sub_pos_of_lt hi)]
  | case2 i acc hi e he => exact nomatch he.symm.trans (hf i hi)
  | case3 i acc hi =>
    rw [Nat.sub_eq_zero_of_le (Nat.le_of_not_lt hi), List.range'_zero, List.map_nil, List.append_nil]

/-! ### supernet -/

theorem supernetLoop_le (ver w v p cur : Nat) (acc : List Net) (hle : cur ≤ p) (hpw : p ≤ w) :
    supernetLoop ver w v p cur acc =
      .ok (acc ++ (List.range' cur (p - cur)).map (fun k => netCidr ⟨ver, v, k⟩)) := by
  fun_induction supernetLoop ver w v p cur acc with
  | case1 acc => rw [Nat.sub_self, List.range'_zero, List.map_nil, List.append_nil]
  | case2 cur acc _ hgt => exact absurd (Nat.le_trans hle hpw) (Nat.not_le.mpr hgt)
  | case3 cur acc hne _ ih =>
    have hlt : cur < p := Nat.lt_of_le_of_ne hle hne
    rw [ih hlt, ← Nat.succ_pred_eq_of_pos (Nat.sub_pos_of_lt hlt), List.range'_succ, List.map_cons,
      List.append_assoc, List.singleton_append, Nat.sub_add_eq]
    rfl

/-- once the running prefix is beyond `p` the loop can only end in the ValueError of `.cidr` -/
theorem supernetLoop_gt (ver w v p cur : Nat) (acc : List Net) (h : p < cur) :
    supernetLoop ver w v p cur acc = .error .value := by
  fun_induction supernetLoop ver w v p cur acc with
  | case1 acc => exact absurd h (Nat.lt_irrefl _)
  | case2 => rfl
  | case3 cur acc _ _ ih => exact ih (Nat.lt_succ_of_lt h)

/-! ### stepping -/

/-- `n += k` as its two range tests, in the code's order (`> max_int` first) -/
theorem iadd_tests (n : Net) (k : Int) :
    iadd n k = if Above n (newValue false n k) then .error .index
               else if newValue false n k < 0 then .error .index
               else .ok { n with val := (newValue false n k).toNat } := rfl

/-- `n -= k`: the same two tests, `< 0` first -/
theorem isub_tests (n : Net) (k : Int) :
    isub n k = if newValue true n k < 0 then .error .index
               else if Above n (newValue true n k) then .error .index
               else .ok { n with val := (newValue true n k).toNat } := rfl

/-- `new_value` in the property's terms: `F ± S·k` -/
theorem newValue_eq (minus : Bool) (n : Net) (hn : n.WF) (k : Int) :
    newValue minus n k =
      if minus then ((n.first : Nat) : Int) - ((2 ^ (width n.ver - n.plen) : Nat) : Int) * k
      else ((n.first : Nat) : Int) + ((2 ^ (width n.ver - n.plen) : Nat) : Int) * k := by
  unfold newValue
  rw [netSize_eq _ _ _ hn.2.1]
  rfl

/-- the `> max_int` test in the property's terms: the block `[x, x + S)` ends beyond the address space -/
theorem above_iff (n : Net) (hn : n.WF) (x : Int) :
    Above n x ↔ ((2 ^ width n.ver : Nat) : Int) < x + ((2 ^ (width n.ver - n.plen) : Nat) : Int) := by
  have hW := Nat.two_pow_pos (width n.ver)
  rw [Above, netSize_eq _ _ _ hn.2.1, maxInt]
  omega

/-- the two tests on a new value `x`, in the property's terms: neither fires iff the block
    `[x, x + S)` lies inside the address space -/
theorem step_tests (n : Net) (hn : n.WF) (x : Int) :
    (¬ Above n x ∧ ¬ x < 0) ↔
      (0 ≤ x ∧ x + ((2 ^ (width n.ver - n.plen) : Nat) : Int) ≤ ((2 ^ width n.ver : Nat) : Int)) := by
  rw [above_iff n hn]
  omega

/-- two tests that refuse with the same result, in either order, are one test -/
theorem tests_either_order {α : Type} (A B : Prop) [Decidable A] [Decidable B] (e x : α) :
    (if A then e else if B then e else x) = (if ¬ A ∧ ¬ B then x else e) ∧
    (if B then e else if A then e else x) = (if ¬ A ∧ ¬ B then x else e) := by
  by_cases hA : A <;> by_cases hB : B <;>
    simp only [hA, hB, if_true, if_false, not_true, not_false_eq_true, and_self, and_false, false_and] <;>
    exact ⟨rfl, rfl⟩

theorem tests_error {α : Type} (A B : Prop) [Decidable A] [Decidable B] (y : α) (e : Err)
    (h : (if A then .error .index else if B then .error .index else .ok y : R α) = .error e) : e = .index := by
  split at h
  · exact (Except.error.inj h).symm
  · split at h
    · exact (Except.error.inj h).symm
    · exact nomatch h

/-- what `n += k` and `n -= k` come to once `x` is computed, in either order of the tests:
    the object moves to `x` iff the block `[x, x + S)` lies inside the address space -/
def stepTo (n : Net) (x : Int) : R Net :=
  if 0 ≤ x ∧ x + ((2 ^ (width n.ver - n.plen) : Nat) : Int) ≤ ((2 ^ width n.ver : Nat) : Int)
  then .ok { n with val := x.toNat } else .error .index

theorem iadd_eq_stepTo (n : Net) (hn : n.WF) (k : Int) :
    iadd n k = stepTo n (((n.first : Nat) : Int) + ((2 ^ (width n.ver - n.plen) : Nat) : Int) * k) := by
  rw [iadd_tests, (tests_either_order _ _ _ _).1, (newValue_eq false n hn k).trans (if_neg Bool.false_ne_true)]
  exact ite_congr (propext (step_tests n hn _)) (fun _ => rfl) (fun _ => rfl)

theorem isub_eq_stepTo (n : Net) (hn : n.WF) (k : Int) :
    isub n k = stepTo n (((n.first : Nat) : Int) - ((2 ^ (width n.ver - n.plen) : Nat) : Int) * k) := by
  rw [isub_tests, (tests_either_order _ _ _ _).2, (newValue_eq true n hn k).trans (if_pos rfl)]
  exact ite_congr (propext (step_tests n hn _)) (fun _ => rfl) (fun _ => rfl)

theorem stepTo_spec (n : Net) (hn : n.WF) (x : Int) :
    (0 ≤ x ∧ x + ((2 ^ (width n.ver - n.plen) : Nat) : Int) ≤ ((2 ^ width n.ver : Nat) : Int) →
      ∃ n', stepTo n x = .ok n' ∧ n'.ver = n.ver ∧ n'.plen = n.plen ∧ (n'.val : Int) = x ∧ n'.WF) ∧
    (¬ (0 ≤ x ∧ x + ((2 ^ (width n.ver - n.plen) : Nat) : Int) ≤ ((2 ^ width n.ver : Nat) : Int)) →
      stepTo n x = .error .index) := by
  refine ⟨fun h => ⟨_, if_pos h, rfl, rfl, Int.toNat_of_nonneg h.1, hn.1, ?_, hn.2.2⟩, fun h => if_neg h⟩
  have hS := Nat.two_pow_pos (width n.ver - n.plen)
  show x.toNat < 2 ^ width n.ver
  omega

/-! ### iter_hosts -/

theorem iterRange_eq (hi : Nat) : ∀ (fuel lo : Nat), iterRange lo hi fuel = List.range' lo (min fuel (hi + 1 - lo)) := by
  intro fuel
  induction fuel with
  | zero => intro lo; rw [Nat.zero_min]; rfl
  | succ fuel ih =>
    intro lo
    rw [iterRange]
    by_cases h : lo ≤ hi
    · rw [if_pos h, ih, Nat.succ_sub h, Nat.succ_min_succ, Nat.add_sub_add_right, List.range'_succ]
    · rw [if_neg h, Nat.sub_eq_zero_of_le (Nat.succ_le_of_lt (Nat.lt_of_not_le h)), Nat.min_zero]
      rfl

theorem take_range' (m : Nat) : ∀ (s n : Nat), (List.range' s n).take m = List.range' s (min m n) := by
  induction m with
  | zero => intro s n; rw [Nat.zero_min]; rfl
  | succ m ih =>
    intro s n
    cases n with
    | zero => rfl
    | succ n => rw [List.range'_succ, List.take_succ_cons, ih, Nat.succ_min_succ, List.range'_succ]

theorem hosts_len (F S a b : Nat) (h : b < S) : F + (S - 1) - b + 1 - (F + a) = S - a - b := by
  rw [Nat.add_sub_assoc (Nat.le_sub_one_of_lt h), Nat.add_assoc, Nat.add_sub_add_left,
    Nat.sub_right_comm S 1 b, Nat.sub_add_cancel (Nat.sub_pos_of_lt h), Nat.sub_right_comm]

theorem iterHosts_eq (n : Net) (hn : n.WF) :
    iterHosts n =
      if n.ver = 4 then
        if 4 ≤ 2 ^ (width n.ver - n.plen) then List.range' (n.first + 1) (2 ^ (width n.ver - n.plen) - 2)
        else List.range' n.first (2 ^ (width n.ver - n.plen))
      else List.range' (n.first + 1) (2 ^ (width n.ver - n.plen) - 1) := by
  have hS := Nat.two_pow_pos (width n.ver - n.plen)
  have hl : netLast (width n.ver) n.val n.plen = n.first + (2 ^ (width n.ver - n.plen) - 1) :=
    netLast_eq_add _ _ _ hn.2.1
  unfold iterHosts hostBounds
  dsimp only
  rw [netSize_eq _ _ _ hn.2.1, hl, show netFirst (width n.ver) n.val n.plen = n.first from rfl]
  generalize 2 ^ (width n.ver - n.plen) = S at hS ⊢
  generalize n.first = F
  have full : ∀ a b, b < S →
      iterRange (F + a) (F + (S - 1) - b) (F + (S - 1) - b + 1 - (F + a)) = List.range' (F + a) (S - a - b) :=
    fun a b h => by rw [iterRange_eq, Nat.min_self, hosts_len F S a b h]
  by_cases h4 : n.ver = 4
  · rw [if_pos h4, if_pos h4]
    by_cases h : 4 ≤ S
    · rw [if_pos h, if_pos h]
      exact full 1 1 (Nat.lt_of_lt_of_le (by decide) h)
    · rw [if_neg h, if_neg h]
      exact full 0 0 hS
  · rw [if_neg h4, if_neg h4]
    by_cases h : 2 ≤ S
    · rw [if_pos h]
      exact full 1 0 hS
    · rw [if_neg h, Nat.sub_eq_zero_of_le (Nat.le_of_lt_succ (Nat.lt_of_not_le h))]
      rfl

end NV.Subnet
