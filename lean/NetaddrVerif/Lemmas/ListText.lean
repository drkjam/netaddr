/-
Lemmas/ListText.lean — lists and text (`List Char`), independent of the model: the characters of a
join and of the pieces of a split, the cut at the first occurrence of a character, runs under `takeWhile` /
`dropWhile`, and small facts about `contains`, `Pairwise`, `Nodup`, `map`, `foldl`, `range`.
The round trips themselves are core's `List.splitOn_intercalate` and `List.intercalate_splitOn`.
Core only, no import.
-/
namespace NV
variable {α : Type _}

/-! ### the characters of a join -/

/-- the elements of `sep.intercalate ls` are those of the pieces, and those of `sep` as soon as there
    are two pieces -/
theorem mem_intercalate_iff {sep : List α} {ls : List (List α)} {x : α} :
    x ∈ sep.intercalate ls ↔ (∃ l ∈ ls, x ∈ l) ∨ (x ∈ sep ∧ 2 ≤ ls.length) := by
  induction ls with
  | nil => simp
  | cons a r ih =>
    cases r with
    | nil => simp
    | cons b r' =>
      rw [List.intercalate_cons_cons, List.mem_append, List.mem_append, ih]
      simp only [List.mem_cons, List.length_cons, exists_eq_or_imp]
      constructor
      · rintro ((h | h) | (h | h) | h)
        · exact .inl (.inl h)
        · exact .inr ⟨h, by omega⟩
        · exact .inl (.inr (.inl h))
        · exact .inl (.inr (.inr h))
        · exact .inr ⟨h.1, by omega⟩
      · rintro ((h | h | h) | h)
        · exact .inl (.inl h)
        · exact .inr (.inl (.inl h))
        · exact .inr (.inl (.inr h))
        · exact .inl (.inr h.1)

theorem mem_intercalate {sep : α} {ls : List (List α)} {c : α} (h : c ∈ [sep].intercalate ls) :
    c = sep ∨ ∃ l ∈ ls, c ∈ l := by
  rcases mem_intercalate_iff.1 h with h | ⟨h, _⟩
  · exact .inr h
  · exact .inl (List.mem_singleton.1 h)

theorem not_mem_intercalate {sep c : α} (hc : c ≠ sep) {ls : List (List α)} (h : ∀ l ∈ ls, c ∉ l) :
    c ∉ [sep].intercalate ls :=
  fun hm => (mem_intercalate hm).elim hc fun ⟨l, hl, hx⟩ => h l hl hx

/-- a one-element separator, spelled out -/
theorem join_cons_cons (c : α) (t u : List α) (r : List (List α)) :
    [c].intercalate (t :: u :: r) = t ++ c :: [c].intercalate (u :: r) := by
  simp only [List.intercalate_cons_cons, List.append_assoc, List.singleton_append]

/-! ### the pieces of a split; `takeWhile` and `dropWhile` over a run -/

theorem splitOnP_piece {p : α → Bool} : ∀ (l : List α), ∀ t ∈ l.splitOnP p, ∀ x ∈ t, p x = false
  | [] => by simp
  | a :: l => by
    have ih := splitOnP_piece (p := p) l
    rw [List.splitOnP_cons_eq_if_modifyHead]
    split
    · intro t ht
      rcases List.mem_cons.1 ht with rfl | h
      · simp
      · exact ih t h
    · rename_i ha
      cases h : l.splitOnP p with
      | nil => exact absurd h (List.splitOnP_ne_nil p l)
      | cons b r =>
        rw [h] at ih
        intro t ht x hx
        rcases List.mem_cons.1 ht with rfl | ht
        · rcases List.mem_cons.1 hx with rfl | hx
          · simpa using ha
          · exact ih b (List.mem_cons_self ..) x hx
        · exact ih t (List.mem_cons_of_mem _ ht) x hx

theorem takeWhile_all (p : α → Bool) (l : List α) (y : α) (r : List α)
    (hl : ∀ x ∈ l, p x = true) (hy : p y = false) : (l ++ y :: r).takeWhile p = l := by
  rw [List.takeWhile_append_of_pos hl, List.takeWhile_cons_of_neg (by simp [hy]), List.append_nil]

theorem dropWhile_all (p : α → Bool) (l : List α) (y : α) (r : List α)
    (hl : ∀ x ∈ l, p x = true) (hy : p y = false) : (l ++ y :: r).dropWhile p = y :: r := by
  rw [List.dropWhile_append_of_pos hl, List.dropWhile_cons_of_neg (by simp [hy])]

theorem takeWhile_self (p : α → Bool) (l : List α) (h : ∀ x ∈ l, p x = true) : l.takeWhile p = l := by
  simpa using List.takeWhile_append_of_pos (l₂ := []) h

theorem dropWhile_nil_of_all (p : α → Bool) (l : List α) (h : ∀ x ∈ l, p x = true) : l.dropWhile p = [] := by
  simpa using List.dropWhile_append_of_pos (l₂ := []) h

theorem dropWhile_none (p : α → Bool) (l : List α) (h : ∀ x ∈ l, p x = false) : l.dropWhile p = l := by
  cases l with
  | nil => rfl
  | cons a t => rw [List.dropWhile_cons, h a (List.mem_cons_self ..)]; rfl

section
variable [BEq α] [LawfulBEq α]

/-- the pieces of `s.splitOn sep` hold exactly the elements of `s` other than `sep` -/
theorem mem_splitOn_iff {sep : α} {s : List α} {x : α} :
    (∃ t ∈ s.splitOn sep, x ∈ t) ↔ x ∈ s ∧ x ≠ sep := by
  constructor
  · rintro ⟨t, ht, hx⟩
    refine ⟨?_, fun e => ?_⟩
    · rw [← List.intercalate_splitOn (xs := s) sep]
      exact mem_intercalate_iff.2 (.inl ⟨t, ht, hx⟩)
    · have := splitOnP_piece s t ht x hx
      simp [e] at this
  · rintro ⟨hx, hne⟩
    rw [← List.intercalate_splitOn (xs := s) sep] at hx
    exact (mem_intercalate hx).resolve_left hne

theorem mem_splitOn {sep c : α} {s : List α} (hc : c ∈ s) (hne : c ≠ sep) : ∃ p ∈ s.splitOn sep, c ∈ p :=
  mem_splitOn_iff.2 ⟨hc, hne⟩

theorem not_mem_splitOn (sep : α) (s : List α) : ∀ t ∈ s.splitOn sep, sep ∉ t :=
  fun t ht hc => (mem_splitOn_iff.1 ⟨t, ht, hc⟩).2 rfl

theorem splitOn_of_mem {a : α} {o : List α} (h : a ∈ o) :
    ∃ x y r, o.splitOn a = x :: y :: r := by
  obtain ⟨as, bs, e, hn⟩ := List.eq_append_cons_of_mem h
  subst e
  rw [List.splitOn_append_cons_self_of_not_mem hn]
  cases hs : bs.splitOn a with
  | nil => exact absurd hs (List.splitOn_ne_nil a bs)
  | cons y r => exact ⟨as, y, r, rfl⟩

/-! ### the cut at the first occurrence of an element -/

/-- what `takeWhile (· != c)` and `dropWhile (· != c)` return on `a ++ c :: t` when `c ∉ a` -/
theorem cut_append_cons {c : α} {a : List α} (ha : c ∉ a) (t : List α) :
    (a ++ c :: t).takeWhile (· != c) = a ∧ (a ++ c :: t).dropWhile (· != c) = c :: t := by
  have hp : ∀ x ∈ a, (x != c) = true := fun x hx => bne_iff_ne.2 fun e => ha (e ▸ hx)
  exact ⟨takeWhile_all _ a c t hp (by simp), dropWhile_all _ a c t hp (by simp)⟩

/-- the decomposition at the first `q` is unique -/
theorem append_cons_inj {q : α} {a b X Y : List α} (ha : q ∉ a) (hb : q ∉ b)
    (h : a ++ q :: X = b ++ q :: Y) : a = b ∧ X = Y := by
  have h1 := cut_append_cons ha X
  rw [h, (cut_append_cons hb Y).1, (cut_append_cons hb Y).2] at h1
  exact ⟨h1.1.symm, (List.cons.inj h1.2).2.symm⟩

/-- a list with a `c` is cut at its first `c` (that there is a cut: core's `List.eq_append_cons_of_mem`) -/
theorem cut_of_mem {c : α} {s : List α} (h : c ∈ s) :
    s = s.takeWhile (· != c) ++ c :: (s.dropWhile (· != c)).drop 1 ∧ c ∉ s.takeWhile (· != c) := by
  obtain ⟨a, t, rfl, ha⟩ := List.eq_append_cons_of_mem h
  rw [(cut_append_cons ha t).1, (cut_append_cons ha t).2]
  exact ⟨rfl, ha⟩

/-! ### `contains`, `isEmpty`, a member of an append -/

theorem contains_false_of_not_mem {l : List α} {c : α} (h : c ∉ l) : l.contains c = false :=
  Bool.not_eq_true _ ▸ mt List.contains_iff_mem.1 h

theorem not_mem_of_contains_false {s : List α} {c : α} (h : s.contains c = false) : c ∉ s :=
  fun hm => Bool.false_ne_true (h.symm.trans (List.contains_iff_mem.2 hm))

end

theorem exists_mem_append {p : α → Prop} (s t : List α) :
    (∃ x ∈ s ++ t, p x) ↔ (∃ x ∈ s, p x) ∨ ∃ x ∈ t, p x := by
  simp only [List.mem_append, or_and_right, exists_or]

theorem isEmpty_false_of_ne {l : List α} (h : l ≠ []) : l.isEmpty = false := by
  cases l with
  | nil => exact absurd rfl h
  | cons a t => rfl

/-! ### `foldl`, `Pairwise`, `Nodup`, `map`, `range` and other list facts -/

theorem foldl_congr_mem {β} {g h : β → α → β} (l : List α) (e : ∀ a, ∀ x ∈ l, g a x = h a x) (acc : β) :
    l.foldl g acc = l.foldl h acc := by
  induction l generalizing acc with
  | nil => rfl
  | cons x t ih =>
    rw [List.foldl_cons, List.foldl_cons, e acc x (List.mem_cons_self ..),
      ih (fun a y hy => e a y (List.mem_cons_of_mem _ hy))]

theorem pairwise_snoc {R : α → α → Prop} {l : List α} {x : α}
    (h : l.Pairwise R) (hx : ∀ b ∈ l, R b x) : (l ++ [x]).Pairwise R :=
  List.pairwise_append.2 ⟨h, List.pairwise_singleton R x, fun b hb _ hc => List.mem_singleton.1 hc ▸ hx b hb⟩

theorem forall_mem_snoc {p : α → Prop} {l : List α} {x : α}
    (h : ∀ b ∈ l, p b) (hx : p x) : ∀ b ∈ l ++ [x], p b := by
  intro b hb
  rcases List.mem_append.1 hb with hb | hb
  · exact h b hb
  · exact List.mem_singleton.1 hb ▸ hx

theorem forall_mem_four {p : α → Prop} {a b c d : α} :
    (∀ x ∈ [a, b, c, d], p x) ↔ p a ∧ p b ∧ p c ∧ p d := by
  simp only [List.forall_mem_cons, List.not_mem_nil, false_implies, implies_true, and_true]

theorem four_of_length {p : α → Prop} : ∀ {l : List α}, l.length = 4 → (∀ x ∈ l, p x) →
    ∃ a b c d, l = [a, b, c, d] ∧ p a ∧ p b ∧ p c ∧ p d
  | [a, b, c, d], _, h => ⟨a, b, c, d, rfl, forall_mem_four.1 h⟩

theorem pairwise_or {R : α → α → Prop} : ∀ (l : List α), l.Pairwise R →
    ∀ b ∈ l, ∀ c ∈ l, b ≠ c → R b c ∨ R c b
  | [], _, b, hb, _, _, _ => by simp at hb
  | x :: xs, h, b, hb, c, hc, hne => by
    have hx := List.pairwise_cons.1 h
    rcases List.mem_cons.1 hb with rfl | hb'
    · rcases List.mem_cons.1 hc with rfl | hc'
      · exact absurd rfl hne
      · exact Or.inl (hx.1 c hc')
    · rcases List.mem_cons.1 hc with rfl | hc'
      · exact Or.inr (hx.1 b hb')
      · exact pairwise_or xs hx.2 b hb' c hc' hne

/-- two lists sorted by an asymmetric relation with the same members are equal -/
theorem pairwise_ext {R : α → α → Prop} (asymm : ∀ a b, R a b → ¬ R b a) {l₁ l₂ : List α}
    (h1 : l₁.Pairwise R) (h2 : l₂.Pairwise R) (h : ∀ x, x ∈ l₁ ↔ x ∈ l₂) : l₁ = l₂ :=
  have nd : ∀ {l : List α}, l.Pairwise R → l.Nodup := fun hl =>
    hl.imp fun {a b} hab (e : a = b) => by subst e; exact asymm a a hab hab
  List.Perm.eq_of_pairwise (fun a b _ _ hab hba => absurd hba (asymm a b hab)) h1 h2
    ((List.perm_ext_iff_of_nodup (nd h1) (nd h2)).2 h)

/-- a map that is injective on the elements with `P` is injective on the lists of such elements -/
theorem map_inj_on {β : Type _} (f : α → β) (P : α → Prop)
    (hf : ∀ x y, P x → P y → f x = f y → x = y) :
    ∀ (l₁ l₂ : List α), (∀ x ∈ l₁, P x) → (∀ x ∈ l₂, P x) → l₁.map f = l₂.map f → l₁ = l₂
  | [], [], _, _, _ => rfl
  | [], _ :: _, _, _, h => by simp at h
  | _ :: _, [], _, _, h => by simp at h
  | a :: as, b :: bs, h1, h2, h => by
    simp only [List.map_cons, List.cons.injEq] at h
    have e := hf a b (h1 a (List.mem_cons_self ..)) (h2 b (List.mem_cons_self ..)) h.1
    rw [e, map_inj_on f P hf as bs (fun x hx => h1 x (List.mem_cons_of_mem _ hx))
      (fun x hx => h2 x (List.mem_cons_of_mem _ hx)) h.2]

/-- of two duplicate-free lists of the same length, one inside the other, each holds the other -/
theorem subset_of_length_eq [DecidableEq α] : ∀ (s t : List α), s.Nodup → t.Nodup → s ⊆ t →
    s.length = t.length → t ⊆ s
  | [], t, _, _, _, hl => by
    have : t = [] := List.eq_nil_of_length_eq_zero (by simpa using hl.symm)
    subst this; exact fun _ h => h
  | a :: s', t, hs, ht, hsub, hl => by
    rw [List.nodup_cons] at hs
    have ha : a ∈ t := hsub (List.mem_cons_self ..)
    have hsub' : s' ⊆ t.erase a := by
      intro x hx
      have hxa : x ≠ a := fun h => hs.1 (h ▸ hx)
      exact (List.mem_erase_of_ne hxa).2 (hsub (List.mem_cons_of_mem _ hx))
    have hlen : (t.erase a).length = s'.length := by
      rw [List.length_erase_of_mem ha]; simp at hl; omega
    have ih := subset_of_length_eq s' (t.erase a) hs.2 (ht.erase a) hsub' hlen.symm
    intro x hx
    by_cases hxa : x = a
    · subst hxa; exact List.mem_cons_self ..
    · exact List.mem_cons_of_mem _ (ih ((List.mem_erase_of_ne hxa).2 hx))

/-- the head of a list sorted by a reflexive relation is below every member -/
theorem head?_pairwise {α : Type} {R : α → α → Prop} {l : List α} (hp : l.Pairwise R) (hr : ∀ x, R x x) {m : α}
    (h : l.head? = some m) : m ∈ l ∧ ∀ c ∈ l, R m c := by
  cases l with
  | nil => cases h
  | cons x xs =>
    cases h
    exact ⟨List.mem_cons_self .., List.forall_mem_cons.2 ⟨hr _, (List.pairwise_cons.1 hp).1⟩⟩

/-- … and the last one above every member -/
theorem getLast?_pairwise {α : Type} {R : α → α → Prop} {l : List α} (hp : l.Pairwise R) (hr : ∀ x, R x x) {m : α}
    (h : l.getLast? = some m) : m ∈ l ∧ ∀ c ∈ l, R c m := by
  rw [← List.head?_reverse] at h
  have := head?_pairwise (R := fun a b => R b a) (List.pairwise_reverse.2 hp) hr h
  exact ⟨List.mem_reverse.1 this.1, fun c hc => this.2 c (List.mem_reverse.2 hc)⟩

/-- every member has `P`, or there is a first one that has not -/
theorem ok_or_first_fail {α : Type} (P : α → Prop) (l : List α) :
    (∀ s ∈ l, P s) ∨ ∃ pre s post, l = pre ++ s :: post ∧ (∀ x ∈ pre, P x) ∧ ¬ P s := by
  induction l with
  | nil => left; intro s hs; cases hs
  | cons a r ih =>
    by_cases ha : P a
    · rcases ih with h | ⟨pre, s, post, e, hp, hs⟩
      · left; intro s hs
        rcases List.mem_cons.1 hs with rfl | h'
        · exact ha
        · exact h s h'
      · right
        refine ⟨a :: pre, s, post, by rw [e]; rfl, ?_, hs⟩
        intro x hx
        rcases List.mem_cons.1 hx with rfl | h'
        · exact ha
        · exact hp x h'
    · right; exact ⟨[], a, r, rfl, ⟨fun x hx => absurd hx (by simp), ha⟩⟩

theorem exists_mem_not {α : Type} {l : List α} {p : α → Prop} (h : ¬ ∀ n ∈ l, p n) : ∃ n ∈ l, ¬ p n :=
  Classical.byContradiction fun hc => h fun n hn => Classical.byContradiction fun hp => hc ⟨n, hn, hp⟩

theorem intercalate_nil_sep {α} (l : List (List α)) : ([] : List α).intercalate l = l.flatten := by
  induction l with
  | nil => rfl
  | cons a r ih =>
    cases r with
    | nil => simp [List.intercalate, List.intersperse]
    | cons b r' =>
      rw [List.intercalate_cons_cons, ih]
      simp

/-- how `repr(IPAddress)`, `repr(IPNetwork)` are read back without `eval` -/
theorem unframe [BEq α] [LawfulBEq α] (pre suf m : List α) :
    (if pre.isPrefixOf (pre ++ (m ++ suf)) && suf.isSuffixOf ((pre ++ (m ++ suf)).drop pre.length) then
      some (((pre ++ (m ++ suf)).drop pre.length).take ((pre ++ (m ++ suf)).length - pre.length - suf.length))
    else none) = some m := by
  have h2 : (pre ++ (m ++ suf)).drop pre.length = m ++ suf := List.drop_left
  have h4 : (pre ++ (m ++ suf)).length - pre.length - suf.length = m.length := by
    simp only [List.length_append]; omega
  rw [h2, h4]
  simp

theorem map_range_succ {β : Type} (f : Nat → β) (n : Nat) :
    (List.range (n + 1)).map f = f 0 :: (List.range n).map (fun i => f (i + 1)) := by
  rw [List.range_succ_eq_map, List.map_cons, List.map_map]; rfl

theorem map_range_ne_nil {α : Type} (f : Nat → α) (c : Nat) (hc : 1 ≤ c) : (List.range c).map f ≠ [] := by
  rw [Ne, List.map_eq_nil_iff, List.range_eq_nil]; omega

theorem find_cons_eraseP_perm {α : Type} (p : α → Bool) : ∀ (s : List α) (x : α), s.find? p = some x →
    (x :: s.eraseP p).Perm s := by
  intro s
  induction s with
  | nil => intro x h; simp at h
  | cons y ys ih =>
    intro x h
    by_cases hy : p y
    · simp only [List.find?_cons, hy] at h
      have : y = x := by simpa using h
      subst this
      simp [hy]
    · have hy' : p y = false := by simpa using hy
      simp only [List.find?_cons, hy'] at h
      have := ih x h
      simp only [List.eraseP_cons, hy']
      exact (List.Perm.swap y x _).trans (List.Perm.cons y this)

theorem filterMap_all_some {α β : Type} (f : α → Option β) (g : α → β) :
    ∀ l : List α, (∀ a ∈ l, f a = some (g a)) → l.filterMap f = l.map g := by
  intro l
  induction l with
  | nil => intro _; rfl
  | cons a t ih =>
    intro h
    rw [List.filterMap_cons, h a (by simp), ih (fun b hb => h b (by simp [hb]))]
    rfl

end NV
