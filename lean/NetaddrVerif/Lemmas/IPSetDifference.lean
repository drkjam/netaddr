/-
Lemmas/IPSetDifference.lean — from the tuples the sweeps produce to the result sets (C07/C06):
`_iter_merged_ranges` read on the number line; the keys `iprange_to_cidrs` contributes for
ranges with a gap between any two form one canonical set (`canonset_flatMap`); `difference`
(`-`) and `symmetric_difference` (`^`) of canonical operands of any mix of families are
canonical and denote exactly the set difference / the symmetric difference.
-/
import NetaddrVerif.Lemmas.IPSetSweep
import NetaddrVerif.Lemmas.IPSetMergedRanges
import NetaddrVerif.Lemmas.IPSetMergeOps
namespace NV.IPSet
open NV NV.Blk

/-! ### `_iter_merged_ranges` -/

theorem rden_iff_denVR (l : List VR) (x : Nat) : rden l x ↔ ∃ ver a, x = off ver + a ∧ denVR l ver a := by
  constructor
  · rintro ⟨r, hr, h1, h2⟩
    unfold VR.L at h1; unfold VR.H at h2
    exact ⟨r.1, x - off r.1, by omega, r, hr, rfl, by omega, by omega⟩
  · rintro ⟨ver, a, rfl, r, hr, rfl, h1, h2⟩
    exact ⟨r, hr, Nat.add_le_add_left h1 _, Nat.add_le_add_left h2 _⟩

/-- valid tuples on the line with a gap between any two (`AscR` with `+ 1`; per family the relation is `GapR_q`):
    what `_iter_merged_ranges` yields, and what lets the cidrs of the ranges be taken together (`canonset_flatMap`) -/
def GapR (l : List VR) : Prop := (∀ r ∈ l, VROK r) ∧ l.Pairwise (fun r r' => r.H + 1 < r'.L)

/-- `mergedRanges_normal` read on the line -/
theorem mergedRanges_spec (rs : List VR) (h : AscR rs) :
    GapR (mergedRanges rs) ∧ ∀ x, rden (mergedRanges rs) x ↔ rden rs x := by
  obtain ⟨_, i2, i3, _⟩ := mergedRanges_normal rs h.sep.1 h.sep.2
  have hok := h.merged_ok
  exact ⟨⟨hok, i2.imp_of_mem fun ha hb hg => (vr_lt_iff _ _ (hok _ ha) (hok _ hb) 1 (Nat.le_refl 1)).2 hg⟩,
    fun x => by simp only [rden_iff_denVR, i3]⟩

/-! ### canonicity of a cover of gap-separated ranges -/

/-- Canonical covers of intervals with a gap between any two: a member's parent, being an interval
    that leaves its own range, would contain the address just below or just above that range,
    which no range holds. -/
theorem canonset_flatMap (f : VR → List Blk) (M : List VR)
    (hf : ∀ r ∈ M, CanonSet (f r) ∧ ∀ x, den (f r) x ↔ r.L ≤ x ∧ x ≤ r.H)
    (hgap : M.Pairwise (fun r r' => r.H + 1 < r'.L)) :
    CanonSet (M.flatMap f) ∧ ∀ x, den (M.flatMap f) x ↔ rden M x := by
  have hden : ∀ x, den (M.flatMap f) x ↔ rden M x := fun x => by
    constructor
    · rintro ⟨b, hb, hx⟩
      obtain ⟨r, hr, hbr⟩ := List.mem_flatMap.1 hb
      exact ⟨r, hr, ((hf r hr).2 x).1 ⟨b, hbr, hx⟩⟩
    · rintro ⟨r, hr, hx⟩
      obtain ⟨b, hbr, hx⟩ := ((hf r hr).2 x).2 hx
      exact ⟨b, List.mem_flatMap.2 ⟨r, hr, hbr⟩, hx⟩
  refine ⟨canonset_of_maximal _ fun b hb => ?_, hden⟩
  obtain ⟨r, hr, hbr⟩ := List.mem_flatMap.1 hb
  obtain ⟨hal, hin, hout⟩ := canonset_mem_maximal _ (hf r hr).1 b hbr
  refine ⟨hal, fun a ha => ⟨b, hb, ha⟩, fun hcov => hout fun y hy => ((hf r hr).2 y).2 ?_⟩
  have hb0 := ((hf r hr).2 _).1 (hin _ (mem_base b))
  have hp0 := sub_parent b hal _ (mem_base b)
  -- an address of the parent outside `r` lies in another range, hence beyond the gap
  have far : ∀ z, b.parent.mem z → ¬ (r.L ≤ z ∧ z ≤ r.H) → r.H + 1 < z ∨ z + 1 < r.L := by
    intro z hz hnr
    obtain ⟨r', hr', hz'⟩ := (hden z).1 (hcov z hz)
    by_cases e : r = r'
    · exact absurd (e ▸ hz') hnr
    · rcases pairwise_or M hgap r hr r' hr' e with h | h <;> omega
  apply Classical.byContradiction
  intro hny
  rcases Nat.lt_or_ge y r.L with hlt | hge
  · have := far (r.L - 1) ⟨by have := hy.1; omega, by have := hp0.2; omega⟩ (by omega); omega
  · have := far (r.H + 1) ⟨by have := hp0.1; omega, by have := hy.2; omega⟩ (by omega); omega

theorem rangesToCidrs_spec (rs : List VR) (h : AscR rs) :
    (∀ n ∈ rangesToCidrs rs, Good n) ∧ CanonSet ((rangesToCidrs rs).map lin) ∧
    ∀ x, den ((rangesToCidrs rs).map lin) x ↔ rden rs x := by
  obtain ⟨⟨g1, g2⟩, g3⟩ := mergedRanges_spec rs h
  have e : (rangesToCidrs rs).map lin =
      (mergedRanges rs).flatMap (fun r => (rangeCidrs r.1 r.2.1 r.2.2).map lin) := by
    unfold rangesToCidrs; rw [List.map_flatMap]
  obtain ⟨c1, c2⟩ := canonset_flatMap (fun r => (rangeCidrs r.1 r.2.1 r.2.2).map lin) (mergedRanges rs)
    (fun r hr => (rangeCidrs_lin r.1 r.2.1 r.2.2 (g1 r hr).1 (g1 r hr).2.1 (g1 r hr).2.2).2) g2
  refine ⟨?_, e ▸ c1, fun x => by rw [e, c2 x, g3 x]⟩
  intro n hn
  unfold rangesToCidrs at hn
  obtain ⟨r, hr, hn'⟩ := List.mem_flatMap.1 hn
  exact (rangeCidrs_lin r.1 r.2.1 r.2.2 (g1 r hr).1 (g1 r hr).2.1 (g1 r hr).2.2).1 n hn'

/-! ### the two operators -/

theorem nden_sorted (s : St) (hg : ∀ n ∈ s, n.WF) (x : Nat) : nden (sortNets s) x ↔ den (s.map lin) x := by
  rw [den_lin_nden s hg]
  have hp := sortNets_perm s
  constructor
  · exact nden_mono (fun n hn => hp.mem_iff.1 hn) x
  · exact nden_mono (fun n hn => hp.mem_iff.2 hn) x

theorem sweep_ready (s t : St) (hs : Inv s) (ht : Inv t) :
    Asc (sortNets s) ∧ Asc (sortNets t) ∧
    (sortNets s).length + (sortNets t).length < s.length + t.length + 1 :=
  ⟨asc_sorted s hs, asc_sorted t ht, by rw [(sortNets_perm s).length_eq, (sortNets_perm t).length_eq]; omega⟩

/-- `difference` / `-` -/
theorem difference_spec (s t : St) (hs : Inv s) (ht : Inv t) :
    Inv (difference s t) ∧ ∀ ver a, denS (difference s t) ver a ↔ denS s ver a ∧ ¬ denS t ver a := by
  obtain ⟨hA, hB, hlen⟩ := sweep_ready s t hs ht
  have hsw : ∀ n ∈ s, n.WF := hs.wf
  have htw : ∀ n ∈ t, n.WF := ht.wf
  obtain ⟨cn, rn, e, hcn, hrn, hpw, hdj, hden⟩ :=
    diffSweep_spec (s.length + t.length + 1) (sortNets s) (sortNets t) [] [] hA hB hlen
  have hdiff : difference s t = (rangesToCidrs rn).foldl dInsert (fromKeys cn) := by
    unfold difference; rw [e]; simp [fromKeys]
  obtain ⟨kg, kc, kd⟩ := rangesToCidrs_spec rn ⟨fun r hr => (hrn r hr).1, hpw⟩
  have hcng : ∀ n ∈ cn, Good n := fun n hn => hA.1 n (hcn n hn)
  obtain ⟨f1, f2, f3⟩ := fromKeys_mem cn hcng
  obtain ⟨g1, hnd, g2⟩ := foldl_dInsert (rangesToCidrs rn) kg (fromKeys cn) f1
  replace hnd := hnd f2
  rw [← hdiff] at g1 g2 hnd
  have hmem : ∀ b, b ∈ (difference s t).map lin ↔ b ∈ cn.map lin ++ (rangesToCidrs rn).map lin := fun b => by
    rw [← List.map_append]
    exact mem_map_lin_congr (fun n => by rw [g2 n, f3 n, List.mem_append]) b
  have hcnw : ∀ n ∈ cn, n.WF := fun n hn => (hcng n hn).1
  have hline : ∀ x, den ((difference s t).map lin) x ↔ den (s.map lin) x ∧ ¬ den (t.map lin) x := fun x => by
    rw [den_congr hmem x, den_append, den_lin_nden cn hcnw, kd x, hden x, nden_sorted s hsw, nden_sorted t htw]
  -- whole keys of `s` next to the keys of ranges that lie inside `s` and apart from them
  refine ⟨inv_of_lin _ g1 hnd (canonset_congr (canonset_union (s.map lin) _ _ hs.lin (fun b hb => ?_) kc
    (fun x h => ((nden_sorted s hsw x).1 ((hden x).1 (Or.inr ((kd x).1 h))).1)) fun x ⟨h1, h2⟩ => ?_) hmem),
    denS_of_line g1 hsw htw (fun p q => p ∧ ¬ q) (fun h => h.1) hline⟩
  · obtain ⟨n, hn, rfl⟩ := List.mem_map.1 hb
    exact List.mem_map_of_mem ((sortNets_perm s).mem_iff.1 (hcn n hn))
  · obtain ⟨n, hn, k1, k2⟩ := (den_lin_nden cn hcnw x).1 h1
    obtain ⟨r, hr, k3, k4⟩ := (kd x).1 h2
    rcases hdj n hn r hr with h | h <;> omega

/-- `symmetric_difference` / `^` -/
theorem symmetricDifference_spec (s t : St) (hs : Inv s) (ht : Inv t) :
    Inv (symmetricDifference s t) ∧
    ∀ ver a, denS (symmetricDifference s t) ver a ↔
      (denS s ver a ∧ ¬ denS t ver a) ∨ (denS t ver a ∧ ¬ denS s ver a) := by
  obtain ⟨hA, hB, hlen⟩ := sweep_ready s t hs ht
  have hsw : ∀ n ∈ s, n.WF := hs.wf
  have htw : ∀ n ∈ t, n.WF := ht.wf
  obtain ⟨rn, e, hrn, hpw, hden⟩ :=
    xorSweep_spec (s.length + t.length + 1) (sortNets s) (sortNets t) [] hA hB hlen
  have hx : symmetricDifference s t = fromKeys (rangesToCidrs rn) := by
    unfold symmetricDifference; rw [e]; simp
  obtain ⟨kg, kc, kd⟩ := rangesToCidrs_spec rn ⟨fun r hr => (hrn r hr).1, hpw⟩
  obtain ⟨f1, f2, f3⟩ := fromKeys_mem (rangesToCidrs rn) kg
  rw [← hx] at f1 f2 f3
  have hmem := mem_map_lin_congr f3
  refine ⟨inv_of_lin _ f1 f2 (canonset_congr kc hmem),
    denS_of_line f1 hsw htw (fun p q => (p ∧ ¬ q) ∨ (q ∧ ¬ p)) (by simp) fun x => ?_⟩
  rw [den_congr hmem x, kd x, hden x, nden_sorted s hsw, nden_sorted t htw]

end NV.IPSet
