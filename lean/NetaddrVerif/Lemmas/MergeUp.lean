import NetaddrVerif.Lemmas.Canon
/-! Where an aligned block sits in its parent, and its sibling; a block put in front of a canonical set
    that holds neither an overlapping block nor its sibling (`canonset_cons`); and a sibling-merge loop on block
    lists, `mergeUp`, with its specification (`mergeUp_spec`).  `mergeUp` is the loop of
    `IPSet._compact_single_network` with the dictionary taken away; no theorem ties it to the model's `mergeLoop`, whose
    specification (`IPSet.mergeLoop_spec`) is proved on keys and uses only `sibling_spec` and `eq_sibling_of_sib` of this file. -/
namespace NV
open Blk

/-- the other half of the parent (`previous()` if the low network bit is 1, else `next()`) -/
def sibling (b : Blk) : Blk :=
  if b.base % 2 ^ (b.k + 1) = 0 then ⟨b.base + 2 ^ b.k, b.k⟩ else ⟨b.base - 2 ^ b.k, b.k⟩

theorem aligned_high {b : Blk} (hb : b.aligned) (h : b.base % 2 ^ (b.k + 1) ≠ 0) :
    b.base % 2 ^ (b.k + 1) = 2 ^ b.k := by
  have hb' : b.base % 2 ^ b.k = 0 := hb
  rw [Nat.mod_pow_succ, hb', Nat.zero_add] at h ⊢
  rcases Nat.mod_two_eq_zero_or_one (b.base / 2 ^ b.k) with h0 | h1
  · rw [h0, Nat.mul_zero] at h; exact absurd rfl h
  · rw [h1, Nat.mul_one]

/-- where an aligned block sits in its parent, as bounds: the upper half has room below it, the lower half starts the parent -/
theorem half_bounds (b : Blk) (hb : b.aligned) :
    (¬ b.base % 2 ^ (b.k + 1) = 0 → 2 ^ b.k ≤ b.base) ∧
    (b.base % 2 ^ (b.k + 1) = 0 → b.parent.base = b.base) := by
  refine ⟨fun h => ?_, fun h => ?_⟩
  · have := aligned_high hb h; have := Nat.mod_le b.base (2 ^ (b.k + 1)); omega
  · exact Nat.div_mul_cancel (Nat.dvd_of_mod_eq_zero h)

theorem sibling_spec (b : Blk) (hb : b.aligned) :
    (sibling b).aligned ∧ (sibling b).k = b.k ∧ (b.sib (sibling b) ∨ (sibling b).sib b) ∧
    (∀ a, b.parent.mem a ↔ b.mem a ∨ (sibling b).mem a) ∧ b.disj (sibling b) := by
  have hp := Nat.two_pow_pos b.k
  have e := Nat.pow_succ 2 b.k
  have hb' : b.base % 2 ^ b.k = 0 := hb
  have hpar : b.parent.base = b.base - b.base % 2 ^ (b.k + 1) := Nat.div_mul_self_eq_mod_sub_self
  have hmem : ∀ a, b.parent.mem a ↔ b.parent.base ≤ a ∧ a < b.parent.base + 2 ^ b.k * 2 :=
    fun a => by rw [← e]; exact Iff.rfl
  by_cases h : b.base % 2 ^ (b.k + 1) = 0
  · rw [h, Nat.sub_zero] at hpar
    rw [show sibling b = ⟨b.base + 2 ^ b.k, b.k⟩ from if_pos h]
    refine ⟨(Nat.add_mod_right _ _).trans hb', rfl, Or.inl ⟨rfl, h, rfl⟩, fun a => ?_, fun a => ?_⟩
    · rw [hmem, hpar]; simp only [mem]; omega
    · simp only [mem]; omega
  · have hm := aligned_high hb h
    have hge : 2 ^ b.k ≤ b.base := hm ▸ Nat.mod_le _ _
    rw [hm] at hpar
    have hlow : (b.base - 2 ^ b.k) % 2 ^ (b.k + 1) = 0 :=
      Nat.sub_mod_eq_zero_of_mod_eq (by rw [hm, Nat.mod_eq_of_lt (by omega)])
    rw [show sibling b = ⟨b.base - 2 ^ b.k, b.k⟩ from if_neg h]
    refine ⟨mod_pow_of_le hlow (Nat.le_succ _), rfl, Or.inr ⟨rfl, hlow, (Nat.sub_add_cancel hge).symm⟩,
      fun a => ?_, fun a => ?_⟩
    · rw [hmem, hpar]; simp only [mem]; omega
    · simp only [mem]; omega

theorem eq_sibling_of_sib {b z : Blk} (h : b.sib z ∨ z.sib b) : z = sibling b := by
  obtain ⟨zb, zk⟩ := z
  rcases h with ⟨hk, hlow, hbase⟩ | ⟨hk, hlow, hbase⟩
  · have hk' : b.k = zk := hk
    have hbase' : zb = b.base + 2 ^ b.k := hbase
    rw [sibling, if_pos hlow, ← hk', ← hbase']
  · have hk' : zk = b.k := hk
    have hbase' : b.base = zb + 2 ^ zk := hbase
    have hlow' : zb % 2 ^ (zk + 1) = 0 := hlow
    have hne : b.base % 2 ^ (b.k + 1) ≠ 0 := by
      rw [hbase', ← hk', Nat.add_mod, hlow', Nat.zero_add, Nat.mod_mod,
        Nat.mod_eq_of_lt (Nat.pow_lt_pow_right (by decide) (Nat.lt_succ_self zk))]
      exact Nat.ne_of_gt (Nat.two_pow_pos zk)
    rw [sibling, if_neg hne, ← hk', hbase', Nat.add_sub_cancel]

theorem canonset_cons {l : List Blk} {b : Blk} (hc : CanonSet l) (hb : b.aligned) (hd : ∀ c ∈ l, b.disj c)
    (hs : sibling b ∉ l) : CanonSet (b :: l) := by
  have key : ∀ z ∈ l, ¬ (b.sib z ∨ z.sib b) := fun z hz h => hs (eq_sibling_of_sib h ▸ hz)
  refine ⟨?_, ?_, ?_⟩
  · intro x hx
    rcases List.mem_cons.1 hx with rfl | hx
    · exact hb
    · exact hc.al x hx
  · intro x hx y hy hne
    rcases List.mem_cons.1 hx with rfl | hx' <;> rcases List.mem_cons.1 hy with rfl | hy'
    · exact absurd rfl hne
    · exact hd y hy'
    · exact fun a h => hd x hx' a h.symm
    · exact hc.dj x hx' y hy' hne
  · intro x hx y hy hsxy
    rcases List.mem_cons.1 hx with rfl | hx' <;> rcases List.mem_cons.1 hy with rfl | hy'
    · exact not_sib_self _ hsxy
    · exact key y hy' (Or.inl hsxy)
    · exact key x hx' (Or.inr hsxy)
    · exact hc.ns x hx' y hy' hsxy

def mergeUp : Nat → List Blk → Blk → List Blk
  | 0, l, b => b :: l
  | fuel + 1, l, b =>
    if sibling b ∈ l then mergeUp fuel (l.erase (sibling b)) b.parent else b :: l

theorem mergeUp_spec : ∀ (fuel : Nat) (l : List Blk) (b : Blk),
    l.length ≤ fuel → l.Nodup → CanonSet l → b.aligned → (∀ c ∈ l, b.disj c) →
    CanonSet (mergeUp fuel l b) ∧ (∀ a, den (mergeUp fuel l b) a ↔ den l a ∨ b.mem a) := by
  intro fuel
  induction fuel with
  | zero =>
    intro l b hlen _ hc hb hd
    obtain rfl : l = [] := List.eq_nil_of_length_eq_zero (Nat.le_zero.1 hlen)
    exact ⟨canonset_cons hc hb hd List.not_mem_nil, den_cons b []⟩
  | succ fuel ih =>
    intro l b hlen hnd hc hb hd
    simp only [mergeUp]
    by_cases hs : sibling b ∈ l
    · obtain ⟨-, -, -, hpar, -⟩ := sibling_spec b hb
      rw [if_pos hs]
      have hsub : ∀ x, x ∈ l.erase (sibling b) → x ∈ l := fun x hx => List.mem_of_mem_erase hx
      have hne : ∀ x, x ∈ l.erase (sibling b) → x ≠ sibling b :=
        fun x hx e => ((List.Nodup.mem_erase_iff hnd).1 hx).1 e
      have hc' : CanonSet (l.erase (sibling b)) := canonset_subset hc hsub
      have hd' : ∀ c ∈ l.erase (sibling b), b.parent.disj c := by
        intro c hc1 a ⟨h1, h2⟩
        rcases (hpar a).1 h1 with h | h
        · exact hd c (hsub c hc1) a ⟨h, h2⟩
        · exact hc.dj (sibling b) hs c (hsub c hc1) (hne c hc1).symm a ⟨h, h2⟩
      have hlen' : (l.erase (sibling b)).length ≤ fuel := by
        rw [List.length_erase_of_mem hs]; omega
      obtain ⟨r1, r2⟩ := ih (l.erase (sibling b)) b.parent hlen' (hnd.erase _) hc' (parent_aligned b) hd'
      refine ⟨r1, fun a => ?_⟩
      -- the erased sibling and `b` together are the parent
      rw [r2 a, hpar a]
      constructor
      · rintro (⟨x, hx, hxa⟩ | h | h)
        · exact Or.inl ⟨x, hsub x hx, hxa⟩
        · exact Or.inr h
        · exact Or.inl ⟨sibling b, hs, h⟩
      · rintro (⟨x, hx, hxa⟩ | h)
        · by_cases e : x = sibling b
          · subst e; exact Or.inr (Or.inr hxa)
          · exact Or.inl ⟨x, (List.mem_erase_of_ne e).2 hx, hxa⟩
        · exact Or.inr (Or.inl h)
    · rw [if_neg hs]
      exact ⟨canonset_cons hc hb hd hs, den_cons b l⟩

end NV
