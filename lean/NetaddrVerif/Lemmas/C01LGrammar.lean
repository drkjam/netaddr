/-
Lemmas/C01LGrammar.lean — an INDEPENDENT, declarative statement of the RFC 4291 section 2.2
text grammar of IPv6 addresses (`Rfc4291 s v`: the string `s` is a standard IPv6 text and denotes
the 128-bit number `v`), written without reference to the parser models: no splitting, no
trimming of empty tokens, no loop — only "the string IS groups joined by colons".

RFC 4291, 2.2:
 1. `x:x:x:x:x:x:x:x`, the `x` being one to four hexadecimal digits of the eight 16-bit pieces;
 2. `::` stands for one or more groups of 16 bits of zeros, and can appear only once; it can
    also stand for leading or trailing zeros;
 3. `x:x:x:x:x:x:d.d.d.d`, the `d` being the decimal values of the four low-order 8-bit pieces
    (standard IPv4 dotted quad: here the strict form, 1-3 digits, no leading zero, ≤ 255),
    also combinable with `::`.

This file: the definitions, positive examples, the bridges from the grammar's notions to the
model's token readers (`hextet`, `octet`, `pton4`), and the range of the grammar (a group is below 2^16, a
text denotes a number below 2^128: `rfc4291_lt`).  The equivalence with the parser model is in
C01LGrammarPton6.lean.
-/
import NetaddrVerif.Lemmas.C01L4
import NetaddrVerif.Lemmas.StrLit
namespace NV.C01G
open NV

def IsDecDigit (c : Char) : Prop := '0' ≤ c ∧ c ≤ '9'

def IsHexDigit (c : Char) : Prop := ('0' ≤ c ∧ c ≤ '9') ∨ ('a' ≤ c ∧ c ≤ 'f') ∨ ('A' ≤ c ∧ c ≤ 'F')

def digitVal (c : Char) : Nat :=
  if '0' ≤ c ∧ c ≤ '9' then c.toNat - '0'.toNat
  else if 'a' ≤ c ∧ c ≤ 'f' then 10 + (c.toNat - 'a'.toNat)
  else 10 + (c.toNat - 'A'.toNat)

/-- positional value of a digit string: `d₁ d₂ … dₙ` is `d₁·baseⁿ⁻¹ + … + dₙ` -/
def numVal (base : Nat) : List Char → Nat
  | [] => 0
  | c :: r => digitVal c * base ^ r.length + numVal base r

/-- a group `x`: one to four hexadecimal digits -/
def IsGroup (t : List Char) : Prop := 1 ≤ t.length ∧ t.length ≤ 4 ∧ ∀ c ∈ t, IsHexDigit c

/-- a strict decimal octet `d`: one to three decimal digits, no leading zero (except "0"
    itself), value at most 255 -/
def IsOctet (t : List Char) : Prop :=
  1 ≤ t.length ∧ t.length ≤ 3 ∧ (∀ c ∈ t, IsDecDigit c) ∧ (2 ≤ t.length → t.head? ≠ some '0') ∧
    numVal 10 t ≤ 255

/-- `d.d.d.d` with its 32-bit value -/
def IsQuad (t : List Char) (x : Nat) : Prop :=
  ∃ a b c d, IsOctet a ∧ IsOctet b ∧ IsOctet c ∧ IsOctet d ∧
    t = a ++ '.' :: (b ++ '.' :: (c ++ '.' :: d)) ∧
    x = ((numVal 10 a * 256 + numVal 10 b) * 256 + numVal 10 c) * 256 + numVal 10 d

def joinColon : List (List Char) → List Char
  | [] => []
  | [t] => t
  | t :: r => t ++ ':' :: joinColon r

/-- big-endian value of a list of 16-bit groups -/
def wordsVal : List Nat → Nat
  | [] => 0
  | w :: r => w * 65536 ^ r.length + wordsVal r

/-- the optional dotted-quad tail: `q` is its text as a list of no or one piece, `qw` the two
    16-bit groups it stands for -/
def IsTail (q : List (List Char)) (qw : List Nat) : Prop :=
  (q = [] ∧ qw = []) ∨ ∃ t x, IsQuad t x ∧ q = [t] ∧ qw = [x / 65536, x % 65536]

/-- forms 1 and 3 without `::` : eight groups' worth, all explicit -/
def Rfc4291Full (s : List Char) (v : Nat) : Prop :=
  ∃ (G q : List (List Char)) (qw : List Nat),
    (∀ t ∈ G, IsGroup t) ∧ IsTail q qw ∧
    s = joinColon (G ++ q) ∧
    G.length + qw.length = 8 ∧
    v = wordsVal (G.map (numVal 16) ++ qw)

/-- form 2 (with or without the dotted-quad tail): groups `A`, then `::`, then groups `B` and
    the optional tail; at most seven groups' worth explicit; the `::` is filled with zero groups -/
def Rfc4291Compressed (s : List Char) (v : Nat) : Prop :=
  ∃ (A B q : List (List Char)) (qw : List Nat),
    (∀ t ∈ A, IsGroup t) ∧ (∀ t ∈ B, IsGroup t) ∧ IsTail q qw ∧
    s = joinColon A ++ ':' :: ':' :: joinColon (B ++ q) ∧
    A.length + B.length + qw.length ≤ 7 ∧
    v = wordsVal (A.map (numVal 16) ++ List.replicate (8 - (A.length + B.length + qw.length)) 0
          ++ (B.map (numVal 16) ++ qw))

/-- **RFC 4291 section 2.2**: `s` is a standard IPv6 address text and `v` the address it denotes -/
def Rfc4291 (s : List Char) (v : Nat) : Prop := Rfc4291Full s v ∨ Rfc4291Compressed s v

/-! ## Positive examples (negative ones follow the equivalence theorem, in Props/C01.lean) -/

instance (c : Char) : Decidable (IsDecDigit c) := by unfold IsDecDigit; infer_instance
instance (c : Char) : Decidable (IsHexDigit c) := by unfold IsHexDigit; infer_instance
instance (t : List Char) : Decidable (IsGroup t) := by unfold IsGroup; infer_instance
instance (t : List Char) : Decidable (IsOctet t) := by unfold IsOctet; infer_instance

example : IsGroup "0".toList ∧ IsGroup "fFfF".toList ∧ ¬ IsGroup "".toList ∧ ¬ IsGroup "00000".toList
    ∧ ¬ IsGroup "12g".toList ∧ ¬ IsGroup "0x1".toList ∧ ¬ IsGroup " 1".toList := by decide_lit
example : numVal 16 "fFfF".toList = 65535 ∧ numVal 16 "0db8".toList = 0xdb8 ∧ numVal 10 "255".toList = 255 := by decide_lit
example : IsOctet "0".toList ∧ IsOctet "255".toList ∧ ¬ IsOctet "256".toList ∧ ¬ IsOctet "01".toList
    ∧ ¬ IsOctet "".toList ∧ ¬ IsOctet "0000".toList ∧ ¬ IsOctet "1a".toList := by decide_lit
example : joinColon ["1".toList, "2".toList, "3".toList] = "1:2:3".toList := by decide_lit
example : wordsVal [1, 2, 3] = 0x000100020003 := by decide_lit

example : IsQuad "192.0.2.1".toList 0xC0000201 :=
  ⟨"192".toList, "0".toList, "2".toList, "1".toList, by decide_lit⟩

/-- `2001:db8:0:0:8:800:200C:417A` (RFC 4291's own example), all eight groups -/
example : Rfc4291 "2001:db8:0:0:8:800:200C:417A".toList 0x20010db80000000000080800200C417A :=
  Or.inl ⟨["2001".toList, "db8".toList, "0".toList, "0".toList, "8".toList, "800".toList, "200C".toList,
    "417A".toList], [], [], by decide_lit, Or.inl ⟨rfl, rfl⟩, by decide_lit⟩

/-- the same address compressed: `2001:db8::8:800:200C:417A` -/
example : Rfc4291 "2001:db8::8:800:200C:417A".toList 0x20010db80000000000080800200C417A :=
  Or.inr ⟨["2001".toList, "db8".toList], ["8".toList, "800".toList, "200C".toList, "417A".toList], [], [],
    by decide_lit, by decide_lit, Or.inl ⟨rfl, rfl⟩, by decide_lit⟩

/-- `::` the unspecified address, `::1` loopback, `1::` trailing compression -/
example : Rfc4291 "::".toList 0 :=
  Or.inr ⟨[], [], [], [], by decide_lit, by decide_lit, Or.inl ⟨rfl, rfl⟩, by decide_lit⟩
example : Rfc4291 "::1".toList 1 :=
  Or.inr ⟨[], ["1".toList], [], [], by decide_lit, by decide_lit, Or.inl ⟨rfl, rfl⟩, by decide_lit⟩
example : Rfc4291 "1::".toList (2 ^ 112) :=
  Or.inr ⟨["1".toList], [], [], [], by decide_lit, by decide_lit, Or.inl ⟨rfl, rfl⟩, by decide_lit⟩

/-- `::` standing for exactly one group -/
example : Rfc4291 "1:2:3:4::6:7:8".toList 0x00010002000300040000000600070008 :=
  Or.inr ⟨["1".toList, "2".toList, "3".toList, "4".toList], ["6".toList, "7".toList, "8".toList], [], [],
    by decide_lit, by decide_lit, Or.inl ⟨rfl, rfl⟩, by decide_lit⟩

/-- `::FFFF:129.144.52.38` (RFC 4291's IPv4-mapped example) -/
example : Rfc4291 "::FFFF:129.144.52.38".toList 0xFFFF81903426 :=
  Or.inr ⟨[], ["FFFF".toList], ["129.144.52.38".toList], [0x8190, 0x3426], by decide_lit, by decide_lit,
    Or.inr ⟨_, 0x81903426, ⟨"129".toList, "144".toList, "52".toList, "38".toList, by decide_lit⟩, rfl,
      by decide_lit⟩, by decide_lit⟩

/-- `0:0:0:0:0:0:13.1.68.3` (RFC 4291's IPv4-compatible example), no `::` -/
example : Rfc4291 "0:0:0:0:0:0:13.1.68.3".toList 0x0D014403 :=
  Or.inl ⟨["0".toList, "0".toList, "0".toList, "0".toList, "0".toList, "0".toList], ["13.1.68.3".toList],
    [0x0D01, 0x4403], by decide_lit,
    Or.inr ⟨_, 0x0D014403, ⟨"13".toList, "1".toList, "68".toList, "3".toList, by decide_lit⟩, rfl,
      by decide_lit⟩, by decide_lit⟩

open NV.Text4 NV.Text6

theorem isHexC_iff (c : Char) : isHexC c = true ↔ IsHexDigit c := by
  simp only [isHexC, IsHexDigit, Bool.or_eq_true, Bool.and_eq_true, decide_eq_true_eq, or_assoc]

theorem isDec_iff (c : Char) : isDec c = true ↔ IsDecDigit c := by
  simp only [isDec, IsDecDigit, Bool.and_eq_true, decide_eq_true_eq]

theorem hexVal_eq (c : Char) (h : IsHexDigit c) : hexVal c = digitVal c := by
  unfold hexVal digitVal
  by_cases h1 : '0' ≤ c ∧ c ≤ '9'
  · rw [if_pos h1, if_pos h1]
    rfl
  · rw [if_neg h1, if_neg h1]
    by_cases h2 : 'a' ≤ c ∧ c ≤ 'f'
    · rw [if_pos h2, if_pos h2]
      have : 97 ≤ c.toNat := Char.le_def.mp h2.1
      show c.toNat - 87 = 10 + (c.toNat - 97)
      omega
    · rw [if_neg h2, if_neg h2]
      have : 65 ≤ c.toNat := Char.le_def.mp ((h.resolve_left h1).resolve_left h2).1
      show c.toNat - 55 = 10 + (c.toNat - 65)
      omega

theorem isHex_of_isDec (c : Char) (h : IsDecDigit c) : IsHexDigit c := Or.inl h

theorem ofBase_eq_numVal (b : Nat) (t : List Char) (h : ∀ c ∈ t, IsHexDigit c) : ofBase b t = numVal b t := by
  induction t with
  | nil => rfl
  | cons c r ih =>
    show r.foldl (fun a c => a * b + hexVal c) (0 * b + hexVal c) = _
    rw [foldl_horner_acc, Nat.zero_mul, Nat.zero_add, hexVal_eq c (h c (by simp))]
    exact congrArg _ (ih fun x hx => h x (by simp [hx]))

theorem hextet_iff (t : List Char) (n : Nat) : hextet t = some n ↔ IsGroup t ∧ n = numVal 16 t := by
  unfold hextet IsGroup
  constructor
  · intro h
    split at h
    · rename_i hc
      have hall : ∀ c ∈ t, IsHexDigit c := fun c hc' => (isHexC_iff c).mp (List.all_eq_true.mp hc.2.2 c hc')
      cases h
      exact ⟨⟨hc.1, hc.2.1, hall⟩, ofBase_eq_numVal 16 t hall⟩
    · cases h
  · rintro ⟨⟨h1, h2, h3⟩, rfl⟩
    have hall : t.all isHexC = true := List.all_eq_true.mpr (fun c hc => (isHexC_iff c).mpr (h3 c hc))
    rw [if_pos ⟨h1, h2, hall⟩, ofBase_eq_numVal 16 t h3]

theorem octet_iff (t : List Char) (n : Nat) : Text4.octet t = some n ↔ IsOctet t ∧ n = numVal 10 t := by
  unfold Text4.octet IsOctet
  constructor
  · intro h
    split at h
    · rename_i hc
      obtain ⟨h1, h2, h3, h4⟩ := hc
      have hall : ∀ c ∈ t, IsDecDigit c := fun c hc' => (isDec_iff c).mp (List.all_eq_true.mp h3 c hc')
      have hv := ofBase_eq_numVal 10 t (fun c hc' => isHex_of_isDec c (hall c hc'))
      simp only at h
      split at h
      · rename_i hle
        cases h
        refine ⟨⟨h1, h2, hall, ?_, by rw [← hv]; exact hle⟩, hv⟩
        intro h2'
        rcases h4 with h4 | h4
        · omega
        · exact h4
      · cases h
    · cases h
  · rintro ⟨⟨h1, h2, h3, h4, h5⟩, rfl⟩
    have hall : t.all isDec = true := List.all_eq_true.mpr (fun c hc => (isDec_iff c).mpr (h3 c hc))
    have hv := ofBase_eq_numVal 10 t (fun c hc' => isHex_of_isDec c (h3 c hc'))
    have h4' : t.length = 1 ∨ t.head? ≠ some '0' := by
      by_cases hl : t.length = 1
      · exact Or.inl hl
      · exact Or.inr (h4 (by omega))
    rw [if_pos ⟨h1, h2, hall, h4'⟩]
    simp only [hv, h5, if_true]

theorem horner256 (a b c d : Nat) :
    ((a * 256 + b) * 256 + c) * 256 + d = a * 16777216 + b * 65536 + c * 256 + d := by omega

theorem isOctet_dec {n : Nat} (h : n < 256) : IsOctet (dec n) ∧ n = numVal 10 (dec n) :=
  (octet_iff _ _).mp (C01L.octet_dec n h)

theorem isOctet_canon {t : List Char} (h : IsOctet t) : numVal 10 t < 256 ∧ t = dec (numVal 10 t) :=
  C01L.octet_canon t _ ((octet_iff t _).mpr ⟨h, rfl⟩)

theorem quad_iff_ntoa (t : List Char) (x : Nat) : IsQuad t x ↔ x < 2 ^ 32 ∧ t = ntoa x := by
  constructor
  · rintro ⟨a, b, c, d, oa, ob, oc, od, rfl, rfl⟩
    obtain ⟨la, ea⟩ := isOctet_canon oa
    obtain ⟨lb, eb⟩ := isOctet_canon ob
    obtain ⟨lc, ec⟩ := isOctet_canon oc
    obtain ⟨ld, ed⟩ := isOctet_canon od
    rw [horner256]
    refine ⟨by omega, ?_⟩
    rw [C01L.ntoa_of_octs _ _ _ _ lb lc ld, ← ea, ← eb, ← ec, ← ed]
    simp [List.intercalate]
  · rintro ⟨hx, rfl⟩
    obtain ⟨h0, h1, h2, h3⟩ := C01L.octs_lt x hx
    obtain ⟨o0, e0⟩ := isOctet_dec h0
    obtain ⟨o1, e1⟩ := isOctet_dec h1
    obtain ⟨o2, e2⟩ := isOctet_dec h2
    obtain ⟨o3, e3⟩ := isOctet_dec h3
    refine ⟨_, _, _, _, o0, o1, o2, o3, C01L.ntoa_append x, ?_⟩
    rw [← e0, ← e1, ← e2, ← e3, horner256, C01L.octs_sum]

theorem pton4_iff_quad (t : List Char) (x : Nat) : Text4.pton4 t = some x ↔ IsQuad t x :=
  (C01L.pton4_iff t x).trans (quad_iff_ntoa t x).symm

theorem joinColon_eq (ts : List (List Char)) : joinColon ts = [':'].intercalate ts := by
  induction ts with
  | nil => simp [joinColon, List.intercalate]
  | cons a r ih =>
    cases r with
    | nil => simp [joinColon, List.intercalate]
    | cons b r' =>
      rw [List.intercalate_cons_cons, ← ih]
      simp [joinColon]

theorem ofWords_eq (ws : List Nat) : ofWords ws = wordsVal ws := by
  induction ws with
  | nil => rfl
  | cons w r ih =>
    show r.foldl (fun a w => a * 65536 + w) (0 * 65536 + w) = _
    rw [foldl_horner_acc, Nat.zero_mul, Nat.zero_add]
    exact congrArg _ ih

theorem group_ne_nil (t : List Char) (h : IsGroup t) : t ≠ [] := by
  intro e; subst e; exact absurd h.1 (by simp)

theorem group_no_dot (t : List Char) (h : IsGroup t) : '.' ∉ t := by
  intro hm
  have := h.2.2 _ hm
  revert this; decide

theorem group_no_colon (t : List Char) (h : IsGroup t) : ':' ∉ t := by
  intro hm
  have := h.2.2 _ hm
  revert this; decide

theorem quad_ne_nil (t : List Char) (x : Nat) (h : IsQuad t x) : t ≠ [] :=
  ((quad_iff_ntoa t x).mp h).2 ▸ C01L.ntoa_ne_nil x

theorem quad_has_dot (t : List Char) (x : Nat) (h : IsQuad t x) : '.' ∈ t :=
  ((quad_iff_ntoa t x).mp h).2 ▸ C01L.dot_mem_ntoa x

theorem quad_no_colon (t : List Char) (x : Nat) (h : IsQuad t x) : ':' ∉ t :=
  ((quad_iff_ntoa t x).mp h).2 ▸ C01L.colon_not_in_ntoa x

theorem quad_lt (t : List Char) (x : Nat) (h : IsQuad t x) : x < 2 ^ 32 :=
  ((quad_iff_ntoa t x).mp h).1

/-! ### ranges: an RFC 4291 text denotes a 128-bit number -/

theorem hexVal_lt (c : Char) (h : IsHexDigit c) : hexVal c < 16 := by
  unfold hexVal
  by_cases h1 : '0' ≤ c ∧ c ≤ '9'
  · rw [if_pos h1]; have : c.toNat ≤ 57 := Char.le_def.mp h1.2; omega
  · rw [if_neg h1]
    by_cases h2 : 'a' ≤ c ∧ c ≤ 'f'
    · rw [if_pos h2]; have : c.toNat ≤ 102 := Char.le_def.mp h2.2; omega
    · rw [if_neg h2]; have : c.toNat ≤ 70 := Char.le_def.mp ((h.resolve_left h1).resolve_left h2).2; omega

theorem group_lt (t : List Char) (h : IsGroup t) : numVal 16 t < 65536 := by
  rw [← ofBase_eq_numVal 16 t h.2.2]
  have := foldl_base_lt 16 hexVal t (fun c hc => hexVal_lt c (h.2.2 c hc)) 0
  have hp : 16 ^ t.length ≤ 16 ^ 4 := Nat.pow_le_pow_right (by decide) h.2.1
  show t.foldl (fun a c => a * 16 + hexVal c) 0 < 65536
  omega

theorem wordsVal_lt (ws : List Nat) (h : ∀ w ∈ ws, w < 65536) : wordsVal ws < 65536 ^ ws.length := by
  rw [← ofWords_eq]
  exact Nat.lt_of_lt_of_eq (foldl_base_lt 65536 (fun w => w) ws h 0) (Nat.one_mul _)

theorem tail_lt (q : List (List Char)) (qw : List Nat) (h : IsTail q qw) : ∀ w ∈ qw, w < 65536 := by
  rcases h with ⟨_, rfl⟩ | ⟨t, x, hq, _, rfl⟩
  · exact fun _ h => nomatch h
  · have := quad_lt t x hq
    intro w hw
    simp only [List.mem_cons, List.not_mem_nil, or_false] at hw
    rcases hw with rfl | rfl <;> omega

theorem rfc4291_lt (s : List Char) (v : Nat) (h : Rfc4291 s v) : v < 2 ^ 128 := by
  have grp : ∀ G : List (List Char), (∀ t ∈ G, IsGroup t) → ∀ w ∈ G.map (numVal 16), w < 65536 := fun G hG w hw => by
    obtain ⟨t, ht, rfl⟩ := List.mem_map.mp hw
    exact group_lt t (hG t ht)
  rcases h with ⟨G, q, qw, hG, hq, _, hlen, rfl⟩ | ⟨A, B, q, qw, hA, hB, hq, _, hlen, rfl⟩
  · refine Nat.lt_of_lt_of_eq (wordsVal_lt _ fun w hw => ?_) (by simp [hlen])
    rcases List.mem_append.mp hw with h | h
    · exact grp G hG w h
    · exact tail_lt q qw hq w h
  · refine Nat.lt_of_lt_of_eq (wordsVal_lt _ fun w hw => ?_)
      (by simp only [List.length_append, List.length_map, List.length_replicate]
          rw [show A.length + (8 - (A.length + B.length + qw.length)) + (B.length + qw.length) = 8 by omega])
    simp only [List.mem_append, List.mem_replicate] at hw
    rcases hw with (h | h) | h | h
    · exact grp A hA w h
    · rw [h.2]; decide
    · exact grp B hB w h
    · exact tail_lt q qw hq w h

end NV.C01G
