/-
Lemmas/C17LConv.lean — what a grammatical glob converts to (`glob_to_iptuple` & co.): its
octet-wise lower and upper bounds.
-/
import NetaddrVerif.Lemmas.C17LGlob
import NetaddrVerif.Lemmas.C17LOctets
namespace NV.C17
open NV NV.Glob

theorem octet_tokens {o : List Char} {oc : Oct} (h : parseOct o = some oc) :
    (plainNum (octetTokens o).1 = true ∧ numVal (octetTokens o).1 ≤ 255) ∧
    (plainNum (octetTokens o).2 = true ∧ numVal (octetTokens o).2 ≤ 255) ∧
    numVal (octetTokens o).1 = oc.lo ∧ numVal (octetTokens o).2 = oc.hi ∧ oc.WF := by
  rcases parseOct_inv h with ⟨rfl, rfl⟩ | ⟨hp, hv, rfl⟩ | ⟨x, y, rfl, hx, hy, hlt, hv, rfl⟩
  · exact ⟨by decide, by decide, by decide, by decide, trivial⟩
  · have e : octetTokens o = (o, o) := by
      simp only [octetTokens, contains_false_of_not_mem (plain_no_hyphen hp), beq_eq_false_iff_ne.2 (plain_ne_star hp),
        Bool.false_eq_true, if_false]
    rw [e]
    exact ⟨⟨hp, hv⟩, ⟨hp, hv⟩, rfl, rfl, hv⟩
  · have e : octetTokens (x ++ '-' :: y) = (x, y) := by
      have hm : (x ++ '-' :: y).contains '-' = true :=
        List.contains_iff_mem.2 (List.mem_append_right _ (List.mem_cons_self ..))
      simp only [octetTokens, hm, if_true, splitOn_hyp hx hy, List.headD_cons, List.drop_succ_cons, List.drop_zero]
    rw [e]
    exact ⟨⟨hx, Nat.le_trans (Nat.le_of_lt hlt) hv⟩, ⟨hy, hv⟩, rfl, rfl, hlt, hv⟩

theorem ipAddress4_join {t0 t1 t2 t3 : List Char}
    (h : ∀ t ∈ [t0, t1, t2, t3], plainNum t = true ∧ numVal t ≤ 255) :
    ipAddress4 (['.'].intercalate [t0, t1, t2, t3]) =
      .ok (ofOctets [numVal t0, numVal t1, numVal t2, numVal t3]) := by
  unfold ipAddress4
  rw [List.splitOn_intercalate '.' (fun l hl => plain_no_dot (h l hl).1) (by simp)]
  obtain ⟨h0, h1, h2, h3⟩ := forall_mem_four.1 h
  simp only [mapM_opt_cons, List.mapM_nil, Option.pure_def, decOctet_plain h0.1 h0.2, decOctet_plain h1.1 h1.2,
    decOctet_plain h2.1 h2.2, decOctet_plain h3.1 h3.2, ofOctets4]

theorem globParse_four {s : List Char} {os : List Oct} (h : globParse s = some os) :
    ∃ t0 t1 t2 t3 o0 o1 o2 o3, s.splitOn '.' = [t0, t1, t2, t3] ∧ os = [o0, o1, o2, o3] ∧
      parseOct t0 = some o0 ∧ parseOct t1 = some o1 ∧ parseOct t2 = some o2 ∧ parseOct t3 = some o3 ∧
      shapeOk os = true := by
  obtain ⟨hm, hlen, hs⟩ := globParse_iff.1 h
  rw [mapOpt_length hm] at hlen
  match hsp : s.splitOn '.', hlen with
  | [t0, t1, t2, t3], _ =>
    rw [hsp] at hm
    obtain ⟨o0, r0, p0, h0, rfl⟩ := mapOpt_cons_some hm
    obtain ⟨o1, r1, p1, h1, rfl⟩ := mapOpt_cons_some h0
    obtain ⟨o2, r2, p2, h2, rfl⟩ := mapOpt_cons_some h1
    obtain ⟨o3, r3, p3, h3, rfl⟩ := mapOpt_cons_some h2
    cases h3
    exact ⟨t0, t1, t2, t3, o0, o1, o2, o3, rfl, rfl, p0, p1, p2, p3, hs⟩

theorem globToIprange_eq (s : List Char) :
    globToIprange s = match globToIptuple s with
      | .ok (lo, hi) => if lo > hi then .error .addrFormat else .ok ⟨4, lo, hi⟩
      | .error e => .error e := by
  unfold globToIprange globToIptuple
  cases validGlob s
  · rfl
  · cases ipAddress4 (startEndStrings s).1 with
    | error e => rfl
    | ok lo => cases ipAddress4 (startEndStrings s).2 <;> rfl

theorem globToIptuple_of_parse (s : List Char) (os : List Oct) (h : globParse s = some os) :
    ∃ o0 o1 o2 o3, os = [o0, o1, o2, o3] ∧ (∀ o ∈ os, o.WF) ∧ shapeOk os = true ∧
      globToIptuple s = .ok (ofOctets [o0.lo, o1.lo, o2.lo, o3.lo], ofOctets [o0.hi, o1.hi, o2.hi, o3.hi]) := by
  obtain ⟨t0, t1, t2, t3, o0, o1, o2, o3, hsp, rfl, p0, p1, p2, p3, hs⟩ := globParse_four h
  obtain ⟨a0, b0, e0, f0, w0⟩ := octet_tokens p0
  obtain ⟨a1, b1, e1, f1, w1⟩ := octet_tokens p1
  obtain ⟨a2, b2, e2, f2, w2⟩ := octet_tokens p2
  obtain ⟨a3, b3, e3, f3, w3⟩ := octet_tokens p3
  have hv : validGlob s = true := (validGlob_iff_parse s).2 ⟨_, h⟩
  have hlo : ipAddress4 (startEndStrings s).1 = .ok (ofOctets [o0.lo, o1.lo, o2.lo, o3.lo]) := by
    rw [← e0, ← e1, ← e2, ← e3]
    simp only [startEndStrings, hsp, List.map_cons, List.map_nil]
    exact ipAddress4_join (forall_mem_four.2 ⟨a0, a1, a2, a3⟩)
  have hhi : ipAddress4 (startEndStrings s).2 = .ok (ofOctets [o0.hi, o1.hi, o2.hi, o3.hi]) := by
    rw [← f0, ← f1, ← f2, ← f3]
    simp only [startEndStrings, hsp, List.map_cons, List.map_nil]
    exact ipAddress4_join (forall_mem_four.2 ⟨b0, b1, b2, b3⟩)
  refine ⟨o0, o1, o2, o3, rfl, forall_mem_four.2 ⟨w0, w1, w2, w3⟩, hs, ?_⟩
  simp only [globToIptuple, hv, Bool.not_true, Bool.false_eq_true, if_false, hlo, hhi]

end NV.C17
