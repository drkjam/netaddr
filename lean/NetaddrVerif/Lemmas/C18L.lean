/-
Lemmas/C18L.lean — a table scan of Model/Classify.lean holds iff the object lies inside one row's
`[first, last]`; two interval lists with the same members cover the same objects; a row check
that does without `Nat.log2` (`rowBlock`).
-/
import NetaddrVerif.Lemmas.C04L
import NetaddrVerif.Model.Classify
namespace NV.Classify
open NV NV.Contains

/-- an interval of one family: `(version, first, last)` -/
abbrev Iv := Nat × Nat × Nat

def rowIv (r : Row) : Iv := (r.2.1, r.2.2.1, r.2.2.2)

/-- "`[f, l]` of version `ver` lies inside a single block of the list" -/
def InAny (s : List Iv) (ver f l : Nat) : Prop := ∃ b ∈ s, b.1 = ver ∧ b.2.1 ≤ f ∧ l ≤ b.2.2

theorem inAny_addr4 (a b c d v : Nat) : InAny [(4, a, b), (6, c, d)] 4 v v ↔ a ≤ v ∧ v ≤ b := by
  simp only [InAny, List.mem_cons, List.not_mem_nil, or_false, exists_eq_or_imp, exists_eq_left, Nat.reduceEqDiff,
    true_and, false_and]

theorem inAny_addr6 (a b c d v : Nat) : InAny [(4, a, b), (6, c, d)] 6 v v ↔ c ≤ v ∧ v ≤ d := by
  simp only [InAny, List.mem_cons, List.not_mem_nil, or_false, exists_eq_or_imp, exists_eq_left, Nat.reduceEqDiff,
    true_and, false_and, false_or]

/-- checkable well-formedness of a generated row: family 4/6, `first <= last < 2^width`, and
    the rebuilt container object really has the row's version / first / last -/
def rowOK (r : Row) : Bool :=
  (r.2.1 == 4 || r.2.1 == 6) && decide (r.2.2.1 ≤ r.2.2.2) && decide (r.2.2.2 < 2 ^ width r.2.1) &&
  ((rowCont r).ver == r.2.1) && ((rowCont r).first == r.2.2.1) && ((rowCont r).last == r.2.2.2) &&
  (match rowCont r with
   | .net n => decide (n.val ≤ r.2.2.2) && decide (n.plen ≤ width n.ver)
   | .rng _ => true)

theorem rowOK_spec (r : Row) (h : rowOK r = true) :
    (rowCont r).WF ∧ (rowCont r).ver = r.2.1 ∧ (rowCont r).first = r.2.2.1 ∧ (rowCont r).last = r.2.2.2 := by
  simp only [rowOK, Bool.and_eq_true, Bool.or_eq_true, beq_iff_eq, decide_eq_true_iff] at h
  generalize rowCont r = c at h ⊢
  obtain ⟨⟨⟨⟨⟨⟨hv, hle⟩, hlt⟩, e1⟩, e2⟩, e3⟩, hm⟩ := h
  refine ⟨?_, e1, e2, e3⟩
  rw [← e1] at hv hlt
  cases c with
  | net n =>
    simp only [Bool.and_eq_true, decide_eq_true_iff] at hm
    exact ⟨hv, Nat.lt_of_le_of_lt hm.1 hlt, hm.2⟩
  | rng q =>
    rw [← e2, ← e3] at hle
    rw [← e3] at hlt
    exact ⟨hv, hle, hlt⟩

def rowHit (x : Obj) (r : Row) : Prop := r.2.1 = x.ver ∧ r.2.2.1 ≤ x.first ∧ x.last ≤ r.2.2.2

theorem inRow_iff (x : Obj) (hx : x.WF) (r : Row) (h : rowOK r = true) : inRow x r = true ↔ rowHit x r := by
  obtain ⟨hwf, e1, e2, e3⟩ := rowOK_spec r h
  unfold inRow rowHit
  have := contains_own_iff (rowCont r) x hwf hx
  rw [this, e1, e2, e3]
  exact and_congr_left' eq_comm

theorem scan_eq_any (x : Obj) : ∀ t : List Row, scan x t = t.any (inRow x)
  | [] => rfl
  | r :: rest => by rw [scan, List.any_cons, scan_eq_any x rest]; cases inRow x r <;> rfl

theorem scan_iff (x : Obj) (hx : x.WF) (t : List Row) (h : ∀ r ∈ t, rowOK r = true) :
    scan x t = true ↔ ∃ r ∈ t, rowHit x r := by
  rw [scan_eq_any, List.any_eq_true]
  exact exists_congr fun r => and_congr_right fun hr => inRow_iff x hx r (h r hr)

theorem inSingle_eq_scan {x : Obj} {t : List Row} (h : t.length = 1) : inSingle x t = scan x t := by
  match t, h with
  | [r], _ => simp [inSingle, scan]

def tableOK (ver : Nat) (t : List Row) : Bool := t.all fun r => rowOK r && r.2.1 == ver

theorem tableOK_spec (ver : Nat) (t : List Row) (h : tableOK ver t = true) :
    ∀ r ∈ t, rowOK r = true ∧ r.2.1 = ver := by
  unfold tableOK at h
  simp only [List.all_eq_true, Bool.and_eq_true, beq_iff_eq] at h
  exact h

theorem ver_of_wf {x : Obj} (hx : x.WF) : x.ver = 4 ∨ x.ver = 6 := by
  cases x <;> exact hx.1

/-- the version dispatch `if version == 4: scan(T4) elif version == 6: scan(T6)` -/
theorem dispatch_iff (x : Obj) (hx : x.WF) {t4 t6 : List Row}
    (h4 : tableOK 4 t4 = true) (h6 : tableOK 6 t6 = true) :
    ((if x.ver = 4 then scan x t4 else if x.ver = 6 then scan x t6 else false) = true) ↔
      ∃ r ∈ t4 ++ t6, rowHit x r := by
  have h4 := tableOK_spec 4 t4 h4
  have h6 := tableOK_spec 6 t6 h6
  have s4 := scan_iff x hx t4 (fun r hr => (h4 r hr).1)
  have s6 := scan_iff x hx t6 (fun r hr => (h6 r hr).1)
  rw [exists_mem_append]
  rcases ver_of_wf hx with hv | hv
  · rw [if_pos hv, s4]
    exact ⟨Or.inl, fun h => h.resolve_right fun ⟨r, hr, h⟩ => by have := (h6 r hr).2; have := h.1; omega⟩
  · rw [if_neg (by omega), if_pos hv, s6]
    exact ⟨Or.inr, fun h => h.resolve_left fun ⟨r, hr, h⟩ => by have := (h4 r hr).2; have := h.1; omega⟩

/-- the same dispatch over the one-object tables -/
theorem single_iff (x : Obj) (hx : x.WF) {t4 t6 : List Row}
    (h4 : tableOK 4 t4 = true) (h6 : tableOK 6 t6 = true) (l4 : t4.length = 1) (l6 : t6.length = 1) :
    ((if x.ver = 4 then inSingle x t4 else if x.ver = 6 then inSingle x t6 else false) = true) ↔
      ∃ r ∈ t4 ++ t6, rowHit x r := by
  rw [inSingle_eq_scan l4, inSingle_eq_scan l6]
  exact dispatch_iff x hx h4 h6

/-- checkable: the rows of a table, as intervals, are the same set as a spec list -/
def sameSet (t : List Row) (s : List Iv) : Bool :=
  (t.all fun r => s.contains (rowIv r)) && (s.all fun b => (t.map rowIv).contains b)

theorem sameSet_spec {t : List Row} {s : List Iv} (h : sameSet t s = true) (x : Obj) :
    (∃ r ∈ t, rowHit x r) ↔ InAny s x.ver x.first x.last := by
  unfold sameSet at h
  simp only [Bool.and_eq_true, List.all_eq_true, List.contains_iff_mem, List.mem_map] at h
  obtain ⟨h1, h2⟩ := h
  unfold InAny
  constructor
  · rintro ⟨r, hr, a, b, c⟩
    exact ⟨rowIv r, h1 r hr, a, b, c⟩
  · rintro ⟨b, hb, a, c, d⟩
    obtain ⟨r, hr, e⟩ := h2 b hb
    subst e
    exact ⟨r, hr, a, c, d⟩

/-- in particular when the rows, as intervals, are the list itself: one comparison per row
    instead of one per pair -/
theorem sameSet_of_map_eq {t : List Row} {s : List Iv} (h : t.map rowIv = s) : sameSet t s = true := by
  subst h
  simp only [sameSet, Bool.and_eq_true, List.all_eq_true, List.contains_iff_mem]
  exact ⟨fun r hr => List.mem_map_of_mem hr, fun b hb => hb⟩

/-- `⌊log2 s⌋` for `s < 2 ^ 2 ^ j`, by binary search on the exponent -/
def lg2 : Nat → Nat → Nat
  | 0, _ => 0
  | j + 1, s => if s < 2 ^ 2 ^ j then lg2 j s else 2 ^ j + lg2 j (s >>> 2 ^ j)

/-- `rowOK` without `Nat.log2`: a network row is an aligned block `[first, first + 2^k - 1]`.
    The kernel's term cache hashes a `Nat` literal by its low bits, and the IPv6 rows
    (`[h * 2^112, h' * 2^112 - 1]`) agree in theirs, so the halvings of `Nat.log2` collide from row
    to row and evaluating `tableOK` on those tables grows with the square of the row count.
    Here the exponent is found in 8 steps (enough below `2^256`) and then verified, so nothing
    about `lg2` needs proof. -/
def rowBlock : Row → Bool
  | (kind, v, f, l) =>
    (v == 4 || v == 6) && decide (l < 2 ^ width v) &&
    if kind = 0 then
      let k := lg2 8 (l - f + 1)
      decide (k ≤ width v) && l + 1 == f + 2 ^ k && f % 2 ^ k == 0
    else decide (f ≤ l)

theorem rowOK_of_block (r : Row) (h : rowBlock r = true) : rowOK r = true := by
  obtain ⟨kind, v, f, l⟩ := r
  simp only [rowBlock, Bool.and_eq_true, decide_eq_true_iff] at h
  obtain ⟨⟨hv, hl⟩, hk⟩ := h
  by_cases h0 : kind = 0
  · rw [if_pos h0] at hk
    generalize lg2 8 (l - f + 1) = k at hk
    simp only [Bool.and_eq_true, beq_iff_eq, decide_eq_true_iff] at hk
    obtain ⟨⟨hkw, hsz⟩, hal⟩ := hk
    have hp := Nat.two_pow_pos k
    have hfl : f ≤ l := by omega
    have hc : rowCont (kind, v, f, l) = .net ⟨v, f, width v - k⟩ := by
      simp only [rowCont, h0, if_true]
      rw [show l - f + 1 = 2 ^ k by omega, Nat.log2_two_pow]
    -- `f` is aligned for the prefix length `width v - k`, so it is the block's first address
    have hal' : f % 2 ^ (width v - (width v - k)) = 0 := by rwa [Nat.sub_sub_self hkw]
    have hfirst := netFirst_of_aligned (width v) f (width v - k) (by omega) hal'
    have hlast : netLast (width v) f (width v - k) = l := by
      rw [netLast_of_aligned _ _ _ hal', Nat.sub_sub_self hkw]
      omega
    simp only [rowOK, hc, Cont.ver, Cont.first, Cont.last, Net.first, Net.last, hfirst, hlast, Bool.and_eq_true,
      beq_self_eq_true, decide_eq_true_iff, and_true]
    exact ⟨⟨⟨hv, hfl⟩, hl⟩, hfl, Nat.sub_le _ _⟩
  · rw [if_neg h0] at hk
    simp only [decide_eq_true_iff] at hk
    simp only [rowOK, rowCont, h0, if_false, Cont.ver, Cont.first, Cont.last, Bool.and_eq_true,
      beq_self_eq_true, decide_eq_true_iff, and_true]
    exact ⟨⟨hv, hk⟩, hl⟩

theorem tableOK_of_block {ver : Nat} {t : List Row} (h : (t.all fun r => rowBlock r && r.2.1 == ver) = true) :
    tableOK ver t = true := by
  simp only [tableOK, List.all_eq_true, Bool.and_eq_true] at h ⊢
  exact fun r hr => ⟨rowOK_of_block r (h r hr).1, (h r hr).2⟩

end NV.Classify
