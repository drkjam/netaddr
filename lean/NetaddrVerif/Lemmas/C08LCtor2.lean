/-
Lemmas/C08LCtor2.lean — the functions of Model/Eui2.lean clause by clause: `raiseFmt` on either side of
the interpreter's int-to-str digit limit, `setValueExplicit` / `ctorValue` / `ctor` as equations, and
`ctorValue_addr`: on strings, and on integers below the digit limit, the version / value part of the
whole constructor is `ofAnyF` of Model/Eui.lean, so that what is proved of `ofAnyF` is proved of `ctor`.
Then `cmpWith` on an argument that goes through the constructor and the first tests of `setItemAny`.
Core only.
-/
import NetaddrVerif.Lemmas.C08LCtor
import NetaddrVerif.Model.Eui2
namespace NV.Eui
open NV NV.Codec NV.Gen NV.PyL NV.C08L.Ctor

/-- below the digit limit the message of a rejection is built and the intended exception raised -/
theorem raiseFmt_small {α : Type} {n : Int} (h : n.natAbs < 10 ^ strDigitLimit) (e : Err) :
    (raiseFmt n e : R α) = .error e := by
  unfold raiseFmt fmtFails
  rw [decide_eq_false (by omega)]
  rfl

/-- beyond it the interpreter refuses to format the integer: ValueError whatever was intended -/
theorem raiseFmt_huge {α : Type} {n : Int} (h : 10 ^ strDigitLimit ≤ n.natAbs) (e : Err) :
    (raiseFmt n e : R α) = .error .value := by
  unfold raiseFmt fmtFails
  rw [decide_eq_true h]
  rfl

theorem small_of_le (n : Int) (h0 : 0 ≤ n) (h : n ≤ 18446744073709551615) :
    n.natAbs < 10 ^ strDigitLimit := by
  have : (10 : Nat) ^ 20 ≤ 10 ^ strDigitLimit := Nat.pow_le_pow_right (by decide) (by decide)
  omega

theorem huge_out {n : Int} (h : 10 ^ strDigitLimit ≤ n.natAbs) : ¬ (0 ≤ n ∧ n ≤ 18446744073709551615) :=
  fun ⟨a, b⟩ => absurd (small_of_le n a b) (Nat.not_lt.mpr h)

theorem maxInt_le (ver : Nat) : ((Eui.maxInt ver : Nat) : Int) ≤ 18446744073709551615 := by
  unfold Eui.maxInt
  split <;> decide

theorem setValueExplicit_int (ver : Nat) (n : Int) : setValueExplicit ver (.addr (.int n)) =
    if 0 ≤ n ∧ n ≤ ((Eui.maxInt ver : Nat) : Int) then .ok (ver, n.toNat) else raiseFmt n .addrFormat := rfl

theorem setValueExplicit_addr (ver : Nat) (a : AddrArg) (h : ∀ n, a = .int n → n.natAbs < 10 ^ strDigitLimit) :
    setValueExplicit ver (.addr a) = setExplicitF ver a := by
  cases a with
  | str s => rfl
  | int n =>
    rw [setValueExplicit_int, raiseFmt_small (h n rfl)]
    rfl

/-- an int beyond the digit limit is out of every range, and the AddrFormatError message formats it -/
theorem setValueExplicit_int_huge (ver : Nat) {n : Int} (h : 10 ^ strDigitLimit ≤ n.natAbs) :
    setValueExplicit ver (.addr (.int n)) = .error .value := by
  have hbig : ¬ (0 ≤ n ∧ n ≤ ((Eui.maxInt ver : Nat) : Int)) :=
    fun ⟨a, b⟩ => huge_out h ⟨a, Int.le_trans b (maxInt_le ver)⟩
  rw [setValueExplicit_int, if_neg hbig, raiseFmt_huge h]

theorem ctorValue_some (a : CtorArg) (k : Int) : ctorValue a (some k) =
    if k = 48 then setValueExplicit 48 a else if k = 64 then setValueExplicit 64 a else .error .value := rfl

theorem ctorValue_badver (a : CtorArg) {k : Int} (h1 : k ≠ 48) (h2 : k ≠ 64) :
    ctorValue a (some k) = .error .value := by
  rw [ctorValue_some, if_neg h1, if_neg h2]

theorem ofAnyF_some (a : AddrArg) (k : Int) : ofAnyF a (some k) =
    if k = 48 then setExplicitF 48 a else if k = 64 then setExplicitF 64 a else .error .value := by
  rw [ofAnyF_eq, ofAny_some]
  simp only [setExplicitF_eq]

/-- the default version of an integer, then `_set_value`; outside both ranges the TypeError of
    `eui48.str_to_int`, whose message formats the integer -/
theorem ctorValue_int_none (n : Int) : ctorValue (.addr (.int n)) none =
    if 0 ≤ n ∧ n ≤ 0xffffffffffff then setValueExplicit 48 (.addr (.int n))
    else if 0xffffffffffff < n ∧ n ≤ 0xffffffffffffffff then setValueExplicit 64 (.addr (.int n))
    else raiseFmt n .type_ := rfl

/-- **strings, and integers below the interpreter's int-to-str digit limit**: the version / value
    part of the whole constructor is `ofAnyF` -/
theorem ctorValue_addr (a : AddrArg) (h : ∀ n, a = .int n → n.natAbs < 10 ^ strDigitLimit) (version : Option Int) :
    ctorValue (.addr a) version = ofAnyF a version := by
  cases version with
  | some k => rw [ctorValue_some, ofAnyF_some, setValueExplicit_addr 48 a h, setValueExplicit_addr 64 a h]
  | none =>
    cases a with
    | str s => rfl
    | int n =>
      rw [ctorValue_int_none, setValueExplicit_addr 48 _ h, setValueExplicit_addr 64 _ h, raiseFmt_small (h n rfl)]
      rfl

theorem ctor_of_not_eui {a : CtorArg} (ha : ∀ w v d, a ≠ .eui w v d) (version : Option Int) (dia : DialectArg) :
    ctor a version dia = attachDialect dia (ctorValue a version) := by
  cases a with
  | eui w x d => exact absurd rfl (ha w x d)
  | _ => rfl

theorem ctor_addr (x : AddrArg) (version : Option Int) (dia : DialectArg) :
    ctor (.addr x) version dia = attachDialect dia (ctorValue (.addr x) version) := rfl

theorem cmpWith_addr_ok {x : AddrArg} {w y : Nat} (h : ctorValue (.addr x) none = .ok (w, y)) {op : CmpOp} {ver v : Nat} :
    cmpWith op ver v (.arg (.addr x)) = .ok (cmpOp op ver v w y) := by
  simp only [cmpWith, ctor_addr, h, attachDialect, validateDialect]

theorem cmpWith_addr_err {x : AddrArg} {e : Err} (h : ctorValue (.addr x) none = .error e) {op : CmpOp} {ver v : Nat} :
    cmpWith op ver v (.arg (.addr x)) = notImplemented op := by
  simp only [cmpWith, ctor_addr, h, attachDialect]

theorem setItemAny_idx_out (v : Nat) (d : Dialect) {i : Int} (h : i < 0 ∨ (d.numWords : Int) ≤ i) (val : ValArg) :
    setItemAny v d (.int i) val = raiseFmt i .index := by
  simp only [setItemAny]
  rw [if_pos (by omega)]

theorem setItemAny_val (v : Nat) (d : Dialect) {i : Int} (h0 : 0 ≤ i) (h1 : i < d.numWords) (x : Int) :
    setItemAny v d (.int i) (.int x) =
      if ¬ (0 ≤ x ∧ x ≤ (2 : Int) ^ d.wordSize - 1) then raiseFmt x .index else setItem v d i x := by
  simp only [setItemAny]
  rw [if_neg (by omega)]

end NV.Eui
