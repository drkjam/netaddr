/-
Lemmas/C17LTile.lean — from "canonical block list whose union is [lo, hi]" (the form in which
property C05 states the result of `iprange_to_cidrs`) to "consecutive blocks tiling [lo, hi]"
(the form the per-CIDR fallback of `iprange_to_globs` needs).
-/
import NetaddrVerif.Lemmas.Partition
import NetaddrVerif.Lemmas.NetBlock
namespace NV.C17
open NV

/-- consecutive closed intervals, ascending, that cover `[lo, hi]` exactly -/
def Tiles : List (Nat × Nat) → Nat → Nat → Prop
  | [], lo, hi => lo = hi + 1
  | (a, b) :: r, lo, hi => a = lo ∧ a ≤ b ∧ b ≤ hi ∧ Tiles r (b + 1) hi

/-- what the fallback path of `iprange_to_globs` needs from `iprange_to_cidrs` on two IPv4
    addresses: IPv4 blocks that tile `[lo, hi]` in ascending order -/
def CidrsTile (lo hi : Nat) : Prop :=
  (∀ b ∈ iprangeToCidrs 32 ⟨lo, 32⟩ ⟨hi, 32⟩, b.val < 2 ^ 32 ∧ b.plen ≤ 32) ∧
  Tiles ((iprangeToCidrs 32 ⟨lo, 32⟩ ⟨hi, 32⟩).map (fun b => (b.first 32, b.last 32))) lo hi

instance decTiles : ∀ (l : List (Nat × Nat)) (lo hi : Nat), Decidable (Tiles l lo hi)
  | [], lo, hi => inferInstanceAs (Decidable (lo = hi + 1))
  | (a, b) :: r, lo, hi =>
    have := decTiles r (b + 1) hi
    inferInstanceAs (Decidable (a = lo ∧ a ≤ b ∧ b ≤ hi ∧ Tiles r (b + 1) hi))

instance (lo hi : Nat) : Decidable (CidrsTile lo hi) := by unfold CidrsTile; infer_instance

-- a range that needs the fallback (two globs): the hypothesis holds on it
example : CidrsTile 255 257 := by decide +kernel
example : CidrsTile 5 1000 := by decide +kernel

/-- the statement of C05's theorem `NV.C05.iprange_to_cidrs_addr` (`RangeOK 32 … lo hi`), unfolded
    to the shared vocabulary of `Lemmas/Canon.lean` and `Partition.lean`:
    canonical as blocks, union exactly `[lo, hi]`, no host bits, prefix ≤ 32 -/
def C05RangeOK (lo hi : Nat) : Prop :=
  Canon ((iprangeToCidrs 32 ⟨lo, 32⟩ ⟨hi, 32⟩).map (fun b => (⟨b.val, 32 - b.plen⟩ : Blk))) ∧
  (∀ a, lden 32 (iprangeToCidrs 32 ⟨lo, 32⟩ ⟨hi, 32⟩) a ↔ lo ≤ a ∧ a ≤ hi) ∧
  (∀ b ∈ iprangeToCidrs 32 ⟨lo, 32⟩ ⟨hi, 32⟩, alignedN 32 b ∧ b.plen ≤ 32)

/-- closed intervals in ascending order whose union is `[lo, hi]` are consecutive -/
theorem tiles_of_cover (hi : Nat) : ∀ (l : List (Nat × Nat)) (lo : Nat), lo ≤ hi + 1 →
    (∀ p ∈ l, p.1 ≤ p.2) → l.Pairwise (fun p q => p.2 < q.1) →
    (∀ a, (∃ p ∈ l, p.1 ≤ a ∧ a ≤ p.2) ↔ lo ≤ a ∧ a ≤ hi) → Tiles l lo hi
  | [], lo, hlo, _, _, hc => by
    show lo = hi + 1
    by_cases h : lo ≤ hi
    · obtain ⟨_, hp, _⟩ := (hc lo).2 ⟨Nat.le_refl _, h⟩
      cases hp
    · omega
  | (a, b) :: r, lo, hlo, hne, hs, hc => by
    rw [List.pairwise_cons] at hs
    have hab : a ≤ b := hne _ (List.mem_cons_self ..)
    have ha := (hc a).1 ⟨_, List.mem_cons_self .., Nat.le_refl _, hab⟩
    have hb := (hc b).1 ⟨_, List.mem_cons_self .., hab, Nat.le_refl _⟩
    -- `lo` is covered, and only the head can cover it
    have hal : a = lo := by
      obtain ⟨p, hp, h1, h2⟩ := (hc lo).2 ⟨Nat.le_refl _, by omega⟩
      rcases List.mem_cons.1 hp with rfl | hp
      · exact Nat.le_antisymm h1 ha.1
      · have := hs.1 p hp
        omega
    refine ⟨hal, hab, hb.2, tiles_of_cover hi r (b + 1) (by omega)
      (fun p hp => hne p (List.mem_cons_of_mem _ hp)) hs.2 fun x => ⟨?_, ?_⟩⟩
    · rintro ⟨p, hp, h1, h2⟩
      have := hs.1 p hp
      exact ⟨by omega, ((hc x).1 ⟨p, List.mem_cons_of_mem _ hp, h1, h2⟩).2⟩
    · rintro ⟨h1, h2⟩
      obtain ⟨p, hp, h3, h4⟩ := (hc x).2 ⟨by omega, h2⟩
      rcases List.mem_cons.1 hp with rfl | hp
      · omega
      · exact ⟨p, hp, h3, h4⟩

theorem cidrsTile_of_c05 (lo hi : Nat) (hle : lo ≤ hi) (hhi : hi < 2 ^ 32) (h : C05RangeOK lo hi) :
    CidrsTile lo hi := by
  obtain ⟨hc, hden, hwf⟩ := h
  have hsep := List.pairwise_map.1 (asc_of_canon hc)
  unfold CidrsTile
  generalize iprangeToCidrs 32 ⟨lo, 32⟩ ⟨hi, 32⟩ = l at hsep hden hwf ⊢
  have hv : ∀ b ∈ l, b.val < 2 ^ 32 := fun b hb =>
    Nat.lt_of_le_of_lt ((hden b.val).1 ⟨b, hb, Nat.le_refl _, Nat.lt_add_of_pos_right (Nat.two_pow_pos _)⟩).2 hhi
  -- an aligned block runs from its value over its size
  have hfl : l.map (fun b => (b.first 32, b.last 32)) = l.map fun b => (b.val, b.val + (2 ^ (32 - b.plen) - 1)) :=
    List.map_congr_left fun b hb => by
      rw [Pfx.first, Pfx.last, netFirst_of_aligned 32 _ _ (hv b hb) (hwf b hb).1, netLast_of_aligned 32 _ _ (hwf b hb).1]
  have hN : ∀ (b : Pfx) (a : Nat), a ≤ b.val + (2 ^ (32 - b.plen) - 1) ↔ a < b.val + 2 ^ (32 - b.plen) := fun b a => by
    have := Nat.two_pow_pos (32 - b.plen); omega
  refine ⟨fun b hb => ⟨hv b hb, (hwf b hb).2⟩, ?_⟩
  rw [hfl]
  refine tiles_of_cover hi _ lo (by omega) ?_ ?_ fun a => ?_
  · simp only [List.forall_mem_map]
    exact fun b _ => Nat.le_add_right ..
  · rw [List.pairwise_map]
    exact hsep.imp fun {b c} h => Nat.lt_of_lt_of_le ((hN b _).1 (Nat.le_refl _)) h
  · rw [← hden a]
    constructor
    · rintro ⟨_, hp, h1, h2⟩
      obtain ⟨b, hb, rfl⟩ := List.mem_map.1 hp
      exact ⟨b, hb, h1, (hN b a).1 h2⟩
    · rintro ⟨b, hb, h1, h2⟩
      exact ⟨_, List.mem_map_of_mem hb, h1, (hN b a).2 h2⟩

end NV.C17
