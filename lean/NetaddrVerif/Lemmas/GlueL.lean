/-
Lemmas/GlueL.lean — what Props/Glue.lean rests on: what `toNet` / `toAddr` return on each form of argument and which
errors they can raise; the argument coercion as one pass (`argOf`, `liftOp`, `accepted`) behind which `addRaw`,
`removeRaw`, `listArgs`, `stepRaw` of Model/Coerce.lean are the operations of Model/IPSet; the written forms
(`WritesNet`, `Writes`, `WritesArg`) coerce to what they denote; `All₂`, the element-wise relation in which the list
statements of Props/Glue are written; the lazy loop of `spanning_cidr`.
-/
import NetaddrVerif.Model.Coerce
import NetaddrVerif.Props.C03c
import NetaddrVerif.Props.C14
import NetaddrVerif.Lemmas.C05LMerge
import NetaddrVerif.Lemmas.IPSetState
import NetaddrVerif.Lemmas.MapM
import NetaddrVerif.Lemmas.Exc
namespace NV.GlueL
open NV NV.AddrParse NV.NetParse NV.Coerce NV.C03L

theorem mapM_nil {α β : Type} (f : α → R β) : ([] : List α).mapM f = .ok [] := rfl

theorem toNet_net (n : Net) : toNet (.net n) = .ok n := rfl
theorem toNet_addr (a : Addr) : toNet (.addr a) = .ok ⟨a.ver, a.val, width a.ver⟩ := rfl
theorem toNet_int (i : Int) : toNet (.int i) = .error .type_ := rfl
theorem toAddr_addr (a : Addr) (fl : Nat) : toAddr (.addr a) fl = .ok a := rfl
theorem toAddr_net (n : Net) (fl : Nat) : toAddr (.net n) fl = .ok ⟨n.ver, n.val⟩ := rfl

/-- `IPAddress(int)`: the three magnitude classes (`toAddr (.int i) fl` is `Address.ctor i none`, so
    what follows is read off Props/C14) -/
theorem toAddr_int (i : Int) (fl : Nat) :
    toAddr (.int i) fl =
      if 0 ≤ i ∧ i < 2 ^ 32 then .ok ⟨4, i.toNat⟩
      else if 2 ^ 32 ≤ i ∧ i < 2 ^ 128 then .ok ⟨6, i.toNat⟩
      else .error .addrFormat :=
  C14.ctor_auto i

theorem toAddr_nat4 (v fl : Nat) (h : v < 2 ^ 32) : toAddr (.int v) fl = .ok ⟨4, v⟩ := by
  rw [toAddr_int, if_pos (by omega), Int.toNat_natCast]

theorem toAddr_nat6 (v fl : Nat) (h1 : 2 ^ 32 ≤ v) (h2 : v < 2 ^ 128) : toAddr (.int v) fl = .ok ⟨6, v⟩ := by
  rw [toAddr_int, if_neg (by omega), if_pos (by omega), Int.toNat_natCast]

theorem toAddr_int_wf (i : Int) (fl : Nat) (a : Addr) (h : toAddr (.int i) fl = .ok a) :
    a.WF ∧ (a.val : Int) = i :=
  let ⟨hw, hv, _⟩ := C14.ctor_sound i none a h
  ⟨hw, hv⟩

theorem toAddr_int_err (i : Int) (fl : Nat) (e : Err) (h : toAddr (.int i) fl = .error e) :
    e = .addrFormat ∧ (i < 0 ∨ 2 ^ 128 ≤ i) :=
  (C14.ctor_rejects i none e (Or.inl rfl) h).imp_right (Or.imp_right fun h => h.resolve_left nofun)

theorem toNet_str_err (s : List Char) (e : Err) (h : toNet (.str s) = .error e) : e = .addrFormat :=
  C03.error_is_addrformat be s false none 0 e (Or.inl rfl) h

/-- the argument of `IPSet.add/remove` / an element of a list as an `IPSet.Arg`:
    range → range; int → `IPAddress(int)` as a full-width network; anything else → `IPNetwork(x)` -/
def argOf (x : Item) (flags : Nat := 0) : R IPSet.Arg :=
  match x with
  | .rng r => .ok (.rng r)
  | .raw (.int i) => (toAddr (.int i) flags).map (fun a => IPSet.Arg.net ⟨a.ver, a.val, width a.ver⟩)
  | .raw x => (toNet x).map IPSet.Arg.net

/-- an operation with raw arguments as an `IPSet.Op` -/
def liftOp : ROp → R IPSet.Op
  | .plain op => .ok op
  | .newList i xs => (xs.mapM (argOf ·)).map (IPSet.Op.newList i)
  | .add i x => (argOf x).map (IPSet.Op.add i)
  | .rem i x => (argOf x).map (IPSet.Op.rem i)
  | .updList i xs => (xs.mapM (argOf ·)).map (IPSet.Op.updList i)

/-- the slot reported when an operation's arguments do not coerce (a plain one always lifts: its value is never read) -/
def ROp.target : ROp → Nat
  | .plain _ => 0
  | .newList i _ => i
  | .add i _ => i
  | .rem i _ => i
  | .updList i _ => i

theorem argOf_err (x : Item) (fl : Nat) (e : Err) (h : argOf x fl = .error e) : e = .addrFormat := by
  cases x with
  | rng r => cases h
  | raw x =>
    cases x with
    | int i => exact (toAddr_int_err i fl e (Exc.map_eq_error.1 h)).1
    | str s => exact toNet_str_err s e (Exc.map_eq_error.1 h)
    | addr a => cases h
    | net n => cases h

theorem mapM_argOf_err (xs : List Item) (fl : Nat) (e : Err) (h : xs.mapM (argOf · fl) = .error e) :
    e = .addrFormat := by
  obtain ⟨x, _, hx⟩ := mapM_error_mem h
  exact argOf_err x fl e hx

theorem liftOp_err (rop : ROp) (e : Err) (h : liftOp rop = .error e) : e = .addrFormat := by
  cases rop with
  | plain o => cases h
  | add i x => exact argOf_err x 0 e (Exc.map_eq_error.1 h)
  | rem i x => exact argOf_err x 0 e (Exc.map_eq_error.1 h)
  | newList i xs => exact mapM_argOf_err xs 0 e (Exc.map_eq_error.1 h)
  | updList i xs => exact mapM_argOf_err xs 0 e (Exc.map_eq_error.1 h)

theorem netCidr_full (a : Addr) (ha : a.WF) : netCidr ⟨a.ver, a.val, width a.ver⟩ = ⟨a.ver, a.val, width a.ver⟩ :=
  congrArg (fun v => (⟨a.ver, v, width a.ver⟩ : Net)) (netFirst_full _ _ ha.2)

theorem addRaw_eq (s : IPSet.St) (x : Item) (fl : Nat) :
    addRaw s x fl = (argOf x fl).map (IPSet.add s) := by
  cases x with
  | rng r => rfl
  | raw x =>
    cases x with
    | net n => rfl
    | addr a => rfl
    | str t =>
      simp only [addRaw, argOf]
      cases toNet (.str t) <;> rfl
    | int i =>
      simp only [addRaw, argOf]
      cases ha : toAddr (.int i) fl with
      | error e => rfl
      | ok a =>
        -- `add` skips `.cidr` for an int; for a full-width network it is the identity anyway
        show (Except.ok (IPSet.compactSingle (IPSet.dInsert s ⟨a.ver, a.val, width a.ver⟩) ⟨a.ver, a.val, width a.ver⟩) : R IPSet.St)
            = .ok (IPSet.add s (.net ⟨a.ver, a.val, width a.ver⟩))
        simp only [IPSet.add, IPSet.addNet, netCidr_full a (toAddr_int_wf i fl a ha).1]

theorem removeRaw_eq (s : IPSet.St) (x : Item) (fl : Nat) :
    removeRaw s x fl = (argOf x fl).map (IPSet.remove s) := by
  cases x with
  | rng r => rfl
  | raw x =>
    cases x with
    | net n => rfl
    | addr a => rfl
    | str t =>
      simp only [removeRaw, argOf]
      cases toNet (.str t) <;> rfl
    | int i =>
      simp only [removeRaw, argOf]
      cases toAddr (.int i) fl <;> rfl

theorem argOfMItem_net (n : Net) : argOfMItem (.net n.ver ⟨n.val, n.plen⟩) = .net n := rfl

theorem two_pass_elem (x : Item) (fl : Nat) :
    ((intPass fl x).bind mergeItem).map argOfMItem = argOf x fl := by
  cases x with
  | rng r => rfl
  | raw x =>
    cases x with
    | net n => rfl
    | addr a => rfl
    | str t =>
      show (Except.map argOfMItem ((toNet (.str t)).map _)) = (toNet (.str t)).map _
      cases toNet (.str t) <;> rfl
    | int i =>
      show Except.map argOfMItem ((Except.map _ (toAddr (.int i) fl)).bind mergeItem) = Except.map _ (toAddr (.int i) fl)
      cases toAddr (.int i) fl <;> rfl

/-- the two passes of the code (all ints first, then `cidr_merge`'s own conversion of every
    element) are one pass: every error either pass can raise here is AddrFormatError — a bare
    int, `mergeItem`'s TypeError, does not survive the first pass -/
theorem listArgs_eq (xs : List Item) (fl : Nat) : listArgs xs fl = xs.mapM (argOf · fl) := by
  have h1 : listArgs xs fl =
      ((xs.mapM (intPass fl)).bind (fun ys => ys.mapM mergeItem)).map (List.map argOfMItem) := by
    unfold listArgs
    cases xs.mapM (intPass fl) with
    | error e => rfl
    | ok ys => cases ys.mapM mergeItem <;> rfl
  have h2 := mapM_two_pass (intPass fl) mergeItem .addrFormat
    (fun x e hx => argOf_err x fl e (by rw [← two_pass_elem, hx]; rfl))
    (fun x y e hx hy => argOf_err x fl e (by rw [← two_pass_elem, hx]; show (mergeItem y).map _ = _; rw [hy]; rfl)) xs
  rw [h1, h2]
  exact (mapM_map (fun x => (intPass fl x).bind mergeItem) argOfMItem xs).symm.trans (congrArg xs.mapM (funext (two_pass_elem · fl)))

theorem stepRaw_eq (sets : List IPSet.St) (op : ROp) :
    stepRaw sets op = match liftOp op with
      | .ok o => IPSet.stepOp sets o
      | .error e => (sets, ROp.target op, some e) := by
  cases op with
  | plain o => rfl
  | newList i xs =>
    simp only [stepRaw, liftOp, newRaw, listArgs_eq]
    cases xs.mapM (argOf · 0) <;> rfl
  | updList i xs =>
    simp only [stepRaw, liftOp, updateRaw, listArgs_eq]
    cases xs.mapM (argOf · 0) <;> rfl
  | add i x =>
    simp only [stepRaw, liftOp, addRaw_eq]
    cases argOf x 0 <;> rfl
  | rem i x =>
    simp only [stepRaw, liftOp, removeRaw_eq]
    cases argOf x 0 <;> rfl

/-- `x` is one of the forms a caller can write for the network `n`: the object itself, an
    `IPAddress` object, or a text the library itself prints / documents for it -/
inductive WritesNet : Raw → Net → Prop
  | net (n : Net) (h : n.WF) : WritesNet (.net n) n
  | addr (a : Addr) (h : a.WF) : WritesNet (.addr a) ⟨a.ver, a.val, width a.ver⟩
  /-- `str(IPNetwork)` -/
  | netStr (n : Net) (h : n.WF) : WritesNet (.str (netStr be n)) n
  /-- `str(IPAddress)` -/
  | addrStr (a : Addr) (h : a.WF) : WritesNet (.str (intToStr be a.ver a.val)) ⟨a.ver, a.val, width a.ver⟩
  /-- 'a/<netmask of p>' -/
  | maskStr (n : Net) (h : n.WF) :
      WritesNet (.str (intToStr be n.ver n.val ++ '/' :: intToStr be n.ver (netNetmask (width n.ver) n.plen))) n
  /-- 'a/<hostmask of p>' (unambiguous for `0 < p < width`) -/
  | hostStr (n : Net) (h : n.WF) (hp : 0 < n.plen ∧ n.plen < width n.ver) :
      WritesNet (.str (intToStr be n.ver n.val ++ '/' :: intToStr be n.ver (netHostmask (width n.ver) n.plen))) n

theorem writesNet_toNet {x : Raw} {n : Net} (h : WritesNet x n) : toNet x = .ok n := by
  cases h with
  | net n _ => rfl
  | addr a _ => rfl
  | netStr n hn => exact C03.str_roundtrip_all be n hn none (Or.inl rfl) 0 false
  | addrStr a ha => exact (C03.bare_all be a.ver ha.1 a.val ha.2 none (Or.inl rfl) 0).1
  | maskStr n hn =>
    exact (C03.spellings_agree_all be n.ver hn.1 n.val hn.2.1 n.plen hn.2.2 none (Or.inl rfl) 0 false).2.1
  | hostStr n hn hp =>
    have := (C03.spellings_agree_all be n.ver hn.1 n.val hn.2.1 n.plen hn.2.2 none (Or.inl rfl) 0 false).2.2.1
    have hne : ¬ (n.plen = 0 ∨ n.plen = width n.ver) := by omega
    simp only [hne, if_false] at this
    exact this

theorem writesNet_wf {x : Raw} {n : Net} (h : WritesNet x n) : n.WF := by
  cases h with
  | net n h => exact h
  | addr a h => exact ⟨h.1, h.2, Nat.le_refl _⟩
  | netStr n h => exact h
  | addrStr a h => exact ⟨h.1, h.2, Nat.le_refl _⟩
  | maskStr n h => exact h
  | hostStr n h _ => exact h

theorem writesNet_not_int {i : Int} {n : Net} (h : WritesNet (.int i) n) : False := by cases h

/-- the forms of a `cidr_merge` element -/
inductive Writes : Item → MItem → Prop
  | rng (r : Rng) (h : r.lo ≤ r.hi ∧ r.hi < 2 ^ width r.ver) : Writes (.rng r) (.rng r.ver r.lo r.hi)
  | raw (x : Raw) (n : Net) (h : WritesNet x n) : Writes (.raw x) (.net n.ver ⟨n.val, n.plen⟩)

/-- `cidr_merge` converts every element that is not a range by `IPNetwork(x)`; for an `IPNetwork` object, which the
    code passes through, that is the same -/
theorem mergeItem_raw_eq (x : Raw) : mergeItem (.raw x) = (toNet x).map fun n => MItem.net n.ver ⟨n.val, n.plen⟩ := by
  cases x <;> rfl

theorem mergeItem_raw (x : Raw) (n : Net) (h : toNet x = .ok n) :
    mergeItem (.raw x) = .ok (.net n.ver ⟨n.val, n.plen⟩) := by
  rw [mergeItem_raw_eq, h]; rfl

theorem writes_mergeItem {x : Item} {m : MItem} (h : Writes x m) : mergeItem x = .ok m := by
  cases h with
  | rng r _ => rfl
  | raw x n h => exact mergeItem_raw x n (writesNet_toNet h)

theorem writes_wf {x : Item} {m : MItem} (h : Writes x m) : C05L.ItemWF m := by
  cases h with
  | rng r h => exact h
  | raw x n h => have := writesNet_wf h; exact ⟨this.2.1, this.2.2⟩

/-- the forms of an `IPSet.add/remove` argument (ints included: `IPAddress(int)`) -/
inductive WritesArg : Item → IPSet.Arg → Prop
  | rng (r : Rng) (h : IPSet.ArgOK (.rng r)) : WritesArg (.rng r) (.rng r)
  | raw (x : Raw) (n : Net) (h : WritesNet x n) : WritesArg (.raw x) (.net n)
  | int4 (v : Nat) (h : v < 2 ^ 32) : WritesArg (.raw (.int v)) (.net ⟨4, v, 32⟩)
  | int6 (v : Nat) (h : 2 ^ 32 ≤ v ∧ v < 2 ^ 128) : WritesArg (.raw (.int v)) (.net ⟨6, v, 128⟩)

/-- the hypothesis excludes the int -/
theorem argOf_raw {x : Raw} {n : Net} (h : toNet x = .ok n) (fl : Nat) : argOf (.raw x) fl = .ok (.net n) := by
  cases x with
  | int i => cases h
  | _ => exact congrArg (Except.map IPSet.Arg.net) h

theorem writesArg_argOf {x : Item} {a : IPSet.Arg} (h : WritesArg x a) (fl : Nat) : argOf x fl = .ok a := by
  cases h with
  | rng r _ => rfl
  | raw x n h => exact argOf_raw (writesNet_toNet h) fl
  | int4 v hv => exact congrArg (Except.map _) (toAddr_nat4 v fl hv)
  | int6 v hv => exact congrArg (Except.map _) (toAddr_nat6 v fl hv.1 hv.2)

theorem writesArg_ok {x : Item} {a : IPSet.Arg} (h : WritesArg x a) : IPSet.ArgOK a := by
  cases h with
  | rng r h => exact h
  | raw x n h => exact writesNet_wf h
  | int4 v hv => exact ⟨Or.inl rfl, hv, Nat.le_refl _⟩
  | int6 v hv => exact ⟨Or.inr rfl, hv.2, Nat.le_refl _⟩

/-- element-wise relation of two lists (core has no `Forall₂`; `Registry.All2` of Lemmas/C19L is the same relation with the
    lemmas C19 needs); at `f x = .ok y` it says `xs.mapM f = .ok ys` (`all₂_ok_iff`); `Writes` / `WritesNet` are not of that shape -/
inductive All₂ {α β : Type} (P : α → β → Prop) : List α → List β → Prop
  | nil : All₂ P [] []
  | cons {x y xs ys} (h : P x y) (t : All₂ P xs ys) : All₂ P (x :: xs) (y :: ys)

theorem All₂.imp {α β : Type} {P Q : α → β → Prop} {xs : List α} {ys : List β} (h : All₂ P xs ys)
    (hpq : ∀ x y, P x y → Q x y) : All₂ Q xs ys := by
  induction h with
  | nil => exact .nil
  | cons hx _ ih => exact .cons (hpq _ _ hx) ih

theorem All₂.forall_right {α β : Type} {P : α → β → Prop} {Q : β → Prop} {xs : List α} {ys : List β}
    (h : All₂ P xs ys) (hpq : ∀ x y, P x y → Q y) : ∀ y ∈ ys, Q y := by
  induction h with
  | nil => intro y hy; cases hy
  | cons hx _ ih => exact List.forall_mem_cons.2 ⟨hpq _ _ hx, ih⟩

theorem all₂_ok_iff {α β : Type} {f : α → R β} {xs : List α} {ys : List β} :
    All₂ (fun x y => f x = .ok y) xs ys ↔ xs.mapM f = .ok ys := by
  refine ⟨fun h => ?_, fun h => ?_⟩
  · induction h with
    | nil => rfl
    | cons hx _ ih => exact mapM_cons_ok.2 ⟨_, _, hx, ih, rfl⟩
  · induction xs generalizing ys with
    | nil => cases h; exact .nil
    | cons x xs ih =>
      obtain ⟨_, _, hx, ht, rfl⟩ := mapM_cons_ok.1 h
      exact .cons hx (ih ht)

/-- the calls of a raw history that are carried out: those whose arguments coerce -/
def accepted (rops : List ROp) : List IPSet.Op := rops.filterMap fun r => (liftOp r).toOption

theorem accepted_of_all₂ {rops : List ROp} {ops : List IPSet.Op}
    (h : All₂ (fun r o => liftOp r = .ok o) rops ops) : accepted rops = ops := by
  induction h with
  | nil => rfl
  | cons hr _ ih => rw [accepted, List.filterMap_cons, hr]; exact congrArg _ ih

/-- `spanning_cidr` converts its elements from the third on inside the loop, each just before its version is
    checked; on a sequence whose elements all convert that laziness cannot be observed -/
theorem spanRest_ok (ver : Nat) (xs : List Item) (ns : List Net)
    (h : All₂ (fun x n => spanItem x = .ok n) xs ns) :
    spanRest ver xs = if ns.all (fun n => n.ver == ver) then .ok ns else .error .type_ := by
  induction h with
  | nil => rfl
  | @cons x n xs ns hx _ ih =>
    unfold spanRest
    rw [hx]
    show (if n.ver ≠ ver then Except.error Err.type_ else (spanRest ver xs).bind (fun ns => pure (n :: ns))) = _
    by_cases hv : n.ver = ver
    · have : ¬ n.ver ≠ ver := fun h => h hv
      rw [if_neg this, ih]
      simp only [List.all_cons, hv, beq_self_eq_true, Bool.true_and]
      cases ns.all (fun n => n.ver == ver) <;> rfl
    · rw [if_pos hv]
      have : (n.ver == ver) = false := by simpa using hv
      simp only [List.all_cons, this, Bool.false_and]
      rfl

end NV.GlueL
