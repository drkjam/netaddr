/-
Lemmas/IPSetMergeOps.lean — the cidr_merge / iprange_to_cidrs based operations of IPSet
(constructors, update, compact, add(IPRange), union) via the C05 theorems (C06/C07); `ofPfx_keys`
reads a prefix list of one family as keys, for `iprange_to_cidrs` here and `cidr_exclude` in
IPSetAddRemove.
-/
import NetaddrVerif.Lemmas.IPSetLine
import NetaddrVerif.Props.C05
namespace NV.IPSet
open NV NV.Blk NV.C05L

theorem famBlk_eq (n : Net) (h : Good n) : (⟨n.val, width n.ver - n.plen⟩ : Blk) = blk n := (blk_good n h).symm

theorem mem_famBlks_good (L : List Net) (hg : ∀ n ∈ L, Good n) (u : Nat) (b : Blk) :
    b ∈ famBlks u L ↔ b ∈ fam u L := by
  rw [mem_fam, mem_famBlks]
  constructor
  · rintro ⟨n, h1, h2, rfl⟩
    exact ⟨n, h1, h2, by rw [← h2]; exact blk_good n (hg n h1)⟩
  · rintro ⟨n, h1, h2, rfl⟩
    exact ⟨n, h1, h2, by rw [← h2]; exact blk_good n (hg n h1)⟩

theorem den_famBlks_good (L : List Net) (hg : ∀ n ∈ L, Good n) (u a : Nat) : den (famBlks u L) a ↔ denS L u a :=
  (den_congr (mem_famBlks_good L hg u) a).trans (den_fam L hg u a)

theorem inv_of_famBlks (L : List Net) (s : St) (hg : ∀ n ∈ L, Good n) (hc : ∀ u, Canon (famBlks u L))
    (hn : s.Nodup) (hm : ∀ n, n ∈ s ↔ n ∈ L) : Inv s := by
  refine ⟨fun n h => hg n ((hm n).1 h), hn, fun u => canonset_congr (hc u).toSet fun b => ?_⟩
  rw [mem_famBlks_good L hg, mem_fam, mem_fam]
  constructor
  · rintro ⟨n, h1, h2⟩; exact ⟨n, (hm n).1 h1, h2⟩
  · rintro ⟨n, h1, h2⟩; exact ⟨n, (hm n).2 h1, h2⟩

theorem fromKeys_spec (L : List Net) (hg : ∀ n ∈ L, Good n) (hc : ∀ u, Canon (famBlks u L)) :
    Holds (fromKeys L) fun u a => den (famBlks u L) a := by
  obtain ⟨_, f2, f3⟩ := fromKeys_mem L hg
  exact ⟨inv_of_famBlks L _ hg hc f2 f3, fun u a => (denS_of_mem f3 u a).trans (den_famBlks_good L hg u a).symm⟩

def ItemOK (it : MItem) : Prop :=
  ItemWF it ∧ (match it with | .net ver _ => ver = 4 ∨ ver = 6 | .rng ver _ _ => ver = 4 ∨ ver = 6)

theorem merge_good (items : List MItem) (hok : ∀ it ∈ items, ItemOK it) : ∀ n ∈ cidrMerge items, Good n := by
  have hwf : ∀ it ∈ items, ItemWF it := fun it h => (hok it h).1
  intro n hn
  obtain ⟨h1, h2, h3⟩ := C05.merge_wf items hwf n hn
  have hp := Nat.two_pow_pos (width n.ver - n.plen)
  -- its family is the family of some input
  have hmem : den (famBlks n.ver (cidrMerge items)) n.val :=
    ⟨⟨n.val, width n.ver - n.plen⟩, mem_famBlks_self hn,
      ⟨Nat.le_refl _, by show n.val < n.val + 2 ^ (width n.ver - n.plen); omega⟩⟩
  obtain ⟨it, hit, hr, _⟩ := (C05.merge_den items hwf n.ver n.val).1 hmem
  have hver : n.ver = 4 ∨ n.ver = 6 := by
    cases it <;> exact (show _ = n.ver from hr) ▸ (hok _ hit).2
  exact good_of_aligned n ⟨hver, by omega, h1⟩ h2

theorem merge_state_spec (items : List MItem) (hok : ∀ it ∈ items, ItemOK it) :
    Holds (fromKeys (cidrMerge items)) (iden items) :=
  have hwf : ∀ it ∈ items, ItemWF it := fun it h => (hok it h).1
  (fromKeys_spec _ (merge_good items hok) (C05.merge_canon items hwf).canon).congr (C05.merge_den items hwf)

/-- the items `cidr_merge` receives for the stored keys -/
def keyItems (s : St) : List MItem := s.map (fun n => MItem.net n.ver (toPfx n))

theorem keyItems_ok (s : St) (hg : ∀ n ∈ s, n.WF) : ∀ it ∈ keyItems s, ItemOK it := by
  intro it hit
  obtain ⟨n, hn, rfl⟩ := List.mem_map.1 hit
  exact ⟨⟨(hg n hn).2.1, (hg n hn).2.2⟩, (hg n hn).1⟩

theorem iden_keyItems (s : St) (u a : Nat) : iden (keyItems s) u a ↔ denS s u a := by
  unfold iden denS keyItems
  constructor
  · rintro ⟨it, hit, hr⟩
    obtain ⟨n, hn, rfl⟩ := List.mem_map.1 hit
    exact ⟨n, hn, hr⟩
  · rintro ⟨n, hn, hr⟩
    exact ⟨_, List.mem_map.2 ⟨n, hn, rfl⟩, hr⟩

theorem iden_append (xs ys : List MItem) (u a : Nat) : iden (xs ++ ys) u a ↔ iden xs u a ∨ iden ys u a := by
  unfold iden
  simp only [List.mem_append, or_and_right, exists_or]

theorem mergeKeys_spec (s : St) (hg : ∀ n ∈ s, n.WF) (extra : List MItem) (hok : ∀ it ∈ extra, ItemOK it) :
    (∀ n ∈ mergeKeys s extra, Good n) ∧
    Holds (fromKeys (mergeKeys s extra)) fun u a => denS s u a ∨ iden extra u a :=
  have hok' : ∀ it ∈ keyItems s ++ extra, ItemOK it := fun it hit =>
    (List.mem_append.1 hit).elim (keyItems_ok s hg it) (hok it)
  ⟨merge_good _ hok', (merge_state_spec _ hok').congr fun u a => by rw [← iden_keyItems s u a, ← iden_append]⟩

/-- `compact()` on ANY state of in-range keys (canonical or not): canonical afterwards, same addresses -/
theorem compact_spec (s : St) (hg : ∀ n ∈ s, n.WF) : Holds (compact s) (denS s) :=
  (mergeKeys_spec s hg [] (by simp)).2.congr fun u a => by simp [iden]

/-- `update(other_set)` / `union` -/
theorem updateSet_spec (s t : St) (hs : ∀ n ∈ s, n.WF) (ht : ∀ n ∈ t, n.WF) :
    Holds (updateSet s t) fun u a => denS s u a ∨ denS t u a :=
  (compact_spec (s ++ t) fun n hn => (List.mem_append.1 hn).elim (hs n) (ht n)).congr
    (denS_of_mem_or fun _ => List.mem_append)

theorem toItem_ok (x : Arg) (h : ArgOK x) : ItemOK x.toItem := by
  cases x with
  | net n => exact ⟨⟨h.2.1, h.2.2⟩, h.1⟩
  | rng r => exact ⟨⟨h.2.1, h.2.2⟩, h.1⟩

theorem toItems_ok (xs : List Arg) (hx : ∀ x ∈ xs, ArgOK x) : ∀ it ∈ xs.map Arg.toItem, ItemOK it := by
  intro it hit; obtain ⟨x, h, rfl⟩ := List.mem_map.1 hit; exact toItem_ok x (hx x h)

theorem iden_toItems (xs : List Arg) (u a : Nat) : iden (xs.map Arg.toItem) u a ↔ argsDen xs u a := by
  unfold iden argsDen
  constructor
  · rintro ⟨it, hit, hr⟩
    obtain ⟨x, hx, rfl⟩ := List.mem_map.1 hit
    refine ⟨x, hx, ?_⟩
    cases x <;> exact hr
  · rintro ⟨x, hx, hr⟩
    refine ⟨_, List.mem_map.2 ⟨x, hx, rfl⟩, ?_⟩
    cases x <;> exact hr

/-- `IPSet(iterable)` -/
theorem newOfList_spec (xs : List Arg) (hx : ∀ x ∈ xs, ArgOK x) : Holds (newOfList xs) (argsDen xs) :=
  (merge_state_spec (xs.map Arg.toItem) (toItems_ok xs hx)).congr (iden_toItems xs)

theorem compact_foldl_dInsert (s : St) (hs : ∀ n ∈ s, Good n) (l : List Net) (hl : ∀ n ∈ l, Good n) :
    Holds (compact (l.foldl dInsert s)) fun u a => denS s u a ∨ denS l u a := by
  obtain ⟨g1, _, g2⟩ := foldl_dInsert l hl s hs
  exact (compact_spec _ fun n hn => (g1 n hn).1).congr (denS_of_mem_or g2)

/-- `update(iterable)`: old keys plus merged blocks, then `compact()` -/
theorem updateList_spec (s : St) (hs : ∀ n ∈ s, Good n) (xs : List Arg) (hx : ∀ x ∈ xs, ArgOK x) :
    Holds (updateList s xs) fun u a => denS s u a ∨ argsDen xs u a := by
  obtain ⟨hmg, _, m2⟩ := mergeKeys_spec s (fun n hn => (hs n hn).1) _ (toItems_ok xs hx)
  refine (compact_foldl_dInsert s hs _ hmg).congr fun u a => ?_
  rw [← denS_of_mem (fromKeys_mem _ hmg).2.2, m2 u a]
  simp only [iden_toItems, or_self_left]

/-- Aligned in-range prefixes of one family as keys: good, with the blocks and the addresses the
    C05 / C09 theorems speak about. -/
theorem ofPfx_keys (v : Nat) (hv : v = 4 ∨ v = 6) (P : List Pfx)
    (hP : ∀ b ∈ P, b.val < 2 ^ width v ∧ b.plen ≤ width v ∧ b.val % 2 ^ (width v - b.plen) = 0) :
    (∀ b ∈ P, Good (ofPfx v b)) ∧
    (P.map (ofPfx v)).map blk = C09L.blks (width v) P ∧
    ∀ u a, denS (P.map (ofPfx v)) u a ↔ v = u ∧ den (C09L.blks (width v) P) a := by
  have hg : ∀ b ∈ P, Good (ofPfx v b) := fun b hb =>
    good_of_aligned _ ⟨hv, (hP b hb).1, (hP b hb).2.1⟩ (hP b hb).2.2
  have hb : ∀ b ∈ P, blk (ofPfx v b) = C09L.blk (width v) b := fun b hb => blk_good _ (hg b hb)
  refine ⟨hg, by rw [List.map_map]; exact List.map_congr_left hb, fun u a => ?_⟩
  constructor
  · rintro ⟨n, hn, hvn, hx⟩
    obtain ⟨b, hbP, rfl⟩ := List.mem_map.1 hn
    exact ⟨hvn, _, List.mem_map_of_mem hbP, hb b hbP ▸ (blk_mem _ (hg b hbP).1 a).2 hx⟩
  · rintro ⟨e, x, hx, hxa⟩
    obtain ⟨b, hbP, rfl⟩ := List.mem_map.1 hx
    exact ⟨_, List.mem_map_of_mem hbP, e, (blk_mem _ (hg b hbP).1 a).1 (hb b hbP ▸ hxa)⟩

theorem rangeCidrs_spec (ver lo hi : Nat) (hver : ver = 4 ∨ ver = 6) (hle : lo ≤ hi) (hhi : hi < 2 ^ width ver) :
    (∀ n ∈ rangeCidrs ver lo hi, Good n) ∧
    (∀ u, Canon (famBlks u (rangeCidrs ver lo hi))) ∧
    ∀ u a, denS (rangeCidrs ver lo hi) u a ↔ (ver = u ∧ lo ≤ a ∧ a ≤ hi) := by
  have hR := C05.iprange_to_cidrs_addr (width ver) lo hi hle hhi
  have hfun : rangeCidrs ver lo hi =
      (iprangeToCidrs (width ver) ⟨lo, width ver⟩ ⟨hi, width ver⟩).map (fun b => (⟨ver, b.val, b.plen⟩ : Net)) := rfl
  obtain ⟨hg, -, hd⟩ := ofPfx_keys ver hver (iprangeToCidrs (width ver) ⟨lo, width ver⟩ ⟨hi, width ver⟩) fun b hb => by
    have hp := Nat.two_pow_pos (width ver - b.plen)
    have hbv := (hR.bounds hb).2
    exact ⟨by omega, (hR.wf b hb).2, (hR.wf b hb).1⟩
  refine ⟨fun n hn => ?_, fun u => ?_, fun u a => (hd u a).trans ?_⟩
  · obtain ⟨b, hb, rfl⟩ := List.mem_map.1 hn
    exact hg b hb
  · rw [hfun]
    by_cases hu : ver = u
    · subst hu; rw [famBlks_same]; exact hR.canon
    · rw [famBlks_other u ver hu]; exact canon_nil
  · rw [C09L.den_blks, hR.den a]

/-- the same on the line: the keys of a range form a canonical set covering its interval -/
theorem rangeCidrs_lin (ver lo hi : Nat) (hver : ver = 4 ∨ ver = 6) (hle : lo ≤ hi) (hhi : hi < 2 ^ width ver) :
    (∀ n ∈ rangeCidrs ver lo hi, Good n) ∧ CanonSet ((rangeCidrs ver lo hi).map lin) ∧
    ∀ x, den ((rangeCidrs ver lo hi).map lin) x ↔ off ver + lo ≤ x ∧ x ≤ off ver + hi := by
  obtain ⟨g, c, d⟩ := rangeCidrs_spec ver lo hi hver hle hhi
  have hw : ∀ n ∈ rangeCidrs ver lo hi, n.WF := fun n hn => (g n hn).1
  refine ⟨g, canonset_lin _ hw fun u => canonset_congr (c u).toSet fun b => (mem_famBlks_good _ g u b).symm,
    fun x => ?_⟩
  rw [den_lin _ hw]
  constructor
  · rintro ⟨_, a, rfl, hd⟩
    obtain ⟨rfl, h1, h2⟩ := (d _ a).1 hd
    omega
  · intro h
    exact ⟨ver, x - off ver, by omega, (d ver _).2 ⟨rfl, by omega, by omega⟩⟩

theorem rangeCidrs_arg (r : Rng) (h : ArgOK (.rng r)) :
    (∀ n ∈ rangeCidrs r.ver r.lo r.hi, Good n) ∧
    ∀ u a, denS (rangeCidrs r.ver r.lo r.hi) u a ↔ argDen (.rng r) u a := by
  obtain ⟨g, _, d⟩ := rangeCidrs_spec r.ver r.lo r.hi h.1 h.2.1 h.2.2
  exact ⟨g, d⟩

/-- `IPSet(IPRange)` -/
theorem newOfRange_spec (r : Rng) (h : ArgOK (.rng r)) : Holds (newOfRange r) (argDen (.rng r)) := by
  obtain ⟨g, c, d⟩ := rangeCidrs_spec r.ver r.lo r.hi h.1 h.2.1 h.2.2
  exact (fromKeys_spec _ g c).congr fun u a => (den_famBlks_good _ g u a).trans (d u a)

/-- `add(IPRange)`: the range's blocks are stored next to the old keys, then `compact()` -/
theorem addRange_spec (s : St) (hs : ∀ n ∈ s, Good n) (r : Rng) (h : ArgOK (.rng r)) :
    Holds (addRange s r) fun u a => denS s u a ∨ argDen (.rng r) u a := by
  obtain ⟨g, d⟩ := rangeCidrs_arg r h
  exact (compact_foldl_dInsert s hs _ g).congr fun u a => by rw [d u a]

/-- `IPSet(IPNetwork)` -/
theorem newOfNet_spec (n : Net) (h : n.WF) : Holds (newOfNet n) (argDen (.net n)) := by
  obtain ⟨hg, _, hv, _⟩ := netCidr_good n h
  obtain ⟨hf, hl⟩ := netCidr_first_last n h
  refine ⟨inv_single hg, fun u a => ?_⟩
  unfold denS newOfNet argDen
  simp only [List.mem_singleton, exists_eq_left, hf, hl, hv]

/-- `IPSet(other_set)` -/
theorem newOfSet_spec (t : St) (ht : Inv t) : Inv (newOfSet t) ∧ ∀ n, n ∈ newOfSet t ↔ n ∈ t :=
  fromKeys_of_inv t ht (sortNets t) fun _ => (sortNets_perm t).mem_iff

/-- `A | B` (`union` = `copy()` then `update(B)`) -/
theorem union_spec (s t : St) (hs : Inv s) (ht : Inv t) : Holds (union s t) fun u a => denS s u a ∨ denS t u a := by
  obtain ⟨c1, c2⟩ := copy_spec s hs
  exact (updateSet_spec (copy s) t c1.wf ht.wf).congr fun u a => by rw [denS_of_mem c2]

end NV.IPSet
