/-
Lemmas/IPSetState.lean — IPSet states as block sets (C06/C07).  The block of a key, good keys and
`.cidr`, the denotation `denS` with the argument forms (`argDen`, `ArgOK`), the state invariant `Inv`, and `Holds s D`
(canonical and denoting exactly `D`: the shape of every operation's specification);
what the dictionary operations do to the members of a state of good keys; equality, membership,
`pop()`, `copy()` under the invariant; the sibling and parent keys computed by the merge
loop of `_compact_single_network` (here and not in IPSetCompact so that IPSetFaithful can compare
them with the `IPNetwork` methods without importing the loop's proof).
-/
import NetaddrVerif.Model.IPSet
import NetaddrVerif.Lemmas.NetBlock
import NetaddrVerif.Lemmas.CanonSetL
namespace NV.IPSet
open NV NV.Blk

def blk (n : Net) : Blk := ⟨n.first, width n.ver - n.plen⟩

/-- a key as `add` stores it (the `.cidr` of its argument): in range and host-bit-free -/
def Good (n : Net) : Prop := n.WF ∧ n.val = n.first

theorem last_eq (n : Net) (h : n.WF) : n.last = n.first + (2 ^ (width n.ver - n.plen) - 1) :=
  netLast_eq_add _ _ _ h.2.1

theorem blk_aligned (n : Net) (h : n.WF) : (blk n).aligned := blkOf_aligned _ _ _ h.2.1

theorem blk_mem (n : Net) (h : n.WF) (a : Nat) : (blk n).mem a ↔ n.first ≤ a ∧ a ≤ n.last :=
  blkOf_mem _ _ _ a h.2.1

theorem first_le_last (n : Net) : n.first ≤ n.last := netFirst_le_netLast _ _ _

theorem last_lt (n : Net) (h : n.WF) : n.last < 2 ^ width n.ver := netLast_lt _ _ _ h.2.1

theorem val_mem_blk (n : Net) (hn : n.WF) : (blk n).mem n.val := blkOf_val_mem _ _ _ hn.2.1

theorem sub_shorter (n : Net) (hn : n.WF) (q : Nat) (hq : q ≤ n.plen) :
    (⟨n.ver, n.val, q⟩ : Net).WF ∧ (blk n).sub (blk ⟨n.ver, n.val, q⟩) := by
  have hk : (⟨n.ver, n.val, q⟩ : Net).WF := ⟨hn.1, hn.2.1, Nat.le_trans hq hn.2.2⟩
  refine ⟨hk, sub_of_share _ _ (blk_aligned n hn) (blk_aligned _ hk) ?_ n.val (val_mem_blk n hn) (val_mem_blk _ hk)⟩
  show width n.ver - n.plen ≤ width n.ver - q
  omega

theorem sub_iff (a c : Net) (ha : a.WF) (hc : c.WF) :
    (blk a).sub (blk c) ↔ c.first ≤ a.first ∧ a.last ≤ c.last := by
  constructor
  · intro h
    have h1 := (blk_mem c hc _).1 (h a.first ((blk_mem a ha _).2 ⟨Nat.le_refl _, first_le_last a⟩))
    have h2 := (blk_mem c hc _).1 (h a.last ((blk_mem a ha _).2 ⟨first_le_last a, Nat.le_refl _⟩))
    exact ⟨h1.1, h2.2⟩
  · rintro ⟨h1, h2⟩ x hx
    have := (blk_mem a ha x).1 hx
    exact (blk_mem c hc x).2 ⟨by omega, by omega⟩

theorem plen_le_of_sub (a c : Net) (ha : a.WF) (hc : c.WF) (hv : c.ver = a.ver)
    (hsub : (blk a).sub (blk c)) : c.plen ≤ a.plen := by
  have := sub_k_le hsub
  have h1 : width a.ver - a.plen ≤ width c.ver - c.plen := this
  have := ha.2.2; have := hc.2.2
  rw [hv] at h1 this; omega

theorem blk_eq_of_share (a c : Net) (ha : a.WF) (hc : c.WF) (hv : c.ver = a.ver) (hp : c.plen = a.plen)
    (x : Nat) (h1 : (blk a).mem x) (h2 : (blk c).mem x) : blk c = blk a :=
  eq_of_share _ _ (blk_aligned c hc) (blk_aligned a ha)
    (by show width c.ver - c.plen = width a.ver - a.plen; rw [hv, hp]) x h2 h1

theorem keyEq_iff (a b : Net) : keyEq a b = true ↔ a.ver = b.ver ∧ a.first = b.first ∧ a.last = b.last := by
  simp [keyEq, and_assoc]

theorem netIn_iff (a b : Net) : netIn a b = true ↔ a.ver = b.ver ∧ b.first ≤ a.first ∧ a.last ≤ b.last := by
  simp [netIn, and_assoc]

theorem keyEq_iff_blk (a b : Net) (ha : a.WF) (hb : b.WF) :
    keyEq a b = true ↔ a.ver = b.ver ∧ blk a = blk b := by
  unfold blk
  rw [keyEq_iff, Blk.mk.injEq, last_eq a ha, last_eq b hb]
  have h1 := Nat.two_pow_pos (width a.ver - a.plen); have h2 := Nat.two_pow_pos (width b.ver - b.plen)
  constructor
  · rintro ⟨hv, hf, hl⟩
    have : 2 ^ (width a.ver - a.plen) = 2 ^ (width b.ver - b.plen) := by omega
    exact ⟨hv, hf, (Nat.pow_right_inj (by decide)).1 this⟩
  · rintro ⟨hv, hf, hk⟩
    rw [hf, hk]; exact ⟨hv, rfl, rfl⟩

theorem good_of_aligned (n : Net) (h : n.WF) (hal : n.val % 2 ^ (width n.ver - n.plen) = 0) : Good n :=
  ⟨h, (netFirst_of_aligned _ _ _ h.2.1 hal).symm⟩

theorem good_aligned (n : Net) (h : Good n) : n.val % 2 ^ (width n.ver - n.plen) = 0 := by
  have : n.first % 2 ^ (width n.ver - n.plen) = 0 := blk_aligned n h.1
  rwa [← h.2] at this

theorem blk_good (n : Net) (h : Good n) : blk n = ⟨n.val, width n.ver - n.plen⟩ := by
  unfold blk; rw [← h.2]

theorem good_ext (a b : Net) (ha : Good a) (hb : Good b) (hv : a.ver = b.ver) (h : blk a = blk b) :
    a = b := by
  rw [blk_good a ha, blk_good b hb, hv] at h
  obtain ⟨av, aval, ap⟩ := a
  obtain ⟨bv, bval, bp⟩ := b
  have hp := hb.1.2.2
  simp only [Blk.mk.injEq] at h hv hp
  have hq : ap ≤ width bv := hv ▸ ha.1.2.2
  rw [hv, h.1, show ap = bp by omega]

theorem keyEq_good (a b : Net) (ha : Good a) (hb : Good b) : keyEq a b = true ↔ a = b := by
  rw [keyEq_iff_blk a b ha.1 hb.1]
  exact ⟨fun h => good_ext a b ha hb h.1 h.2, fun h => h ▸ ⟨rfl, rfl⟩⟩

theorem keyEq_refl (a : Net) : keyEq a a = true := (keyEq_iff a a).2 ⟨rfl, rfl, rfl⟩

theorem keyEq_symm (a b : Net) : keyEq a b = keyEq b a := by
  unfold keyEq
  simp only [Bool.beq_comm (a := a.ver), Bool.beq_comm (a := a.first), Bool.beq_comm (a := a.last)]

theorem netCidr_val (n : Net) : (netCidr n).val = n.first := rfl

theorem netCidr_first_last (n : Net) (h : n.WF) : (netCidr n).first = n.first ∧ (netCidr n).last = n.last :=
  ⟨netFirst_idem _ _ _ h.2.1, netLast_netFirst _ _ _ h.2.1⟩

theorem netCidr_good (n : Net) (h : n.WF) :
    Good (netCidr n) ∧ blk (netCidr n) = blk n ∧ (netCidr n).ver = n.ver ∧ (netCidr n).plen = n.plen :=
  have e := (netCidr_first_last n h).1
  ⟨⟨⟨h.1, netFirst_lt _ _ _ h.2.1, h.2.2⟩, e.symm⟩, congrArg (Blk.mk · (width n.ver - n.plen)) e, rfl, rfl⟩

def fam (ver : Nat) (s : St) : List Blk := (s.filter (fun n => n.ver == ver)).map blk

/-- the addresses a state denotes, per family -/
def denS (s : St) (ver a : Nat) : Prop := ∃ n ∈ s, n.ver = ver ∧ n.first ≤ a ∧ a ≤ n.last

/-- well-formed argument: an in-range network (address, int, string → network) or a range
    `lo ≤ hi` inside its family -/
def ArgOK : Arg → Prop
  | .net n => n.WF
  | .rng r => (r.ver = 4 ∨ r.ver = 6) ∧ r.lo ≤ r.hi ∧ r.hi < 2 ^ width r.ver

def argDen : Arg → Nat → Nat → Prop
  | .net n, u, a => n.ver = u ∧ n.first ≤ a ∧ a ≤ n.last
  | .rng r, u, a => r.ver = u ∧ r.lo ≤ a ∧ a ≤ r.hi

def argsDen (xs : List Arg) (u a : Nat) : Prop := ∃ x ∈ xs, argDen x u a

/-- the network form with the family equation turned round, as `compactSingle_spec`, `C06.add_net_spec` and
    `C06.pop_spec` spell it -/
theorem argDen_net (n : Net) (u a : Nat) : argDen (.net n) u a ↔ u = n.ver ∧ n.first ≤ a ∧ a ≤ n.last := by
  unfold argDen; rw [eq_comm]

theorem denS_cons (x : Net) (xs : St) (u a : Nat) : denS (x :: xs) u a ↔ argDen (.net x) u a ∨ denS xs u a := by
  unfold denS argDen; simp only [List.mem_cons, exists_eq_or_imp]

/-- State invariant: every key in range and host-bit-free, no two equal keys, and per
    family the blocks are aligned, pairwise disjoint and no two can be combined. -/
structure Inv (s : St) : Prop where
  good : ∀ n ∈ s, Good n
  nodup : s.Nodup
  cs : ∀ ver, CanonSet (fam ver s)

theorem Inv.wf {s : St} (hs : Inv s) : ∀ n ∈ s, n.WF := fun n hn => (hs.good n hn).1

/-- `s` is canonical and denotes exactly `D`: what the specification of every operation says of its result -/
def Holds (s : St) (D : Nat → Nat → Prop) : Prop := Inv s ∧ ∀ u a, denS s u a ↔ D u a

theorem Holds.congr {s : St} {D D' : Nat → Nat → Prop} (h : Holds s D) (e : ∀ u a, D u a ↔ D' u a) : Holds s D' :=
  ⟨h.1, fun u a => (h.2 u a).trans (e u a)⟩

theorem mem_fam {ver : Nat} {s : St} {b : Blk} : b ∈ fam ver s ↔ ∃ n ∈ s, n.ver = ver ∧ blk n = b := by
  unfold fam
  simp only [List.mem_map, List.mem_filter, beq_iff_eq, and_assoc]

theorem den_fam (s : St) (hg : ∀ n ∈ s, Good n) (ver a : Nat) : den (fam ver s) a ↔ denS s ver a := by
  unfold den denS
  constructor
  · rintro ⟨b, hb, hm⟩
    obtain ⟨n, hn, hv, rfl⟩ := mem_fam.1 hb
    exact ⟨n, hn, hv, (blk_mem n (hg n hn).1 a).1 hm⟩
  · rintro ⟨n, hn, hv, h⟩
    exact ⟨blk n, mem_fam.2 ⟨n, hn, hv, rfl⟩, (blk_mem n (hg n hn).1 a).2 h⟩

theorem denS_nil (u a : Nat) : ¬ denS [] u a := by
  rintro ⟨n, hn, _⟩; simp at hn

/-- every key holds its first address; no invariant is needed -/
theorem nil_iff_no_den (s : St) : s = [] ↔ ∀ ver a, ¬ denS s ver a := by
  constructor
  · rintro rfl; exact denS_nil
  · intro h
    cases s with
    | nil => rfl
    | cons n r => exact absurd ⟨n, List.mem_cons_self .., rfl, Nat.le_refl _, first_le_last n⟩ (h n.ver n.first)

theorem denS_of_mem {s t : St} (hm : ∀ n, n ∈ t ↔ n ∈ s) (ver x : Nat) : denS t ver x ↔ denS s ver x := by
  unfold denS
  constructor
  · rintro ⟨n, h1, h2⟩; exact ⟨n, (hm n).1 h1, h2⟩
  · rintro ⟨n, h1, h2⟩; exact ⟨n, (hm n).2 h1, h2⟩

theorem denS_of_mem_or {r s t : St} (h : ∀ n, n ∈ r ↔ n ∈ s ∨ n ∈ t) (u a : Nat) :
    denS r u a ↔ denS s u a ∨ denS t u a := by
  unfold denS
  constructor
  · rintro ⟨n, hn, hx⟩
    exact ((h n).1 hn).elim (fun h1 => Or.inl ⟨n, h1, hx⟩) (fun h1 => Or.inr ⟨n, h1, hx⟩)
  · rintro (⟨n, hn, hx⟩ | ⟨n, hn, hx⟩)
    · exact ⟨n, (h n).2 (Or.inl hn), hx⟩
    · exact ⟨n, (h n).2 (Or.inr hn), hx⟩

theorem Inv.disj {s : St} (hs : Inv s) {a b : Net} (ha : a ∈ s) (hb : b ∈ s) (hv : a.ver = b.ver)
    (hne : a ≠ b) : (blk a).disj (blk b) :=
  (hs.cs a.ver).dj _ (mem_fam.2 ⟨a, ha, rfl, rfl⟩) _ (mem_fam.2 ⟨b, hb, hv.symm, rfl⟩)
    fun e => hne (good_ext a b (hs.good a ha) (hs.good b hb) hv e)

theorem Inv.nosib {s : St} (hs : Inv s) {a b : Net} (ha : a ∈ s) (hb : b ∈ s) (hv : a.ver = b.ver) :
    ¬ (blk a).sib (blk b) :=
  (hs.cs a.ver).ns _ (mem_fam.2 ⟨a, ha, rfl, rfl⟩) _ (mem_fam.2 ⟨b, hb, hv.symm, rfl⟩)

theorem inv_of_pairwise (s : St) (hg : ∀ n ∈ s, Good n) (hn : s.Nodup)
    (hd : ∀ a ∈ s, ∀ b ∈ s, a.ver = b.ver → a ≠ b → (blk a).disj (blk b))
    (hns : ∀ a ∈ s, ∀ b ∈ s, a.ver = b.ver → ¬ (blk a).sib (blk b)) : Inv s := by
  refine ⟨hg, hn, fun ver => ⟨?_, ?_, ?_⟩⟩
  · intro b hb
    obtain ⟨n, h1, _, rfl⟩ := mem_fam.1 hb
    exact blk_aligned n (hg n h1).1
  · intro b hb c hc hne
    obtain ⟨n, h1, hv1, rfl⟩ := mem_fam.1 hb
    obtain ⟨m, h2, hv2, rfl⟩ := mem_fam.1 hc
    exact hd n h1 m h2 (hv1.trans hv2.symm) (fun e => hne (e ▸ rfl))
  · intro b hb c hc
    obtain ⟨n, h1, hv1, rfl⟩ := mem_fam.1 hb
    obtain ⟨m, h2, hv2, rfl⟩ := mem_fam.1 hc
    exact hns n h1 m h2 (hv1.trans hv2.symm)

theorem inv_nil : Inv [] :=
  inv_of_pairwise [] (by simp) List.nodup_nil (by simp) (by simp)

theorem holds_nil : Holds [] fun _ _ => False := ⟨inv_nil, fun u a => iff_of_false (denS_nil u a) id⟩

theorem inv_single {n : Net} (hg : Good n) : Inv [n] :=
  inv_of_pairwise [n] (fun _ h => List.mem_singleton.1 h ▸ hg) (List.pairwise_singleton _ n)
    (fun _ ha _ hb _ hne => absurd ((List.mem_singleton.1 ha).trans (List.mem_singleton.1 hb).symm) hne)
    (fun _ ha _ hb _ hs => not_sib_self _ (List.mem_singleton.1 ha ▸ List.mem_singleton.1 hb ▸ hs))

theorem inv_subset (s t : St) (hs : Inv s) (hn : t.Nodup) (hm : ∀ n ∈ t, n ∈ s) : Inv t :=
  inv_of_pairwise t (fun n h => hs.good n (hm n h)) hn
    (fun a ha b hb => hs.disj (hm a ha) (hm b hb)) (fun a ha b hb => hs.nosib (hm a ha) (hm b hb))

/-! ### the dictionary operations on states of good keys -/

theorem dMem_iff (s : St) (hg : ∀ n ∈ s, Good n) (k : Net) (hk : k.WF) :
    dMem s k = true ↔ ∃ c ∈ s, c.ver = k.ver ∧ blk c = blk k := by
  unfold dMem
  simp only [List.any_eq_true]
  constructor
  · rintro ⟨c, hc, he⟩
    exact ⟨c, hc, (keyEq_iff_blk c k (hg c hc).1 hk).1 he⟩
  · rintro ⟨c, hc, h⟩
    exact ⟨c, hc, (keyEq_iff_blk c k (hg c hc).1 hk).2 h⟩

theorem dMem_good (s : St) (hg : ∀ n ∈ s, Good n) (k : Net) (hk : Good k) : dMem s k = true ↔ k ∈ s :=
  (dMem_iff s hg k hk.1).trans
    ⟨fun ⟨c, hc, hv, hb⟩ => good_ext c k (hg c hc) hk hv hb ▸ hc, fun h => ⟨k, h, rfl, rfl⟩⟩

theorem mem_dDel (s : St) (hg : ∀ n ∈ s, Good n) (k : Net) (hk : Good k) (n : Net) :
    n ∈ dDel s k ↔ n ∈ s ∧ n ≠ k := by
  unfold dDel
  rw [List.mem_filter]
  refine and_congr_right fun hn => ?_
  rw [Bool.not_eq_true', Bool.eq_false_iff, Ne, keyEq_good n k (hg n hn) hk]

theorem mem_dInsert (s : St) (hg : ∀ n ∈ s, Good n) (k : Net) (hk : Good k) (n : Net) :
    n ∈ dInsert s k ↔ n ∈ s ∨ n = k := by
  unfold dInsert
  split
  · rename_i h
    have hks := (dMem_good s hg k hk).1 h
    exact ⟨Or.inl, fun h1 => h1.elim id (fun e => e ▸ hks)⟩
  · simp

theorem good_dDel (s : St) (hg : ∀ n ∈ s, Good n) (k : Net) : ∀ n ∈ dDel s k, Good n := by
  intro n hn; unfold dDel at hn; exact hg n (List.mem_filter.1 hn).1

theorem good_dInsert (s : St) (hg : ∀ n ∈ s, Good n) (k : Net) (hk : Good k) : ∀ n ∈ dInsert s k, Good n := by
  intro n hn
  rcases (mem_dInsert s hg k hk n).1 hn with h | h
  · exact hg n h
  · exact h ▸ hk

theorem nodup_dDel (s : St) (hn : s.Nodup) (k : Net) : (dDel s k).Nodup := by
  unfold dDel; exact hn.filter _

theorem nodup_dInsert (s : St) (hg : ∀ n ∈ s, Good n) (hn : s.Nodup) (k : Net) (hk : Good k) :
    (dInsert s k).Nodup := by
  unfold dInsert
  split
  · exact hn
  · rename_i h
    have hks : k ∉ s := fun hm => h ((dMem_good s hg k hk).2 hm)
    rw [List.nodup_append]
    refine ⟨hn, by simp, ?_⟩
    intro a ha b hb
    simp at hb; subst hb
    intro e; subst e; exact hks ha

/-- storing good keys one after the other, in the order the users take it apart: the keys stay good; no duplicates arise
    (an implication: the start may have some); the members are the old ones and the new.  `fromKeys_mem` is the same from
    the empty start, where the middle fact is unconditional. -/
theorem foldl_dInsert (l : List Net) (hl : ∀ n ∈ l, Good n) : ∀ (s : St), (∀ n ∈ s, Good n) →
    (∀ n ∈ l.foldl dInsert s, Good n) ∧ (s.Nodup → (l.foldl dInsert s).Nodup) ∧
    ∀ n, n ∈ l.foldl dInsert s ↔ n ∈ s ∨ n ∈ l := by
  induction l with
  | nil => intro s hs; exact ⟨hs, id, fun n => by simp⟩
  | cons x xs ih =>
    intro s hs
    have hx := hl x (List.mem_cons_self ..)
    obtain ⟨r1, r2, r3⟩ := ih (fun n h => hl n (List.mem_cons_of_mem _ h)) (dInsert s x) (good_dInsert s hs x hx)
    refine ⟨r1, fun hn => r2 (nodup_dInsert s hs hn x hx), fun n => ?_⟩
    rw [List.foldl_cons, r3 n, mem_dInsert s hs x hx n, List.mem_cons, or_assoc]

theorem fromKeys_mem (l : List Net) (hl : ∀ n ∈ l, Good n) :
    (∀ n ∈ fromKeys l, Good n) ∧ (fromKeys l).Nodup ∧ ∀ n, n ∈ fromKeys l ↔ n ∈ l := by
  obtain ⟨h1, h2, h3⟩ := foldl_dInsert l hl [] (by simp)
  exact ⟨h1, h2 List.nodup_nil, fun n => by rw [fromKeys, h3 n]; simp⟩

/-! ### equality, membership, `pop()`, `copy()` under the invariant -/

theorem mem_iff_of_den (s t : St) (hs : Inv s) (ht : Inv t)
    (hd : ∀ ver a, denS s ver a ↔ denS t ver a) (n : Net) : n ∈ s ↔ n ∈ t := by
  have key : ∀ (s t : St), Inv s → Inv t → (∀ ver a, denS s ver a ↔ denS t ver a) → ∀ n, n ∈ s → n ∈ t := by
    intro s t hs ht hd n hn
    have hb : blk n ∈ fam n.ver s := mem_fam.2 ⟨n, hn, rfl, rfl⟩
    have hb' : blk n ∈ fam n.ver t := by
      apply (canonset_ext _ _ (hs.cs n.ver) (ht.cs n.ver) _ (blk n)).1 hb
      intro a
      rw [den_fam s hs.good, den_fam t ht.good]; exact hd n.ver a
    obtain ⟨m, hm, hv, hbm⟩ := mem_fam.1 hb'
    exact good_ext m n (ht.good m hm) (hs.good n hn) hv hbm ▸ hm
  exact ⟨key s t hs ht hd n, key t s ht hs (fun v a => (hd v a).symm) n⟩

/-- a canonical state is determined by its denotation up to dictionary order; every "same addresses,
    same observation" theorem is this and the observation's indifference to the order -/
theorem perm_of_den (s t : St) (hs : Inv s) (ht : Inv t) (h : ∀ ver a, denS s ver a ↔ denS t ver a) : s.Perm t :=
  (List.perm_ext_iff_of_nodup hs.nodup ht.nodup).2 (mem_iff_of_den s t hs ht h)

theorem eq_iff_mem (s t : St) (hs : Inv s) (ht : Inv t) : IPSet.eq s t = true ↔ ∀ n, n ∈ s ↔ n ∈ t := by
  unfold IPSet.eq
  simp only [Bool.and_eq_true, beq_iff_eq, List.all_eq_true]
  constructor
  · rintro ⟨hlen, hall⟩
    have hsub : s ⊆ t := fun n hn => (dMem_good t ht.good n (hs.good n hn)).1 (hall n hn)
    have hsup : t ⊆ s := subset_of_length_eq s t hs.nodup ht.nodup hsub hlen
    intro n; exact ⟨fun h => hsub h, fun h => hsup h⟩
  · intro h
    have hperm : s.Perm t := (List.perm_ext_iff_of_nodup hs.nodup ht.nodup).2 h
    exact ⟨hperm.length_eq, fun n hn => (dMem_good t ht.good n (hs.good n hn)).2 ((h n).1 hn)⟩

theorem Inv.covered {s : St} (hs : Inv s) (n : Net) (hn : n.WF)
    (h : ∀ a, n.first ≤ a → a ≤ n.last → denS s n.ver a) : ∃ m ∈ s, m.ver = n.ver ∧ (blk n).sub (blk m) := by
  obtain ⟨c, hc, hsub⟩ := covered_imp_single _ (hs.cs n.ver) (blk n) (blk_aligned n hn) fun a ha => by
    rw [den_fam s hs.good]
    have := (blk_mem n hn a).1 ha
    exact h a this.1 this.2
  obtain ⟨m, hm, hv, rfl⟩ := mem_fam.1 hc
  exact ⟨m, hm, hv, hsub⟩

/-- `__contains__` answers True exactly when every address of the queried network is in the
    set: the walk over the ≤ width supernets finds a stored block iff one stored block
    contains the network, and a network covered by a canonical set lies in one block. -/
theorem contains_iff (s : St) (hs : Inv s) (n : Net) (hn : n.WF) :
    contains s n = true ↔ ∀ a, n.first ≤ a → a ≤ n.last → denS s n.ver a := by
  unfold contains
  simp only [List.any_eq_true, List.mem_range]
  constructor
  · rintro ⟨q, hq, hm⟩ a h1 h2
    obtain ⟨hk, hsub⟩ := sub_shorter n hn q (by omega)
    obtain ⟨c, hc, hv, hb⟩ := (dMem_iff s hs.good _ hk).1 hm
    refine ⟨c, hc, hv, ?_⟩
    rw [← blk_mem c (hs.wf c hc), hb]
    exact hsub a ((blk_mem n hn a).2 ⟨h1, h2⟩)
  · intro h
    obtain ⟨m, hm, hv, hsub⟩ := hs.covered n hn h
    have hmw := (hs.wf m hm)
    have hple : m.plen ≤ n.plen := plen_le_of_sub n m hn hmw hv hsub
    have hk := (sub_shorter n hn m.plen hple).1
    exact ⟨m.plen, by omega, (dMem_iff s hs.good _ hk).2 ⟨m, hm, hv,
      (blk_eq_of_share m _ hmw hk hv.symm rfl n.val (hsub _ (val_mem_blk n hn)) (val_mem_blk _ hk)).symm⟩⟩

/-- `del self._cidrs[b]` for a stored key: still canonical, exactly its block is gone -/
theorem dDel_spec (s : St) (hs : Inv s) (b : Net) (hb : b ∈ s) :
    Holds (dDel s b) fun ver a => denS s ver a ∧ ¬ argDen (.net b) ver a := by
  have hbg := hs.good b hb
  have hmem := mem_dDel s hs.good b hbg
  refine ⟨inv_subset s _ hs (nodup_dDel s hs.nodup b) (fun n hn => ((hmem n).1 hn).1), fun ver a => ?_⟩
  unfold denS
  constructor
  · rintro ⟨n, hn, hv, hx⟩
    obtain ⟨h1, h2⟩ := (hmem n).1 hn
    refine ⟨⟨n, h1, hv, hx⟩, ?_⟩
    rintro ⟨hvb, hxb⟩
    -- n and b are different stored blocks of one family: disjoint
    exact hs.disj h1 hb (hv.trans hvb.symm) h2 a
      ⟨(blk_mem n (hs.wf n h1) a).2 hx, (blk_mem b hbg.1 a).2 hxb⟩
  · rintro ⟨⟨n, hn, hv, hx⟩, hnot⟩
    refine ⟨n, (hmem n).2 ⟨hn, ?_⟩, hv, hx⟩
    intro e; subst e; exact hnot ⟨hv, hx⟩

theorem pop_spec (s : St) (hs : Inv s) (b : Net) (hb : b ∈ s) :
    ∃ s', pop s b = .ok s' ∧ Holds s' fun ver a => denS s ver a ∧ ¬ argDen (.net b) ver a := by
  have hm : dMem s b = true := (dMem_good s hs.good b (hs.good b hb)).2 hb
  exact ⟨dDel s b, by simp [pop, hm], dDel_spec s hs b hb⟩

theorem pop_err (s : St) (hs : Inv s) (b : Net) (hbg : Good b) (hb : b ∉ s) : pop s b = .error .key := by
  have : dMem s b = false := Bool.eq_false_iff.2 fun h => hb ((dMem_good s hs.good b hbg).1 h)
  simp [pop, this]

theorem fromKeys_of_inv (t : St) (ht : Inv t) (l : List Net) (hl : ∀ n, n ∈ l ↔ n ∈ t) :
    Inv (fromKeys l) ∧ ∀ n, n ∈ fromKeys l ↔ n ∈ t := by
  obtain ⟨_, f2, f3⟩ := fromKeys_mem l fun n hn => ht.good n ((hl n).1 hn)
  have hm : ∀ n, n ∈ fromKeys l ↔ n ∈ t := fun n => (f3 n).trans (hl n)
  exact ⟨inv_subset t _ ht f2 fun n h => (hm n).1 h, hm⟩

/-- `copy()`, pickling, `copy.copy/deepcopy`: the same keys, hence the same set -/
theorem copy_spec (s : St) (hs : Inv s) :
    Inv (copy s) ∧ (∀ n, n ∈ copy s ↔ n ∈ s) :=
  fromKeys_of_inv s hs s fun _ => Iff.rfl

/-! ### the keys of the merge loop -/

/-- `previous()` / `next()` candidate computed by the merge loop -/
def candOf (a : Net) : Net :=
  if (a.val >>> (width a.ver - a.plen)) % 2 = 1 then
    ⟨a.ver, netNetwork (width a.ver) a.val a.plen - 2 ^ (width a.ver - a.plen), a.plen⟩
  else ⟨a.ver, netNetwork (width a.ver) a.val a.plen + 2 ^ (width a.ver - a.plen), a.plen⟩

/-- the merged network computed by the merge loop -/
def mergedOf (a : Net) : Net :=
  ⟨a.ver, (a.val >>> (width a.ver - a.plen + 1)) <<< (width a.ver - a.plen + 1), a.plen - 1⟩

def stepState (s : St) (a : Net) : St := dInsert (dDel (dDel s (candOf a)) a) (mergedOf a)

theorem mergeLoop_succ (f : Nat) (s : St) (a : Net) :
    mergeLoop (f + 1) s a (width a.ver - a.plen) =
      if a.plen = 0 then s else if !dMem s (candOf a) then s
      else mergeLoop f (stepState s a) (mergedOf a) (width a.ver - a.plen + 1) := rfl

/-- the bit the loop tests tells which half of its parent an aligned block is -/
theorem bit_iff_upper (v k : Nat) (h : v % 2 ^ k = 0) : (v >>> k) % 2 = 1 ↔ ¬ v % 2 ^ (k + 1) = 0 := by
  obtain ⟨q, rfl⟩ := Nat.dvd_of_mod_eq_zero h
  have hk := Nat.two_pow_pos k
  rw [Nat.shiftRight_eq_div_pow, Nat.mul_div_cancel_left _ hk, Nat.pow_succ, Nat.mul_mod_mul_left]
  rcases Nat.mod_two_eq_zero_or_one q with e | e <;> rw [e]
  · simp
  · simp

theorem parent_lt (a : Net) (ha : Good a) (hp : 1 ≤ a.plen) (x : Nat) (hx : (blk a).parent.mem x) :
    x < 2 ^ width a.ver := by
  have hk : width a.ver - (a.plen - 1) = width a.ver - a.plen + 1 := by have := ha.1.2.2; omega
  have := block_lt (width a.ver) a.val (a.plen - 1) ha.1.2.1 (by omega)
  rw [hk] at this
  rw [blk_good a ha] at hx
  exact Nat.lt_of_lt_of_le hx.2 this

theorem cand_spec (a : Net) (ha : Good a) (hp : 1 ≤ a.plen) :
    Good (candOf a) ∧ (candOf a).ver = a.ver ∧ blk (candOf a) = sibling (blk a) := by
  obtain ⟨hsa, hsk, _, hpar, _⟩ := sibling_spec (blk a) (blk_aligned a ha.1)
  -- the record the loop builds has the sibling's base as its value
  have hc : candOf a = ⟨a.ver, (sibling (blk a)).base, a.plen⟩ := by
    have hnet : netNetwork (width a.ver) a.val a.plen = a.val := ha.2.symm
    unfold candOf sibling
    rw [blk_good a ha, hnet]
    simp only [bit_iff_upper a.val _ (good_aligned a ha)]
    split <;> simp_all
  have hlt := parent_lt a ha hp _ ((hpar _).2 (Or.inr (mem_base _)))
  have hk : (sibling (blk a)).k = width a.ver - a.plen := hsk
  have hg : Good (candOf a) := by
    rw [hc]
    exact good_of_aligned _ ⟨ha.1.1, hlt, ha.1.2.2⟩ (hk ▸ hsa)
  refine ⟨hg, by rw [hc], ?_⟩
  rw [blk_good _ hg, hc, ← hk]

theorem merged_spec (a : Net) (ha : Good a) (hp : 1 ≤ a.plen) :
    Good (mergedOf a) ∧ blk (mergedOf a) = (blk a).parent ∧ (mergedOf a).ver = a.ver ∧
    (mergedOf a).plen = a.plen - 1 := by
  have hk : width a.ver - (a.plen - 1) = width a.ver - a.plen + 1 := by have := ha.1.2.2; omega
  have hm : mergedOf a = ⟨a.ver, (blk a).parent.base, a.plen - 1⟩ := by
    unfold mergedOf parent
    rw [blk_good a ha, shr_shl]
  have hlt := parent_lt a ha hp _ (mem_base _)
  have hg : Good (mergedOf a) := by
    rw [hm]
    refine good_of_aligned _ ⟨ha.1.1, hlt, by have := ha.1.2.2; show a.plen - 1 ≤ width a.ver; omega⟩ ?_
    show (blk a).parent.base % 2 ^ (width a.ver - (a.plen - 1)) = 0
    rw [hk]; exact parent_aligned (blk a)
  refine ⟨hg, ?_, by rw [hm], by rw [hm]⟩
  rw [blk_good _ hg, hm]
  show (⟨(blk a).parent.base, width a.ver - (a.plen - 1)⟩ : Blk) = _
  rw [hk]; rfl

end NV.IPSet
