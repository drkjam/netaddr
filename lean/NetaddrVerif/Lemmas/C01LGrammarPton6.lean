/-
Lemmas/C01LGrammarPton6.lean — the split-style model `Text6.pton6` accepts exactly the strings of the independent
RFC 4291 grammar, each with the grammar's value: `pton6_iff_rfc4291 : Text6.pton6 s = some v ↔ Rfc4291 s v`.

Route: `pton6 s = body (s.splitOn ':')`, and `body` is a chain of stages: the two trimming steps, the count of empty
pieces, the token loop `Text6.groups`, the refill of the gap.  Each stage is characterised in the grammar's notions:
the loop reads groups and the optional dotted-quad tail; a list with at most one empty piece is `G ++ q` or
`A ++ [] :: B'`; the trimming steps yield the latter exactly from `pad A B'`, the pieces of `A :: B'` with the extra
empty pieces a leading / trailing `::` produces.  So the accepted token lists are `TokForm`, which is
`Rfc4291 (joinColon toks) v` before the join (its alternatives repeat `Rfc4291Full` / `Rfc4291Compressed` field for
field), and `splitOn ':'` and `joinColon` are inverse on such lists.  Last, in `NV.C01L`: what every accepted text is
made of, read off the grammar; Lemmas/C01LCross.lean continues from there.
-/
import NetaddrVerif.Lemmas.C01LGrammar
namespace NV.C01G
open NV NV.Text4 NV.Text6

def NoEmpty (ts : List (List Char)) : Prop := ∀ t ∈ ts, t ≠ []

/-- every piece of groups followed by the optional tail is a group or a dotted quad -/
theorem pieces_all {P : List Char → Prop} (hg : ∀ t, IsGroup t → P t) (hq : ∀ t x, IsQuad t x → P t)
    {G q : List (List Char)} {qw : List Nat} (hG : ∀ t ∈ G, IsGroup t) (hQ : IsTail q qw) : ∀ t ∈ G ++ q, P t := by
  intro t ht
  rcases List.mem_append.mp ht with h | h
  · exact hg t (hG t h)
  · rcases hQ with ⟨rfl, _⟩ | ⟨t', x, hx, rfl, _⟩
    · cases h
    · rw [List.mem_singleton.mp h]; exact hq t' x hx

theorem tail_le (q : List (List Char)) (qw : List Nat) (h : IsTail q qw) : qw.length ≤ 2 := by
  rcases h with ⟨_, rfl⟩ | ⟨_, _, _, _, rfl⟩
  · exact Nat.zero_le 2
  · exact Nat.le_refl 2

theorem groups_group (t : List Char) (h : IsGroup t) (rest : List (List Char)) (acc : List Nat) (gap : Option Nat) :
    groups (t :: rest) acc gap = groups rest (acc ++ [numVal 16 t]) gap := by
  have h1 := isEmpty_false_of_ne (group_ne_nil t h)
  have h2 := contains_false_of_not_mem (group_no_dot t h)
  have h3 := (hextet_iff t _).mpr ⟨h, rfl⟩
  simp only [groups, h1, h2, h3, Bool.false_eq_true, if_false]

theorem groups_run (G : List (List Char)) (h : ∀ t ∈ G, IsGroup t) (rest : List (List Char)) (acc : List Nat)
    (gap : Option Nat) : groups (G ++ rest) acc gap = groups rest (acc ++ G.map (numVal 16)) gap := by
  induction G generalizing acc with
  | nil => simp
  | cons t G' ih =>
    rw [List.cons_append, groups_group t (h t (by simp)), ih (fun x hx => h x (by simp [hx]))]
    simp

theorem groups_tail (q : List (List Char)) (qw : List Nat) (h : IsTail q qw) (acc : List Nat) (gap : Option Nat) :
    groups q acc gap = some (acc ++ qw, gap) := by
  rcases h with ⟨rfl, rfl⟩ | ⟨t, x, hq, rfl, rfl⟩
  · simp [groups]
  · have h1 := isEmpty_false_of_ne (quad_ne_nil t x hq)
    have h2 : t.contains '.' = true := List.contains_iff_mem.mpr (quad_has_dot t x hq)
    have h3 := (pton4_iff_quad t x).mpr hq
    simp only [groups, h1, h2, h3, Bool.false_eq_true, if_false, List.isEmpty_nil, Bool.not_true, if_true]

theorem groups_cons_ne (t : List Char) (ht : t ≠ []) (rest : List (List Char)) (acc : List Nat) (gap : Option Nat)
    (r : List Nat × Option Nat) (h : groups (t :: rest) acc gap = some r) :
    (IsGroup t ∧ groups rest (acc ++ [numVal 16 t]) gap = some r) ∨
    (rest = [] ∧ ∃ x, IsQuad t x ∧ r = (acc ++ [x / 65536, x % 65536], gap)) := by
  have h1 := isEmpty_false_of_ne ht
  unfold groups at h
  simp only [h1, Bool.false_eq_true, if_false] at h
  by_cases hd : t.contains '.' = true
  · simp only [hd, if_true] at h
    cases rest with
    | cons a b => simp at h
    | nil =>
      simp only [List.isEmpty_nil, Bool.not_true, Bool.false_eq_true, if_false] at h
      cases hp : Text4.pton4 t with
      | none => simp [hp] at h
      | some x =>
        simp only [hp, Option.some.injEq] at h
        exact Or.inr ⟨rfl, x, (pton4_iff_quad t x).mp hp, h.symm⟩
  · simp only [hd, Bool.false_eq_true, if_false] at h
    cases hh : hextet t with
    | none => simp [hh] at h
    | some n =>
      simp only [hh] at h
      obtain ⟨hg, rfl⟩ := (hextet_iff t n).mp hh
      exact Or.inl ⟨hg, h⟩

theorem groups_noEmpty_iff (T : List (List Char)) (hT : NoEmpty T) (acc : List Nat) (gap : Option Nat)
    (ws : List Nat) (g : Option Nat) :
    groups T acc gap = some (ws, g) ↔
      g = gap ∧ ∃ G q qw, T = G ++ q ∧ (∀ t ∈ G, IsGroup t) ∧ IsTail q qw ∧ ws = acc ++ (G.map (numVal 16) ++ qw) := by
  constructor
  · intro h
    induction T generalizing acc with
    | nil =>
      simp only [groups, Option.some.injEq, Prod.mk.injEq] at h
      exact ⟨h.2.symm, [], [], [], rfl, by simp, Or.inl ⟨rfl, rfl⟩, by simp [h.1]⟩
    | cons t rest ih =>
      rcases groups_cons_ne t (hT t (by simp)) rest acc gap _ h with ⟨hg, h'⟩ | ⟨rfl, x, hq, hr⟩
      · obtain ⟨e1, G, q, qw, e2, hG, hq, e3⟩ := ih (fun x hx => hT x (by simp [hx])) _ h'
        refine ⟨e1, t :: G, q, qw, by rw [e2]; rfl, List.forall_mem_cons.mpr ⟨hg, hG⟩, hq, ?_⟩
        rw [e3]; simp
      · simp only [Prod.mk.injEq] at hr
        exact ⟨hr.2, [], [t], _, rfl, by simp, Or.inr ⟨t, x, hq, rfl, rfl⟩, by simp [hr.1]⟩
  · rintro ⟨rfl, G, q, qw, rfl, hG, hq, rfl⟩
    rw [groups_run G hG, groups_tail q qw hq]
    simp

theorem groups_prefix_iff (A : List (List Char)) (hA : NoEmpty A) (R : List (List Char)) (acc : List Nat)
    (gap : Option Nat) (r : List Nat × Option Nat) :
    groups (A ++ [] :: R) acc gap = some r ↔
      (∀ t ∈ A, IsGroup t) ∧ groups R (acc ++ A.map (numVal 16)) (some (acc.length + A.length)) = some r := by
  constructor
  · intro h
    induction A generalizing acc with
    | nil =>
      simp only [List.nil_append, groups, List.isEmpty_nil, if_true] at h
      exact ⟨by simp, by simpa using h⟩
    | cons t A' ih =>
      rw [List.cons_append] at h
      rcases groups_cons_ne t (hA t (by simp)) _ acc gap _ h with ⟨hg, h'⟩ | ⟨e, _⟩
      · obtain ⟨hG, h''⟩ := ih (fun x hx => hA x (by simp [hx])) _ h'
        refine ⟨List.forall_mem_cons.mpr ⟨hg, hG⟩, ?_⟩
        · simp only [List.length_append, List.length_cons, List.length_nil, List.map_cons] at h'' ⊢
          rw [List.append_assoc] at h''
          rw [show acc.length + (A'.length + 1) = acc.length + (0 + 1) + A'.length by omega]
          exact h''
      · simp at e
  · rintro ⟨hG, h⟩
    rw [groups_run A hG]
    simp only [groups, List.isEmpty_nil, if_true, List.length_append, List.length_map]
    exact h

theorem trimFront_iff (t0 t1 : List Char) (r M : List (List Char)) :
    trimFront (t0 :: t1 :: r) = some M ↔
      (t0 = [] ∧ t1 = [] ∧ M = [] :: r) ∨ (t0 ≠ [] ∧ M = t0 :: t1 :: r) := by
  unfold trimFront
  cases t0 with
  | nil =>
    cases t1 with
    | nil => simp [eq_comm]
    | cons a b => simp
  | cons a b => simp [eq_comm]

theorem trimBack_iff (T M : List (List Char)) :
    trimBack T = some M ↔
      (∃ L, T = L ++ [[], []] ∧ M = L ++ [[]]) ∨ (T.getLast? ≠ some [] ∧ M = T) := by
  -- with `T = L ++ [t]` (and below `L = L' ++ [y]`) every test of `trimBack` is a test on `t` or `y`
  rcases List.eq_nil_or_concat T with rfl | ⟨L, t, rfl⟩
  · simp [trimBack]
  rw [List.concat_eq_append]
  unfold trimBack
  rw [List.dropLast_concat]
  simp only [List.getLast?_append, List.getLast?_singleton, Option.some_or, beq_iff_eq, Option.some.injEq]
  by_cases ht : t = []
  · subst ht
    simp only [if_true, ne_eq, not_true_eq_false, false_and, or_false]
    constructor
    · intro h
      split at h
      · rename_i hl
        cases h
        obtain ⟨L', rfl⟩ := List.getLast?_eq_some_iff.mp hl
        exact ⟨L', by simp, rfl⟩
      · cases h
    · rintro ⟨L', e, rfl⟩
      have : L = L' ++ [[]] := by
        have e' : L ++ [[]] = (L' ++ [[]]) ++ [[]] := by rw [e]; simp
        exact List.append_cancel_right e'
      subst this
      simp
  · simp only [ht, if_false, Option.some.injEq, ne_eq, not_false_eq_true, true_and]
    constructor
    · intro h; exact Or.inr h.symm
    · rintro (⟨L', e, _⟩ | h)
      · exfalso
        have e' : L ++ [t] = (L' ++ [[]]) ++ [[]] := by rw [e]; simp
        have := List.append_inj_right' e' rfl
        simp only [List.cons.injEq, and_true] at this
        exact ht this
      · exact h.symm

/-- the extra empty piece that a `::` at an end of the string produces -/
def padL : List (List Char) → List (List Char)
  | [] => [[]]
  | _ :: _ => []

/-- the pieces of the text "`A`, then `::`, then `B'`" -/
def pad (A B' : List (List Char)) : List (List Char) := padL A ++ (A ++ [] :: B' ++ padL B')

theorem padL_nil_of_ne (X : List (List Char)) (h : X ≠ []) : padL X = [] := by
  cases X with
  | nil => exact absurd rfl h
  | cons a b => rfl

theorem padL_length (X : List (List Char)) : 1 ≤ (padL X).length + X.length := by
  cases X <;> simp [padL]

theorem exists_cons_cons (toks : List (List Char)) (h : 2 ≤ toks.length) : ∃ t0 t1 r, toks = t0 :: t1 :: r := by
  match toks, h with
  | t0 :: t1 :: r, _ => exact ⟨t0, t1, r, rfl⟩

theorem trimFront_noEmpty (toks M : List (List Char)) (h2 : 2 ≤ toks.length) (hM : NoEmpty M) :
    trimFront toks = some M ↔ toks = M := by
  obtain ⟨t0, t1, r, rfl⟩ := exists_cons_cons toks h2
  rw [trimFront_iff]
  constructor
  · rintro (⟨_, _, rfl⟩ | ⟨_, rfl⟩)
    · exact absurd rfl (hM [] (List.mem_cons_self ..))
    · rfl
  · rintro rfl
    exact Or.inr ⟨hM t0 (List.mem_cons_self ..), rfl⟩

theorem trimFront_gap (toks A R : List (List Char)) (h2 : 2 ≤ toks.length) (hA : NoEmpty A) :
    trimFront toks = some (A ++ [] :: R) ↔ toks = padL A ++ (A ++ [] :: R) := by
  obtain ⟨t0, t1, r, rfl⟩ := exists_cons_cons toks h2
  rw [trimFront_iff]
  cases A with
  | nil =>
    show _ ↔ t0 :: t1 :: r = [] :: [] :: R
    constructor
    · rintro (⟨rfl, rfl, e⟩ | ⟨h0, e⟩)
      · injection e with _ e; rw [e]
      · cases e; exact absurd rfl h0
    · intro e; cases e; exact Or.inl ⟨rfl, rfl, rfl⟩
  | cons a A' =>
    have ha : a ≠ [] := hA a (List.mem_cons_self ..)
    show _ ↔ t0 :: t1 :: r = a :: (A' ++ [] :: R)
    constructor
    · rintro (⟨rfl, _, e⟩ | ⟨_, e⟩)
      · cases e; exact absurd rfl ha
      · exact e.symm
    · intro e
      exact Or.inr ⟨(List.cons.inj e).1 ▸ ha, e.symm⟩

theorem trimBack_noEmpty (T M : List (List Char)) (hM : NoEmpty M) : trimBack T = some M ↔ T = M := by
  rw [trimBack_iff]
  constructor
  · rintro (⟨L, _, rfl⟩ | ⟨_, rfl⟩)
    · exact absurd rfl (hM [] (by simp))
    · rfl
  · rintro rfl
    exact Or.inr ⟨fun hl => hM [] (List.mem_of_getLast? hl) rfl, rfl⟩

theorem trimBack_gap (T L B' : List (List Char)) (hB : NoEmpty B') :
    trimBack T = some (L ++ [] :: B') ↔ T = L ++ [] :: B' ++ padL B' := by
  rw [trimBack_iff]
  rcases List.eq_nil_or_concat B' with rfl | ⟨B'', b, rfl⟩
  · show _ ↔ T = L ++ [[]] ++ [[]]
    constructor
    · rintro (⟨L', rfl, e⟩ | ⟨hl, e⟩)
      · rw [List.append_cancel_right e]; simp
      · rw [← e] at hl; simp at hl
    · rintro rfl
      exact Or.inl ⟨L, by simp, rfl⟩
  · rw [List.concat_eq_append] at hB ⊢
    have hb : b ≠ [] := hB b (by simp)
    rw [padL_nil_of_ne _ (by simp), List.append_nil]
    have hlast : (L ++ [] :: (B'' ++ [b])).getLast? = some b := by
      rw [show L ++ [] :: (B'' ++ [b]) = (L ++ [] :: B'') ++ [b] by simp, List.getLast?_concat]
    constructor
    · rintro (⟨L', _, e⟩ | ⟨_, e⟩)
      · rw [e, List.getLast?_concat] at hlast
        exact absurd (Option.some.inj hlast).symm hb
      · exact e.symm
    · rintro rfl
      exact Or.inr ⟨fun hl => hb (Option.some.inj (hlast.symm.trans hl)), rfl⟩

theorem filter_isEmpty_eq_nil_iff (T : List (List Char)) : T.filter List.isEmpty = [] ↔ NoEmpty T := by
  rw [List.filter_eq_nil_iff]
  constructor
  · intro h t ht e; exact h t ht (by rw [e]; rfl)
  · intro h t ht e; exact h t ht (List.isEmpty_iff.mp e)

theorem one_empty (T : List (List Char)) (h : ¬ (T.filter List.isEmpty).length > 1) :
    NoEmpty T ∨ ∃ A B, T = A ++ [] :: B ∧ NoEmpty A ∧ NoEmpty B := by
  induction T with
  | nil => left; intro t ht; simp at ht
  | cons t r ih =>
    by_cases ht : t = []
    · subst ht
      right
      refine ⟨[], r, rfl, by intro t ht; simp at ht, ?_⟩
      rw [← filter_isEmpty_eq_nil_iff]
      simp only [List.filter_cons, List.isEmpty_nil, if_true, List.length_cons] at h
      cases hf : r.filter List.isEmpty with
      | nil => rfl
      | cons a b => rw [hf] at h; simp at h
    · have hne : t.isEmpty = false := isEmpty_false_of_ne ht
      simp only [List.filter_cons, hne, Bool.false_eq_true, if_false] at h
      rcases ih h with h' | ⟨A, B, e, hA, hB⟩
      · exact Or.inl (List.forall_mem_cons.mpr ⟨ht, h'⟩)
      · exact Or.inr ⟨t :: A, B, by rw [e]; rfl, List.forall_mem_cons.mpr ⟨ht, hA⟩, hB⟩

theorem filter_one (A B : List (List Char)) (hA : NoEmpty A) (hB : NoEmpty B) :
    ((A ++ [] :: B).filter List.isEmpty).length = 1 := by
  rw [List.filter_append, List.filter_cons, (filter_isEmpty_eq_nil_iff A).mpr hA, (filter_isEmpty_eq_nil_iff B).mpr hB]
  simp

/-- the part of `pton6` after the split (definitionally) -/
def body (toks : List (List Char)) : Option Nat :=
  if toks.length < 3 then none else
  match trimFront toks with
  | none => none
  | some toks =>
  match trimBack toks with
  | none => none
  | some toks =>
  if (toks.filter List.isEmpty).length > 1 then none else
  match groups toks [] none with
  | none => none
  | some (ws, none) => if ws.length = 8 then some (ofWords ws) else none
  | some (ws, some g) =>
    if ws.length > 7 then none
    else some (ofWords (ws.take g ++ List.replicate (8 - ws.length) 0 ++ ws.drop g))

theorem pton6_body (s : List Char) : pton6 s = body (s.splitOn ':') := rfl

/-- token-level form of the grammar -/
def TokForm (toks : List (List Char)) (v : Nat) : Prop :=
  (∃ (G q : List (List Char)) (qw : List Nat),
    (∀ t ∈ G, IsGroup t) ∧ IsTail q qw ∧ toks = G ++ q ∧ G.length + qw.length = 8 ∧
    v = wordsVal (G.map (numVal 16) ++ qw)) ∨
  (∃ (A B q : List (List Char)) (qw : List Nat),
    (∀ t ∈ A, IsGroup t) ∧ (∀ t ∈ B, IsGroup t) ∧ IsTail q qw ∧ toks = pad A (B ++ q) ∧
    A.length + B.length + qw.length ≤ 7 ∧
    v = wordsVal (A.map (numVal 16) ++ List.replicate (8 - (A.length + B.length + qw.length)) 0
          ++ (B.map (numVal 16) ++ qw)))

theorem body_eq_some (toks : List (List Char)) (v : Nat) : body toks = some v ↔
    ¬ toks.length < 3 ∧ ∃ T1, trimFront toks = some T1 ∧ ∃ T2, trimBack T1 = some T2 ∧
      ¬ (T2.filter List.isEmpty).length > 1 ∧ ∃ ws g, groups T2 [] none = some (ws, g) ∧
      match g with
      | none => ws.length = 8 ∧ v = ofWords ws
      | some k => ¬ ws.length > 7 ∧ v = ofWords (ws.take k ++ List.replicate (8 - ws.length) 0 ++ ws.drop k) := by
  unfold body
  by_cases hl : toks.length < 3
  · rw [if_pos hl]; exact ⟨fun h => (nomatch h), fun h => absurd hl h.1⟩
  rw [if_neg hl, and_iff_right hl]
  cases trimFront toks with
  | none => exact ⟨fun h => (nomatch h), fun ⟨_, h, _⟩ => (nomatch h)⟩
  | some T1 =>
  simp only [Option.some.injEq, exists_eq_left']
  cases trimBack T1 with
  | none => exact ⟨fun h => (nomatch h), fun ⟨_, h, _⟩ => (nomatch h)⟩
  | some T2 =>
  simp only [Option.some.injEq, exists_eq_left']
  by_cases hc : (T2.filter List.isEmpty).length > 1
  · rw [if_pos hc]; exact ⟨fun h => (nomatch h), fun h => absurd hc h.1⟩
  rw [if_neg hc, and_iff_right hc]
  cases groups T2 [] none with
  | none => exact ⟨fun h => (nomatch h), fun ⟨_, _, h, _⟩ => (nomatch h)⟩
  | some r =>
    obtain ⟨ws, g⟩ := r
    simp only [Option.some.injEq, Prod.mk.injEq, and_assoc, exists_and_left, exists_eq_left']
    cases g with
    | none => by_cases h8 : ws.length = 8 <;> simp [h8, eq_comm]
    | some k => by_cases h7 : ws.length > 7 <;> simp [h7, eq_comm]

theorem noEmpty_append (G q : List (List Char)) (qw : List Nat) (hG : ∀ t ∈ G, IsGroup t) (hq : IsTail q qw) :
    NoEmpty (G ++ q) :=
  pieces_all group_ne_nil quad_ne_nil hG hq

theorem length_groupVals (A G : List (List Char)) (qw : List Nat) :
    (A.map (numVal 16) ++ (G.map (numVal 16) ++ qw)).length = A.length + G.length + qw.length := by
  simp only [List.length_append, List.length_map, Nat.add_assoc]

theorem body_iff (toks : List (List Char)) (v : Nat) : body toks = some v ↔ TokForm toks v := by
  rw [body_eq_some]
  constructor
  · rintro ⟨hlen, T1, hf, T2, hb, hcount, ws, g, hg, hv⟩
    have h2 : 2 ≤ toks.length := by omega
    rcases one_empty T2 hcount with hne | ⟨A, B', rfl, hA, hB⟩
    · -- no empty piece at all: nothing was trimmed
      left
      rw [trimBack_noEmpty T1 T2 hne] at hb
      subst hb
      rw [trimFront_noEmpty toks T1 h2 hne] at hf
      subst hf
      obtain ⟨rfl, G, q, qw, e, hG, hq, rfl⟩ := (groups_noEmpty_iff _ hne [] none ws g).mp hg
      obtain ⟨hl8, rfl⟩ := hv
      refine ⟨G, q, qw, hG, hq, e, by simpa using hl8, by rw [ofWords_eq]; rfl⟩
    · -- exactly one empty piece: `toks` had the extra ones around it
      right
      rw [trimBack_gap T1 A B' hB] at hb
      subst hb
      rw [List.append_assoc, List.cons_append, trimFront_gap toks A _ h2 hA] at hf
      obtain ⟨hGA, hg2⟩ := (groups_prefix_iff A hA B' [] none _).mp hg
      obtain ⟨rfl, G, q, qw, rfl, hG, hq, rfl⟩ := (groups_noEmpty_iff _ hB _ _ ws g).mp hg2
      simp only [List.nil_append, List.length_nil, Nat.zero_add, length_groupVals] at hv
      refine ⟨A, G, q, qw, hGA, hG, hq, by rw [hf, pad]; simp, by omega, ?_⟩
      rw [hv.2, ofWords_eq, List.take_left' (List.length_map ..), List.drop_left' (List.length_map ..)]
  · rintro (⟨G, q, qw, hG, hq, rfl, hlen, rfl⟩ | ⟨A, B, q, qw, hA, hB, hq, rfl, hlen, rfl⟩)
    · have hne := noEmpty_append G q qw hG hq
      have hl3 : ¬ (G ++ q).length < 3 := by
        have := tail_le q qw hq
        rw [List.length_append]; omega
      refine ⟨hl3, G ++ q, (trimFront_noEmpty _ _ (by omega) hne).mpr rfl, G ++ q,
        (trimBack_noEmpty _ _ hne).mpr rfl, ?_, _, none,
        (groups_noEmpty_iff _ hne [] none _ none).mpr ⟨rfl, G, q, qw, rfl, hG, hq, rfl⟩, ?_, by rw [ofWords_eq]; rfl⟩
      · rw [(filter_isEmpty_eq_nil_iff _).mpr hne]; exact Nat.not_lt_zero _
      · simpa using hlen
    · have hneA : NoEmpty A := fun t ht => group_ne_nil t (hA t ht)
      have hneB := noEmpty_append B q qw hB hq
      have hl3 : ¬ (pad A (B ++ q)).length < 3 := by
        have h1 := padL_length A
        have h2 := padL_length (B ++ q)
        simp only [pad, List.length_append, List.length_cons] at h1 h2 ⊢
        omega
      have hg2 := (groups_noEmpty_iff (B ++ q) hneB ([] ++ A.map (numVal 16)) (some (([] : List Nat).length + A.length)) _ _).mpr
        ⟨rfl, B, q, qw, rfl, hB, hq, rfl⟩
      refine ⟨hl3, A ++ [] :: (B ++ q) ++ padL (B ++ q), ?_, A ++ [] :: (B ++ q),
        (trimBack_gap _ A _ hneB).mpr rfl, ?_, _, _, (groups_prefix_iff A hneA (B ++ q) [] none _).mpr ⟨hA, hg2⟩, ?_⟩
      · rw [List.append_assoc, List.cons_append]
        exact (trimFront_gap _ A _ (by omega) hneA).mpr (by simp [pad])
      · rw [filter_one A (B ++ q) hneA hneB]; exact Nat.lt_irrefl 1
      · simp only [List.nil_append, List.length_nil, Nat.zero_add, length_groupVals]
        refine ⟨by omega, ?_⟩
        rw [ofWords_eq, List.take_left' (List.length_map ..), List.drop_left' (List.length_map ..)]

/-- the pieces of an accepted token list: empty, a group or a dotted quad -/
theorem tokForm_all {P : List Char → Prop} (h0 : P []) (hg : ∀ t, IsGroup t → P t) (hq : ∀ t x, IsQuad t x → P t)
    {toks : List (List Char)} {v : Nat} (h : TokForm toks v) : ∀ t ∈ toks, P t := by
  rcases h with ⟨G, q, qw, hG, hQ, rfl, _, _⟩ | ⟨A, B, q, qw, hA, hB, hQ, rfl, _, _⟩
  · exact pieces_all hg hq hG hQ
  · have hp : ∀ X : List (List Char), ∀ t ∈ padL X, P t := by
      intro X t ht
      cases X with
      | nil => rw [List.mem_singleton.mp ht]; exact h0
      | cons _ _ => cases ht
    intro t ht
    unfold pad at ht
    simp only [List.mem_append, List.mem_cons] at ht
    rcases ht with h | (h | h | h | h) | h
    · exact hp _ t h
    · exact hg t (hA t h)
    · rw [h]; exact h0
    · exact pieces_all hg hq hB hQ t (List.mem_append_left _ h)
    · exact pieces_all hg hq hB hQ t (List.mem_append_right _ h)
    · exact hp _ t h

theorem tokForm_ne_nil {toks : List (List Char)} {v : Nat} (h : TokForm toks v) : toks ≠ [] := fun e =>
  ((body_eq_some toks v).mp ((body_iff toks v).mpr h)).1 (by rw [e]; decide)

theorem joinColon_cons_ne (t : List Char) (Y : List (List Char)) (hY : Y ≠ []) :
    joinColon (t :: Y) = t ++ ':' :: joinColon Y := by
  cases Y with
  | nil => exact absurd rfl hY
  | cons a b => rfl

theorem joinColon_append (X Y : List (List Char)) (hX : X ≠ []) (hY : Y ≠ []) :
    joinColon (X ++ Y) = joinColon X ++ ':' :: joinColon Y := by
  induction X with
  | nil => exact absurd rfl hX
  | cons a X' ih =>
    cases X' with
    | nil => simp [joinColon_cons_ne a Y hY, joinColon]
    | cons b X'' =>
      rw [List.cons_append, joinColon_cons_ne a _ (by simp), ih (by simp), joinColon_cons_ne a _ (by simp)]
      simp

theorem joinColon_pad (A B' : List (List Char)) :
    joinColon (pad A B') = joinColon A ++ ':' :: ':' :: joinColon B' := by
  unfold pad
  cases A with
  | nil =>
    cases B' with
    | nil => simp [padL, joinColon]
    | cons b B'' =>
      simp only [padL, List.nil_append, List.append_nil, List.cons_append]
      rw [joinColon_cons_ne [] _ (by simp), joinColon_cons_ne [] _ (by simp)]
      simp [joinColon]
  | cons a A' =>
    cases B' with
    | nil =>
      simp only [padL, List.nil_append]
      rw [List.append_assoc, joinColon_append _ _ (by simp) (by simp)]
      simp [joinColon]
    | cons b B'' =>
      simp only [padL, List.nil_append, List.append_nil]
      rw [joinColon_append _ _ (by simp) (by simp), joinColon_cons_ne [] _ (by simp)]
      simp

theorem split_join (toks : List (List Char)) (h1 : toks ≠ []) (h2 : ∀ t ∈ toks, ':' ∉ t) :
    (joinColon toks).splitOn ':' = toks := by
  rw [joinColon_eq]; exact List.splitOn_intercalate ':' h2 h1

theorem join_split (s : List Char) : joinColon (s.splitOn ':') = s := by
  rw [joinColon_eq]; exact List.intercalate_splitOn ':'

theorem pton6_iff_rfc4291 (s : List Char) (v : Nat) : pton6 s = some v ↔ Rfc4291 s v := by
  rw [pton6_body, body_iff]
  constructor
  · rintro (⟨G, q, qw, hG, hq, e, hlen, rfl⟩ | ⟨A, B, q, qw, hA, hB, hq, e, hlen, rfl⟩)
    · exact Or.inl ⟨G, q, qw, hG, hq, by rw [← e, join_split], hlen, rfl⟩
    · exact Or.inr ⟨A, B, q, qw, hA, hB, hq, by rw [← joinColon_pad, ← e, join_split], hlen, rfl⟩
  · rintro (⟨G, q, qw, hG, hq, rfl, hlen, rfl⟩ | ⟨A, B, q, qw, hA, hB, hq, rfl, hlen, rfl⟩)
    -- the string is the join of a token form without ':' in its pieces, so splitting gives the tokens back
    · have hT : TokForm (G ++ q) (wordsVal (G.map (numVal 16) ++ qw)) := Or.inl ⟨G, q, qw, hG, hq, rfl, hlen, rfl⟩
      rw [split_join _ (tokForm_ne_nil hT) (tokForm_all List.not_mem_nil group_no_colon quad_no_colon hT)]
      exact hT
    · have hT : TokForm (pad A (B ++ q)) _ := Or.inr ⟨A, B, q, qw, hA, hB, hq, rfl, hlen, rfl⟩
      rw [← joinColon_pad, split_join _ (tokForm_ne_nil hT) (tokForm_all List.not_mem_nil group_no_colon quad_no_colon hT)]
      exact hT

theorem rfc4291_functional (s : List Char) (v v' : Nat) (h : Rfc4291 s v) (h' : Rfc4291 s v') : v = v' := by
  rw [← pton6_iff_rfc4291] at h h'
  rw [h] at h'; exact Option.some.inj h'

theorem rfc4291_reject (s : List Char) (h : pton6 s = none) : ¬ ∃ v, Rfc4291 s v := by
  rintro ⟨v, hv⟩
  rw [← pton6_iff_rfc4291, h] at hv
  cases hv

theorem group_isHexC (t : List Char) (h : IsGroup t) : ∀ c ∈ t, isHexC c = true :=
  fun c hc => (isHexC_iff c).mpr (h.2.2 c hc)

theorem rfc4291_shape (s : List Char) (v : Nat) (h : Rfc4291 s v) :
    ∃ pre r, s = pre ++ ':' :: r ∧ ∀ c ∈ pre, isHexC c = true := by
  rcases h with ⟨G, q, qw, hG, hq, rfl, hlen, _⟩ | ⟨A, B, q, qw, hA, _, _, rfl, _, _⟩
  · cases G with
    | nil =>
      exfalso
      have := tail_le q qw hq
      simp only [List.length_nil] at hlen
      omega
    | cons g G' =>
      have hne : G' ++ q ≠ [] := by
        intro e
        have e' := congrArg List.length e
        simp only [List.length_append, List.length_nil, List.length_cons] at e' hlen
        have := tail_le q qw hq
        omega
      exact ⟨g, joinColon (G' ++ q), by rw [List.cons_append, joinColon_cons_ne g _ hne],
        group_isHexC g (hG g (by simp))⟩
  · cases A with
    | nil => exact ⟨[], _, rfl, by simp⟩
    | cons a A' =>
      refine ⟨a, ?_, ?_, group_isHexC a (hA a (by simp))⟩
      · exact (match A' with | [] => [] | _ :: _ => joinColon A' ++ [':']) ++ ':' :: joinColon (B ++ q)
      · cases A' with
        | nil => simp [joinColon]
        | cons a' A'' => rw [joinColon_cons_ne a _ (by simp)]; simp

end NV.C01G

namespace NV.C01L
open NV NV.Text4 NV.Text6

/-! necessary conditions, stated without the grammar -/

def GoodPiece (t : List Char) : Prop :=
  t = [] ∨ (1 ≤ t.length ∧ t.length ≤ 4 ∧ ∀ c ∈ t, isHexC c = true) ∨ (∃ v, v < 2 ^ 32 ∧ t = ntoa v)

theorem pton6_pieces (s : List Char) (v : Nat) (h : Text6.pton6 s = some v) :
    ∀ t ∈ s.splitOn ':', GoodPiece t := by
  rw [C01G.pton6_body, C01G.body_iff] at h
  exact C01G.tokForm_all (Or.inl rfl)
    (fun t ht => Or.inr (Or.inl ⟨ht.1, ht.2.1, C01G.group_isHexC t ht⟩))
    (fun t x hq => Or.inr (Or.inr ⟨x, (C01G.quad_iff_ntoa t x).mp hq⟩)) h

theorem pton6_charset (s : List Char) (v : Nat) (h : Text6.pton6 s = some v) :
    ∀ c ∈ s, isHexC c = true ∨ c = ':' ∨ c = '.' := by
  intro c hc
  by_cases hcol : c = ':'
  · exact Or.inr (Or.inl hcol)
  · obtain ⟨p, hp, hcp⟩ := mem_splitOn hc hcol
    rcases pton6_pieces s v h p hp with e | ⟨_, _, hall⟩ | ⟨x, hx, e⟩
    · subst e; simp at hcp
    · exact Or.inl (hall c hcp)
    · subst e
      rcases ntoa_chars x c hcp with e | hd
      · exact Or.inr (Or.inr e)
      · left
        simp only [isDec, Bool.and_eq_true, decide_eq_true_eq] at hd
        simp only [isHexC, Bool.or_eq_true, Bool.and_eq_true, decide_eq_true_eq]
        exact Or.inl (Or.inl hd)

end NV.C01L
