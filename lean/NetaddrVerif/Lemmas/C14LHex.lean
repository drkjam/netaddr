/-
Lemmas/C14LHex.lean — the exact string of `hex(a)`: `"0x"` followed by the lowercase
hexadecimal digits of the value, most significant first, no leading zeros, `"0x0"` for zero.
`Address.hexDigits` is that digit string written out independently of `Nat.toDigits`; here it is
proved equal to what the model's `hex` produces, its shape is characterised, and it is proved to
be the *only* lowercase numeral without leading zeros that reads back as the value.
-/
import NetaddrVerif.Lemmas.C14L
import NetaddrVerif.Lemmas.Digits
namespace NV.C14L.Hex
open NV NV.Address

/-- the alphabet of `'%x'` -/
def lowerHexChars : List Char :=
  ['0', '1', '2', '3', '4', '5', '6', '7', '8', '9', 'a', 'b', 'c', 'd', 'e', 'f']

/-- the table of the sixteen digits, evaluated once: digit `d` is what `Nat.toDigits` prints
    and stands at place `d` of the alphabet -/
theorem lowerHexDigit_table : ∀ d, d < 16 →
    lowerHexDigit d = Nat.digitChar d ∧ lowerHexChars[d]? = some (lowerHexDigit d) := by decide +kernel

theorem mem_lowerHexChars (c : Char) (hc : c ∈ lowerHexChars) : ∃ d, d < 16 ∧ c = Nat.digitChar d := by
  obtain ⟨d, hd, rfl⟩ := List.getElem_of_mem hc
  obtain ⟨e1, e2⟩ := lowerHexDigit_table d hd
  exact ⟨d, hd, Option.some.inj ((List.getElem?_eq_getElem hd).symm.trans (e1 ▸ e2))⟩

theorem digitChar_mem (d : Nat) (h : d < 16) : Nat.digitChar d ∈ lowerHexChars := by
  obtain ⟨e1, e2⟩ := lowerHexDigit_table d h
  exact List.mem_of_getElem? (e1 ▸ e2)

theorem hexDigits_lt (n : Nat) (h : n < 16) : hexDigits n = [lowerHexDigit n] := by
  rw [hexDigits, dif_pos h]

theorem hexDigits_ge (n : Nat) (h : 16 ≤ n) :
    hexDigits n = hexDigits (n / 16) ++ [lowerHexDigit (n % 16)] := by
  rw [hexDigits, dif_neg (by omega)]

/-- the specification string is what `Nat.toDigits 16` (the model's `'%x'`) produces -/
theorem hexDigits_eq_toDigits (n : Nat) : hexDigits n = Nat.toDigits 16 n := by
  induction n using Nat.strongRecOn with
  | ind n ih =>
    rw [Nat.toDigits_eq_if (by decide)]
    by_cases h : n < 16
    · rw [hexDigits_lt n h, if_pos h, (lowerHexDigit_table n h).1]
    · rw [hexDigits_ge n (by omega), if_neg h, ih (n / 16) (Nat.div_lt_self (by omega) (by decide)),
        (lowerHexDigit_table _ (Nat.mod_lt _ (by decide))).1]

theorem hexDigits_zero : hexDigits 0 = ['0'] := hexDigits_lt 0 (by decide)

theorem hexDigits_chars (n : Nat) : ∀ c ∈ hexDigits n, c ∈ lowerHexChars := by
  rw [hexDigits_eq_toDigits]
  exact toDigits_all (by decide) (· ∈ lowerHexChars) digitChar_mem n

/-- a lowercase numeral in canonical form: non-empty, only lowercase hex digits, no leading zero
    unless it is `"0"` -/
structure Canonical (s : List Char) : Prop where
  chars : ∀ c ∈ s, c ∈ lowerHexChars
  lead : s = ['0'] ∨ (s ≠ [] ∧ s.head? ≠ some '0')

theorem canonical_hexDigits (n : Nat) : Canonical (hexDigits n) := by
  refine ⟨hexDigits_chars n, ?_⟩
  by_cases hn : n = 0
  · left; rw [hn]; exact hexDigits_zero
  · right; rw [hexDigits_eq_toDigits]; exact ⟨Nat.toDigits_ne_nil, toDigits_head (by decide) n hn⟩

/-- the only canonical lowercase numeral that reads back as `n` is `hexDigits n`:
    a digit string without a leading zero is what `Nat.toDigits` prints for its value -/
theorem hexDigits_unique (s : List Char) (n : Nat) (hc : Canonical s) (hv : ofHex s = some n) :
    s = hexDigits n := by
  have hd := fun x hx => mem_lowerHexChars x (hc.chars x hx)
  match s, hc.lead with
  | [], h => exact absurd h (by simp)
  | c :: r, h =>
    have h0 : r = [] ∨ c ≠ '0' := by
      rcases h with h | ⟨_, h⟩
      · exact Or.inl (List.cons.inj h).2
      · exact Or.inr (fun e => h (e ▸ rfl))
    rw [ofHex_digits _ (List.cons_ne_nil _ _) hd] at hv
    rw [hexDigits_eq_toDigits, ← Option.some.inj hv]
    exact (toDigits_foldl_zero (by decide) _ (fun d hd => by rw [hexVal_digitChar d hd]; rfl) c r hd h0).symm

end NV.C14L.Hex
