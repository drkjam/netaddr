/-
Lemmas/Exc.lean — `Except ε`: where the outcome of a `bind` or a `map` came from (core has these for `Option` only).  They fit
computations written with `>>=` / `do` / `Except.map`; a model function that spells the same thing as
`match x with | .error e => .error e | .ok a => f a` is not `x >>= f` by `rfl` while `x` is a variable
(`cases x <;> rfl` is the bridge).  They take an outcome apart; to compute on through a `do` block once a component
is known, `simp only [h, bind, Except.bind]`.  Core Lean only.
-/
namespace NV.Exc
variable {ε α β : Type}

theorem bind_eq_ok {x : Except ε α} {f : α → Except ε β} {b : β} :
    (x >>= f) = .ok b ↔ ∃ a, x = .ok a ∧ f a = .ok b := by
  cases x <;> simp [bind, Except.bind]

theorem bind_eq_error {x : Except ε α} {f : α → Except ε β} {e : ε} :
    (x >>= f) = .error e ↔ x = .error e ∨ ∃ a, x = .ok a ∧ f a = .error e := by
  cases x <;> simp [bind, Except.bind]

theorem map_eq_ok {x : Except ε α} {f : α → β} {b : β} : x.map f = .ok b ↔ ∃ a, x = .ok a ∧ f a = b := by
  cases x <;> simp [Except.map]

theorem map_eq_error {x : Except ε α} {f : α → β} {e : ε} : x.map f = .error e ↔ x = .error e := by
  cases x <;> simp [Except.map]

theorem exists_map_eq_ok {x : Except ε α} {f : α → β} : (∃ b, x.map f = .ok b) ↔ ∃ a, x = .ok a := by
  cases x <;> simp [Except.map]

theorem map_bind {γ : Type} (x : Except ε α) (f : α → β) (g : β → Except ε γ) : (x.map f >>= g) = (x >>= fun a => g (f a)) := by
  cases x <;> rfl

theorem map_some_comm (g : α → β) (x : Except ε α) : (x.map some).map (Option.map g) = (x.map g).map some := by
  cases x <;> rfl

end NV.Exc
