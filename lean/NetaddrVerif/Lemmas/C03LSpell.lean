/-
Lemmas/C03LSpell.lean — the string branch of `parse_ip_network` / `IPNetwork.__init__` as a partial function.

`spell be ver t` is the pair (address value, prefix length) that the text `t` spells in family `ver`:
split at the first '/', no second '/', the address part read by `addrVal`, the prefix part by
`plenVal`.  The model is this function behind three wrappers, each dealt with by one equation:
`core_eq` (`parseStrCore`: NOHOST, every failure AddrFormatError), `parse_eq` (`parseIpNetwork`:
`cidr_abbrev_to_verbose` under implicit_prefix, the split) and `net_eq` (`ipNetwork`: the version
argument, IPv4 tried before IPv6).  What `IPNetwork(<str>)` does on a text of a given shape is then a
computation of `spell` (`spell_slash`, `spell_bare`, `spell_pre_slash`) handed to `net_ok` / `net_err`.
`spells_iff`, `addrVal_iff`, `plenVal_iff` tie the functions to the relations `Spells`, `AddrPart`,
`PrefixPart` in which the property files state acceptance.  `pre`, `Spells` and `stored` are the
vocabulary of property C03 (namespace `NV.C03`); they stand here because these equations are stated
with them.  Throughout the C03 files: `be` the back end, `ver` the family (4 or 6), `pver` the version
argument (None or a family), `i` implicit_prefix, `fl` the flags word.
-/
import NetaddrVerif.Lemmas.C03LAbbrev

namespace NV.C03
open NV NV.AddrParse NV.NetParse NV.C03L NV.C03L.Acc

/-- the text `parse_ip_network` splits: `cidr_abbrev_to_verbose(s)` under implicit_prefix, else `s` -/
def pre (i : Bool) (s : List Char) : List Char := if i then cidrAbbrevToVerbose s else s

/-- **`t` spells address value `a` with prefix `q` in family `ver`**: split at the first '/';
    no second '/'; the address part accepted with value `a`; the prefix part denotes `q ≤ width`. -/
def Spells (be : Backend) (ver : Nat) (t : List Char) (a q : Nat) : Prop :=
  secondSlash (splitSlash t).2 = false ∧ AddrPart be ver (splitSlash t).1 a ∧
    PrefixPart be ver (splitSlash t).2 (q : Int) ∧ q ≤ width ver

def stored (ver fl a q : Nat) : Nat := if hasFlag fl NOHOST then a &&& netNetmask (width ver) q else a

theorem stored_eq (ver fl a q : Nat) (ha : a < 2 ^ width ver) :
    stored ver fl a q = if hasFlag fl NOHOST then a / 2 ^ (width ver - q) * 2 ^ (width ver - q) else a := by
  unfold stored
  split
  · exact netFirst_eq (width ver) a q ha
  · rfl

theorem stored_full (ver fl a : Nat) (ha : a < 2 ^ width ver) : stored ver fl a (width ver) = a := by
  rw [stored_eq ver fl a _ ha]
  split <;> simp

theorem pre_false (s : List Char) : pre false s = s := rfl

end NV.C03

namespace NV.C03L
open NV NV.Text4 NV.AddrParse NV.NetParse NV.C01L NV.C03L.Acc NV.C03L.Abbrev NV.C03
open NV.C03A2 (padded)

/-- the prefix length a prefix part denotes, range check included -/
def plenVal (be : Backend) (ver : Nat) (val2 : Option (List Char)) : Option Nat :=
  match resolvePrefix be ver val2 with
  | .ok q => if 0 ≤ q ∧ q ≤ (width ver : Int) then some q.toNat else none
  | .error _ => none

/-- address value and prefix length that the text `t` spells in family `ver` -/
def spell (be : Backend) (ver : Nat) (t : List Char) : Option (Nat × Nat) :=
  if secondSlash (splitSlash t).2 then none else
  (addrVal be ver (splitSlash t).1).bind fun a => (plenVal be ver (splitSlash t).2).map fun q => (a, q)

/-- the network of family `ver` for a spelled pair: host bits cleared under NOHOST -/
def netOf (ver fl : Nat) (r : Option (Nat × Nat)) : Option Net := r.map fun r => ⟨ver, stored ver fl r.1 r.2, r.2⟩

/-- `parse_ip_network`'s result for a spelled pair; no spelling is AddrFormatError -/
def parseOut (ver fl : Nat) : Option (Nat × Nat) → R (Nat × Nat)
  | some (a, q) => .ok (stored ver fl a q, q)
  | none => .error .addrFormat

/-- a text that denotes nothing raises AddrFormatError -/
def netOut : Option Net → R Net
  | some n => .ok n
  | none => .error .addrFormat

theorem parseOut_eq_ok {ver fl : Nat} {r : Option (Nat × Nat)} {v p : Nat} :
    parseOut ver fl r = .ok (v, p) ↔ ∃ a, r = some (a, p) ∧ v = stored ver fl a p := by
  cases r with
  | none => exact ⟨nofun, fun ⟨_, h, _⟩ => nomatch h⟩
  | some r =>
    obtain ⟨a, q⟩ := r
    simp only [parseOut, Except.ok.injEq, Prod.mk.injEq, Option.some.injEq]
    exact ⟨fun ⟨h1, h2⟩ => ⟨a, ⟨rfl, h2⟩, h2 ▸ h1.symm⟩, fun ⟨a', ⟨h1, h2⟩, h3⟩ => ⟨h3 ▸ h1 ▸ h2 ▸ rfl, h2⟩⟩

theorem parseOut_eq_error {ver fl : Nat} {r : Option (Nat × Nat)} {e : Err} :
    parseOut ver fl r = .error e ↔ r = none ∧ e = .addrFormat := by
  cases r with
  | none => exact ⟨fun h => ⟨rfl, (Except.error.inj h).symm⟩, fun ⟨_, h⟩ => h ▸ rfl⟩
  | some r => exact ⟨nofun, fun ⟨h, _⟩ => nomatch h⟩

theorem netOut_eq_ok {d : Option Net} {n : Net} : netOut d = .ok n ↔ d = some n := by
  cases d with
  | none => exact ⟨nofun, nofun⟩
  | some m => exact ⟨fun h => congrArg some (Except.ok.inj h), fun h => congrArg Except.ok (Option.some.inj h)⟩

theorem netOut_eq_error {d : Option Net} {e : Err} : netOut d = .error e ↔ d = none ∧ e = .addrFormat := by
  cases d with
  | none => exact ⟨fun h => ⟨rfl, (Except.error.inj h).symm⟩, fun ⟨_, h⟩ => h ▸ rfl⟩
  | some n => exact ⟨nofun, fun ⟨h, _⟩ => nomatch h⟩

theorem liftNet_parseOut (ver fl : Nat) (r : Option (Nat × Nat)) : liftNet ver (parseOut ver fl r) = netOut (netOf ver fl r) := by
  cases r <;> rfl

/-- the network a text denotes under a version argument: IPv4 is tried first -/
def denote (be : Backend) (pver : Option Nat) (fl : Nat) (t : List Char) : Option Net :=
  match pver with
  | some ver => netOf ver fl (spell be ver t)
  | none => (netOf 4 fl (spell be 4 t)).or (netOf 6 fl (spell be 6 t))

theorem denote_some (be : Backend) (ver fl : Nat) (t : List Char) :
    denote be (some ver) fl t = netOf ver fl (spell be ver t) := rfl

theorem denote_none (be : Backend) (fl : Nat) (t : List Char) :
    denote be none fl t = (netOf 4 fl (spell be 4 t)).or (netOf 6 fl (spell be 6 t)) := rfl

/-- `hno` (no '/' in the prefix part) is needed for the error class only: with a '/' the strict reader
    raises ValueError -/
theorem core_eq (be : Backend) (ver : Nat) (hver : VerOK ver) (val1 : List Char) (val2 : Option (List Char)) (fl : Nat)
    (h1 : val1.contains '/' = false) (hno : ∀ t, val2 = some t → t.contains '/' = false) :
    parseStrCore be ver val1 val2 fl =
      parseOut ver fl ((addrVal be ver val1).bind fun a => (plenVal be ver val2).map fun q => (a, q)) := by
  rw [core_eval be ver hver val1 val2 fl h1]
  cases addrVal be ver val1 with
  | none => rfl
  | some a =>
    unfold plenVal
    cases hr : resolvePrefix be ver val2 with
    | error e => rw [resolvePrefix_err be ver hver val2 e hno hr]; rfl
    | ok q =>
      by_cases hq : 0 ≤ q ∧ q ≤ (width ver : Int)
      · simp only [if_pos hq]; rfl
      · simp only [if_neg hq]; rfl

theorem parse_eq (be : Backend) (ver : Nat) (hver : VerOK ver) (s : List Char) (i : Bool) (fl : Nat) :
    parseIpNetwork be ver (.str s) i fl = parseOut ver fl (spell be ver (pre i s)) := by
  have hfst := splitSlash_fst (pre i s)
  unfold spell
  show (if secondSlash (splitSlash (pre i s)).2 = true then .error .addrFormat
    else parseStrCore be ver (splitSlash (pre i s)).1 (splitSlash (pre i s)).2 fl) = _
  cases hss : secondSlash (splitSlash (pre i s)).2 with
  | true => rfl
  | false =>
    rw [if_neg Bool.false_ne_true, if_neg Bool.false_ne_true]
    refine core_eq be ver hver _ _ fl hfst fun t ht => ?_
    rw [ht] at hss; exact hss

theorem spell_excl (be : Backend) (t : List Char) (r : Nat × Nat) (h4 : spell be 4 t = some r) : spell be 6 t = none := by
  unfold spell at h4 ⊢
  split
  · rfl
  · rw [if_neg ‹_›] at h4
    cases h6 : addrVal be 6 (splitSlash t).1 with
    | none => rfl
    | some a6 =>
      have hc := colon_of_strict6 be _ ⟨6, a6⟩ ((strict6_ok_iff be _ (splitSlash_fst t) a6).mpr h6)
      rw [addrVal4_colon be hc] at h4; cases h4

/-- **`IPNetwork(<str>)`, completely**: the constructor builds what the text (after
    `cidr_abbrev_to_verbose` under implicit_prefix) denotes, and raises AddrFormatError when it
    denotes nothing. -/
theorem net_eq (be : Backend) (s : List Char) (i : Bool) (pver : Option Nat) (fl : Nat)
    (hpver : pver = none ∨ pver = some 4 ∨ pver = some 6) :
    ipNetwork be (.str s) i pver fl = netOut (denote be pver fl (pre i s)) := by
  rcases pver_cases pver hpver with rfl | ⟨ver, hver, rfl⟩
  · rw [ipNetwork_none be _ (Or.inl ⟨s, rfl⟩)]
    rw [parse_eq be 4 (Or.inl rfl), parse_eq be 6 (Or.inr rfl), liftNet_parseOut]
    unfold denote
    cases spell be 4 (pre i s) <;> rfl
  · rw [ipNetwork_some be _ (Or.inl ⟨s, rfl⟩) i ver hver fl, parse_eq be ver hver, liftNet_parseOut]
    rfl

/-! ## computing `spell` -/

theorem spell_slash (be : Backend) (ver : Nat) (A T : List Char) (hA : A.contains '/' = false) :
    spell be ver (A ++ '/' :: T) =
      if T.contains '/' then none else (addrVal be ver A).bind fun a => (plenVal be ver (some T)).map fun q => (a, q) := by
  unfold spell; rw [splitSlash_app A T hA]; rfl

theorem plenVal_none (be : Backend) (ver : Nat) : plenVal be ver none = some (width ver) :=
  if_pos ⟨Int.natCast_nonneg _, Int.le_refl _⟩

theorem spell_bare (be : Backend) (ver : Nat) (A : List Char) (hA : A.contains '/' = false) :
    spell be ver A = (addrVal be ver A).map fun a => (a, width ver) := by
  unfold spell; rw [splitSlash_none A hA, plenVal_none]
  cases addrVal be ver A <;> rfl

theorem plenVal_ok (be : Backend) (ver : Nat) (val2 : Option (List Char)) (q : Nat)
    (h : resolvePrefix be ver val2 = .ok (q : Int)) (hq : q ≤ width ver) : plenVal be ver val2 = some q := by
  unfold plenVal; rw [h]
  exact (if_pos ⟨Int.natCast_nonneg _, Int.ofNat_le.2 hq⟩).trans (congrArg some (Int.toNat_natCast q))

theorem plenVal_int (be : Backend) (ver : Nat) (T : List Char) (q : Int) (hq : Py.pyInt 10 T = some q) :
    plenVal be ver (some T) = if 0 ≤ q ∧ q ≤ (width ver : Int) then some q.toNat else none := by
  unfold plenVal; rw [resolve_int be ver T q hq]

theorem plenVal_out_of_range (be : Backend) (ver : Nat) (T : List Char) (q : Int) (hq : Py.pyInt 10 T = some q)
    (h : ¬ (0 ≤ q ∧ q ≤ (width ver : Int))) : plenVal be ver (some T) = none := by
  rw [plenVal_int be ver T q hq, if_neg h]

theorem plenVal_iff (be : Backend) (ver : Nat) (hver : VerOK ver) (val2 : Option (List Char)) (q : Nat) :
    plenVal be ver val2 = some q ↔ PrefixPart be ver val2 (q : Int) ∧ q ≤ width ver := by
  rw [← resolvePrefix_iff be ver hver]
  constructor
  · intro h
    unfold plenVal at h
    split at h
    · split at h
      · cases h
        rename_i q' hr hq
        rw [hr, Int.toNat_of_nonneg hq.1]
        exact ⟨rfl, by omega⟩
      · cases h
    · cases h
  · exact fun ⟨h, hq⟩ => plenVal_ok be ver val2 q h hq

theorem spells_iff (be : Backend) (ver : Nat) (hver : VerOK ver) (t : List Char) (a q : Nat) :
    spell be ver t = some (a, q) ↔ Spells be ver t a q := by
  unfold spell Spells
  rw [← addrVal_iff be ver hver _ (splitSlash_fst t), ← plenVal_iff be ver hver]
  cases secondSlash (splitSlash t).2 <;> cases addrVal be ver (splitSlash t).1 <;>
    cases plenVal be ver (splitSlash t).2 <;> simp

theorem addrVal_print (be : Backend) (ver : Nat) (hver : VerOK ver) (v : Nat) (hv : v < 2 ^ width ver) :
    addrVal be ver (intToStr be ver v) = some v :=
  (addrVal_iff be ver hver _ (addr_noslash be ver hver v hv) v).mpr (Or.inl (ipAddress_print be ver hver v hv))

/-- an explicit prefix part wins: `cidr_abbrev_to_verbose` at most pads the address part of a text
    with '/', and padding does not change what it denotes -/
theorem spell_pre_slash (be : Backend) (ver : Nat) (hver : VerOK ver) (s : List Char) (hs : s.contains '/' = true) (i : Bool) :
    spell be ver (pre i s) = spell be ver s := by
  cases i with
  | false => rfl
  | true =>
    show spell be ver (cidrAbbrevToVerbose s) = _
    by_cases hc : ':' ∈ s
    · rw [abbrev_colon s hc]
    · obtain ⟨A, T, rfl, hA⟩ := first_slash s hs
      rw [abbrev_of_slash A T hA hc]
      split
      · split
        · rename_i h
          rw [spell_slash be ver _ T (padded_noslash A hA), spell_slash be ver A T hA,
            addrVal_pad be ver hver A (fun hm => hc (List.mem_append_left _ hm)) h.2]
        · rfl
      · rfl

/-! ## from what a text spells to what the constructor does -/

theorem net_ok (be : Backend) (ver : Nat) (hver : VerOK ver) (pver : Option Nat) (hpver : pver = none ∨ pver = some ver)
    (s : List Char) (i : Bool) (fl a q : Nat) (h : spell be ver (pre i s) = some (a, q)) :
    ipNetwork be (.str s) i pver fl = .ok ⟨ver, stored ver fl a q, q⟩ := by
  rw [net_eq be s i pver fl (pver_of ver hver pver hpver)]
  rcases hpver with rfl | rfl
  · rw [denote_none]
    rcases hver with rfl | rfl
    · rw [h]; rfl
    · -- IPv4 is tried first, and refuses what IPv6 spells
      cases h4 : spell be 4 (pre i s) with
      | none => rw [h]; rfl
      | some r => rw [spell_excl be _ r h4] at h; cases h
  · rw [denote_some, h]; rfl

theorem net_err (be : Backend) (pver : Option Nat) (hpver : pver = none ∨ pver = some 4 ∨ pver = some 6)
    (s : List Char) (i : Bool) (fl : Nat) (h : ∀ ver, VerOK ver → pver = none ∨ pver = some ver → spell be ver (pre i s) = none) :
    ipNetwork be (.str s) i pver fl = .error .addrFormat := by
  rw [net_eq be s i pver fl hpver]
  rcases pver_cases pver hpver with rfl | ⟨ver, hver, rfl⟩
  · rw [denote_none, h 4 (Or.inl rfl) (Or.inl rfl), h 6 (Or.inr rfl) (Or.inl rfl)]; rfl
  · rw [denote_some, h ver hver (Or.inr rfl)]; rfl

/-! ### a text `A/T`, implicit_prefix or not -/

theorem net_slash_ok (be : Backend) (ver : Nat) (hver : VerOK ver) (pver : Option Nat) (hpver : pver = none ∨ pver = some ver)
    (A T : List Char) (hA : A.contains '/' = false) (hT : T.contains '/' = false) (i : Bool) (fl a q : Nat)
    (ha : addrVal be ver A = some a) (hq : plenVal be ver (some T) = some q) :
    ipNetwork be (.str (A ++ '/' :: T)) i pver fl = .ok ⟨ver, stored ver fl a q, q⟩ := by
  apply net_ok be ver hver pver hpver
  rw [spell_pre_slash be ver hver _ (by simp) i, spell_slash be ver A T hA, hT, ha, hq]
  rfl

/-- `A/T` is refused when every admitted family refuses one of the two parts -/
theorem net_slash_err (be : Backend) (pver : Option Nat) (hpver : pver = none ∨ pver = some 4 ∨ pver = some 6)
    (A T : List Char) (hA : A.contains '/' = false) (i : Bool) (fl : Nat)
    (h : ∀ ver, VerOK ver → pver = none ∨ pver = some ver → addrVal be ver A = none ∨ plenVal be ver (some T) = none) :
    ipNetwork be (.str (A ++ '/' :: T)) i pver fl = .error .addrFormat := by
  apply net_err be pver hpver
  intro ver hver hp
  rw [spell_pre_slash be ver hver _ (by simp) i, spell_slash be ver A T hA]
  split
  · rfl
  · rcases h ver hver hp with e | e <;> rw [e]
    · rfl
    · cases addrVal be ver A <;> rfl

theorem plenVal_none_of (be : Backend) (ver : Nat) (hver : VerOK ver) (val2 : Option (List Char))
    (h : ∀ q : Nat, ¬ PrefixPart be ver val2 (q : Int)) : plenVal be ver val2 = none := by
  cases hp : plenVal be ver val2 with
  | none => rfl
  | some q => exact absurd ((plenVal_iff be ver hver val2 q).mp hp).1 (h q)

theorem plenVal_refused (be : Backend) (ver : Nat) (hver : VerOK ver) (T : List Char) (hpi : Py.pyInt 10 T = none)
    (hst : ∀ m, ipAddress be T (some ver) INET_PTON ≠ .ok ⟨ver, m⟩) : plenVal be ver (some T) = none :=
  plenVal_none_of be ver hver _ fun q hpp => by
    rcases hpp with h | ⟨m, _, hip, _⟩
    · rw [hpi] at h; cases h
    · exact hst m hip

/-- a text `A` or `A/T` whose address part the family refuses -/
theorem parse_addr_refused (be : Backend) (ver : Nat) (hver : VerOK ver) (A : List Char) (hA : A.contains '/' = false)
    (h : addrVal be ver A = none) (rest : Option (List Char)) (hrest : ∀ t, rest = some t → t.contains '/' = false) (fl : Nat) :
    parseIpNetwork be ver (.str (A ++ (match rest with | none => [] | some t => '/' :: t))) false fl = .error .addrFormat := by
  rw [parse_eq be ver hver, pre_false]
  cases rest with
  | none => rw [List.append_nil, spell_bare be ver A hA, h]; rfl
  | some t =>
    show parseOut ver fl (spell be ver (A ++ '/' :: t)) = _
    rw [spell_slash be ver A t hA, h, hrest t rfl]; rfl

theorem parse4_v6text (be : Backend) (v : Nat) (hv : v < 2 ^ 128) (rest : Option (List Char))
    (hrest : ∀ t, rest = some t → t.contains '/' = false) (fl : Nat) :
    parseIpNetwork be 4 (.str (intToStr be 6 v ++ (match rest with | none => [] | some t => '/' :: t))) false fl
      = .error .addrFormat :=
  parse_addr_refused be 4 (Or.inl rfl) _ (addr_noslash be 6 (Or.inr rfl) v hv) (addrVal4_colon be (addr6_colon be v hv))
    rest hrest fl

end NV.C03L
