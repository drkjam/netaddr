/-
Props/C12.lean — property C12 "Equality, hashing, ordering and pickling of IP objects are
coherent".  The property theorems; the spec vocabulary (`Obj.first/last/isBlock/isAN`) is in
Lemmas/C12L.lean, the order theory of tuple comparison in Lemmas/TupleOrder.lean.

Statement (properties.jsonl): two IPAddress objects are equal iff they have the same version and
value; two block objects (IPNetwork, IPRange, IPGlob, in any combination) are equal iff they
have the same version, first and last address; an address never equals a block; equal objects
have equal hashes.  sorted() over addresses and networks is a consistent total preorder that
puts IPv4 before IPv6, lower first address first, and an enclosing network before the networks
it encloses, independent of input order; ranges order by version then start.  pickle, copy and
deepcopy of any IP object, IPSet or EUI give an object with the same str(), that compares equal
and hashes equal.

The theorems are about `NV.Cmp.*` (Model/ComparePickle.lean, with `key`/`sortKey`/`tupleCmp`
from the shared Model/Compare.lean).  The comparison half (`eq` … `sortObjs`) is what the driver executes.
Of the pickling half the driver executes the `…V` functions (Props/C12Pickle.lean); `roundtripAddr` …
`roundtripEui`, `reconstruct` and `roundtrip_observations` below pass the truth value of the state as a
constant and are not run — their `setstate*` functions are what the `…V` versions call after unpacking,
which is how `state_roundtrip_*_v` rest on the `setstate_getstate_*` lemmas of Lemmas/C12L, as the theorems here do.  IPGlob is an IPRange
for the comparison half.  The pickling part is at value level: what is proved is that the state written by
`__getstate__` rebuilds, through `__setstate__` and the modelled reduce rule, the identical
value-level object under copy, deepcopy and every pickle protocol; that `str()`, `==` and
`hash()` of the rebuilt object agree then follows because they are functions of that value
(`roundtrip_observations`).  CPython's pickle/copy machinery itself is modelled runtime.

Some of the model functions have a twin translated from netaddr's source text (Gen/Trans.lean); Props/Tie*.lean
prove the two equal (DESIGN.md 4.5; the `tie_theorems` of obligations/C12.json).
-/
import NetaddrVerif.Lemmas.C12L
import NetaddrVerif.Lemmas.MapM
namespace NV.C12
open NV NV.Cmp

theorem eq_iff_addr (a b : Addr) : eq (.addr a) (.addr b) = true ↔ (a.ver = b.ver ∧ a.val = b.val) := by
  simp only [eq, Obj.key, Addr.key, beq_iff_eq, List.cons.injEq, and_true]
  constructor
  · rintro ⟨h1, h2⟩; constructor <;> omega
  · rintro ⟨h1, h2⟩; rw [h1, h2]; exact ⟨rfl, rfl⟩

/-- two block objects — IPNetwork, IPRange, IPGlob in any combination — are equal iff same
    version, same first and same last address -/
theorem eq_iff_block (x y : Obj) (hx : x.isBlock = true) (hy : y.isBlock = true) :
    eq x y = true ↔ (x.ver = y.ver ∧ x.first = y.first ∧ x.last = y.last) := by
  have key : ∀ z : Obj, z.isBlock = true → z.key = [(z.ver : Int), (z.first : Int), (z.last : Int)] := by
    intro z hz; cases z with
    | addr a => simp [Obj.isBlock] at hz
    | net n => rfl
    | rng r => rfl
  simp only [eq, beq_iff_eq, key x hx, key y hy, List.cons.injEq, and_true]
  constructor
  · rintro ⟨h1, h2, h3⟩; refine ⟨by omega, by omega, by omega⟩
  · rintro ⟨h1, h2, h3⟩; rw [h1, h2, h3]; exact ⟨rfl, rfl, rfl⟩

/-- an address never equals a block, in either operand order; `!=` answers True -/
theorem addr_ne_block (a : Addr) (y : Obj) (hy : y.isBlock = true) :
    eq (.addr a) y = false ∧ eq y (.addr a) = false ∧ ne (.addr a) y = true ∧ ne y (.addr a) = true := by
  cases y with
  | addr b => simp [Obj.isBlock] at hy
  | net n => simp [eq, ne, Obj.key, Addr.key, Net.key]
  | rng r => simp [eq, ne, Obj.key, Addr.key, Rng.key]

theorem eq_equivalence (x y z : Obj) :
    ne x y = !eq x y ∧ eq x x = true ∧ eq x y = eq y x ∧ (eq x y = true → eq y z = true → eq x z = true) := by
  refine ⟨by simp [ne, eq, bne], by simp [eq], ?_, ?_⟩
  · simp only [eq]; exact Bool.eq_iff_iff.2 ⟨fun h => by simp_all, fun h => by simp_all⟩
  · simp only [eq, beq_iff_eq]; intro h1 h2; rw [h1, h2]

/-- equal objects have equal hashes, whatever function of the key tuple `hash` is — also across
    types (IPRange vs IPNetwork vs IPGlob) -/
theorem hash_agrees (h : List Int → Int) (x y : Obj) (e : eq x y = true) : hashOf h x = hashOf h y := by
  simp only [eq, beq_iff_eq] at e
  simp [hashOf, e]

example : eq (.net ⟨4, 0x01020305, 24⟩) (.rng ⟨4, 0x01020300, 0x010203ff⟩) = true := by decide
example : eq (.addr ⟨4, 0x01020304⟩) (.net ⟨4, 0x01020304, 32⟩) = false := by decide
example : eq (.addr ⟨4, 5⟩) (.addr ⟨6, 5⟩) = false := by decide

/-- the six operators are one consistent total preorder: `<=` is reflexive, transitive and total;
    `<` is its strict part; `>`/`>=` are the converses — on ALL objects (addresses, networks,
    ranges, globs of both families, mixed) -/
theorem order_total_preorder (x y z : Obj) :
    le x x = true ∧
    (le x y = true → le y z = true → le x z = true) ∧
    (le x y = true ∨ le y x = true) ∧
    lt x y = (le x y && !le y x) ∧ lt x y = !le y x ∧
    gt x y = lt y x ∧ ge x y = le y x := by
  unfold le lt gt ge
  rw [tupleCmp_swap x.sortKey y.sortKey, tupleCmp_refl]
  refine ⟨rfl, ?_, ?_, ?_⟩
  · simp only [bne_iff_ne]; exact tupleCmp_trans _ _ _
  · cases tupleCmp x.sortKey y.sortKey <;> decide
  · cases tupleCmp x.sortKey y.sortKey <;> decide

/-- on addresses and networks the preorder is antisymmetric up to identical objects: objects
    that tie are the same object (same version, value and prefix length) -/
theorem order_antisymm_AN (x y : Obj) (hx : x.isAN = true) (hy : y.isAN = true)
    (h1 : le x y = true) (h2 : le y x = true) : x = y := by
  simp only [le, bne_iff_ne] at h1 h2
  exact sortKey_inj_AN x y hx hy (tupleCmp_antisymm _ _ h1 h2)

/-- IPv4 sorts before IPv6 (a lower version sorts first), for all kinds of objects -/
theorem v4_before_v6 (x y : Obj) (h : x.ver < y.ver) : lt x y = true := by
  obtain ⟨t, ht⟩ := sortKey_head x
  obtain ⟨u, hu⟩ := sortKey_head y
  simp only [lt, ht, hu, beq_iff_eq]
  exact tupleCmp_head_lt _ _ _ _ (by omega)

/-- within a family the lower first address sorts first — for addresses, networks (first address
    of the block, whatever the host bits), ranges and globs alike -/
theorem lower_first_first (x y : Obj) (hv : x.ver = y.ver) (h : x.first < y.first) : lt x y = true := by
  obtain ⟨t, ht⟩ := sortKey_head x
  obtain ⟨u, hu⟩ := sortKey_head y
  simp only [lt, ht, hu, hv, beq_iff_eq, tupleCmp_head_eq]
  exact tupleCmp_head_lt _ _ _ _ (by omega)

theorem range_order (r s : Rng) :
    (r.ver < s.ver → lt (.rng r) (.rng s) = true) ∧
    (r.ver = s.ver → r.lo < s.lo → lt (.rng r) (.rng s) = true) :=
  ⟨fun h => v4_before_v6 (.rng r) (.rng s) h, fun hv h => lower_first_first (.rng r) (.rng s) hv h⟩

/-- an enclosing network sorts before every different network it encloses: `n ⊇ m` as address
    sets (interval inclusion), not the same block ⟹ `n < m` -/
theorem encloser_first (n m : Net) (hn : n.WF) (hm : m.WF) (hv : n.ver = m.ver)
    (h1 : n.first ≤ m.first) (h2 : m.last ≤ n.last) (hne : ¬ (n.first = m.first ∧ n.last = m.last)) :
    lt (.net n) (.net m) = true := by
  by_cases hf : n.first < m.first
  · exact lower_first_first (.net n) (.net m) hv hf
  · have hfe : n.first = m.first := by omega
    -- same first address: the bigger block has the shorter prefix
    have hl : m.last < n.last := by omega
    have hnL : n.last = n.first + (2 ^ (width n.ver - n.plen) - 1) := netLast_eq_add _ _ _ hn.2.1
    have hmL : m.last = m.first + (2 ^ (width m.ver - m.plen) - 1) := netLast_eq_add _ _ _ hm.2.1
    have hp1 := Nat.two_pow_pos (width n.ver - n.plen)
    have hp2 := Nat.two_pow_pos (width m.ver - m.plen)
    have hpow : 2 ^ (width m.ver - m.plen) < 2 ^ (width n.ver - n.plen) := by omega
    have hexp : width m.ver - m.plen < width n.ver - n.plen := (Nat.pow_lt_pow_iff_right (by decide)).1 hpow
    have hplen : n.plen < m.plen := by have := hn.2.2; have := hm.2.2; rw [hv] at *; omega
    simp only [lt, Obj.sortKey, Net.sortKey, hv, hfe, tupleCmp_head_eq, beq_iff_eq]
    exact tupleCmp_head_lt _ _ _ _ (by omega)

/-- a network with at least two addresses sorts before every address it contains -/
theorem encloser_before_address (n : Net) (a : Addr) (hv : n.ver = a.ver)
    (h1 : n.first ≤ a.val) (hp : n.plen < width n.ver) : lt (.net n) (.addr a) = true := by
  by_cases hf : n.first < a.val
  · exact lower_first_first (.net n) (.addr a) hv hf
  · have hfe : n.first = a.val := by omega
    simp only [lt, Obj.sortKey, Net.sortKey, Addr.sortKey, hv, hfe, tupleCmp_head_eq, beq_iff_eq]
    exact tupleCmp_head_lt _ _ _ _ (by rw [← hv]; omega)

example : lt (.net ⟨4, 0x01020000, 16⟩) (.net ⟨4, 0x01020305, 24⟩) = true := by decide
/-- the hypotheses of `encloser_first` on a concrete pair with the same first address -/
example : lt (.net ⟨4, 0x01020007, 16⟩) (.net ⟨4, 0x01020005, 24⟩) = true :=
  encloser_first _ _ ⟨Or.inl rfl, by decide, by decide⟩ ⟨Or.inl rfl, by decide, by decide⟩ rfl
    (by decide) (by decide) (by decide)
example : lt (.net ⟨4, 0x01020300, 24⟩) (.addr ⟨4, 0x01020300⟩) = true := by decide
example : lt (.addr ⟨4, 0xffffffff⟩) (.net ⟨6, 0, 0⟩) = true := by decide

theorem sorted_sorted (l : List Obj) :
    (sortObjs l).Perm l ∧ (sortObjs l).Pairwise (fun a b => le a b = true) := by
  refine ⟨List.mergeSort_perm _ _, ?_⟩
  have : sortObjs l = l.mergeSort (fun a b => le a b) :=
    congrArg (l.mergeSort ·) (funext fun (a : Obj) => funext fun (b : Obj) =>
      (congrArg not (tupleLt_eq b.sortKey a.sortKey)).trans (Bool.not_not _))
  rw [this]
  exact List.pairwise_mergeSort (le := fun a b => le a b) (fun a b c => tupleLe_trans a.sortKey b.sortKey c.sortKey)
    (fun a b => tupleLe_total a.sortKey b.sortKey) l

/-- `sorted()` over addresses and networks does not depend on the input order: any two
    permutations of the same list sort to the same list -/
theorem sorted_perm_invariant (l₁ l₂ : List Obj) (hAN : ∀ x ∈ l₁, x.isAN = true) (hp : l₁.Perm l₂) :
    sortObjs l₁ = sortObjs l₂ := by
  obtain ⟨p1, s1⟩ := sorted_sorted l₁
  obtain ⟨p2, s2⟩ := sorted_sorted l₂
  apply List.Perm.eq_of_pairwise (le := fun a b => le a b = true) _ s1 s2 (p1.trans (hp.trans p2.symm))
  intro a b ha hb hab hba
  have ha' : a ∈ l₁ := p1.subset ha
  have hb' : b ∈ l₁ := hp.symm.subset (p2.subset hb)
  exact order_antisymm_AN a b (hAN a ha') (hAN b hb') hab hba

example : sortObjs [.net ⟨4, 5, 24⟩, .addr ⟨4, 0⟩, .net ⟨4, 0, 8⟩, .addr ⟨6, 0⟩] =
    [.net ⟨4, 0, 8⟩, .net ⟨4, 5, 24⟩, .addr ⟨4, 0⟩, .addr ⟨6, 0⟩] := by
  rw [sorted_perm_invariant _ [.net ⟨4, 0, 8⟩, .net ⟨4, 5, 24⟩, .addr ⟨4, 0⟩, .addr ⟨6, 0⟩] (by decide) (by decide)]
  exact List.mergeSort_of_pairwise (by decide)

/-- why the statement is about addresses and networks: two different ranges can tie in the sort
    order (`sort_key` only keeps the bit length of the size), and then `sorted()` — a stable
    sort — keeps their input order -/
theorem sorted_ranges_can_tie :
    le (.rng ⟨4, 0, 4⟩) (.rng ⟨4, 0, 5⟩) = true ∧ le (.rng ⟨4, 0, 5⟩) (.rng ⟨4, 0, 4⟩) = true ∧
    sortObjs [.rng ⟨4, 0, 4⟩, .rng ⟨4, 0, 5⟩] ≠ sortObjs [.rng ⟨4, 0, 5⟩, .rng ⟨4, 0, 4⟩] := by
  refine ⟨by decide, by decide, ?_⟩
  have h1 : sortObjs [.rng ⟨4, 0, 4⟩, .rng ⟨4, 0, 5⟩] = [.rng ⟨4, 0, 4⟩, .rng ⟨4, 0, 5⟩] :=
    List.mergeSort_of_pairwise (by decide)
  have h2 : sortObjs [.rng ⟨4, 0, 5⟩, .rng ⟨4, 0, 4⟩] = [.rng ⟨4, 0, 5⟩, .rng ⟨4, 0, 4⟩] :=
    List.mergeSort_of_pairwise (by decide)
  rw [h1, h2]; decide

/-- IPAddress: under copy, deepcopy and every pickle protocol the rebuilt object is the same
    (version, value) -/
theorem state_roundtrip_addr (how : How) (a : Addr) (h : a.WF) : roundtripAddr how a = .ok a :=
  (reconstruct_truthy how _ _).trans (setstate_getstate_addr a h)

/-- IPNetwork: same (version, value incl. host bits, prefix length) -/
theorem state_roundtrip_net (how : How) (n : Net) (h : n.WF) : roundtripNet how n = .ok n :=
  (reconstruct_truthy how _ _).trans (setstate_getstate_net n h)

/-- IPRange / IPGlob: same (version, start, end) -/
theorem state_roundtrip_rng (how : How) (r : Rng) (hv : r.ver = 4 ∨ r.ver = 6)
    (hlo : r.lo ≤ maxInt r.ver) (hhi : r.hi ≤ maxInt r.ver) : roundtripRng how r = .ok r :=
  (reconstruct_truthy how _ _).trans (setstate_getstate_rng r hv hlo hhi)

/-- EUI: same (version, value, dialect class) -/
theorem state_roundtrip_eui (how : How) (e : Eui) (hv : e.ver = 48 ∨ e.ver = 64) : roundtripEui how e = .ok e :=
  (reconstruct_truthy how _ _).trans (setstate_getstate_eui e hv)

/-- IPSet: the member networks (the keys of `_cidrs`, pairwise different blocks) are rebuilt one
    for one, in the same order — for the EMPTY set too, under every protocol (the empty state
    tuple is falsy; `__reduce__` makes the constructor run) -/
theorem state_roundtrip_set (how : How) (s : List Net) (hwf : ∀ n ∈ s, n.WF)
    (hd : s.Pairwise (fun a b => a.key ≠ b.key)) : roundtripSet how s = .ok s := by
  unfold roundtripSet setstateSet getstateSet
  have : (s.map getstateNet).mapM mkNetTuple = .ok s :=
    (List.mapM_map.trans (mapM_eq_pure_map (mkNetTuple ∘ getstateNet) id s fun n hn => mkNetTuple_getstate n (hwf n hn))).trans
      (congrArg Except.ok s.map_id)
  rw [this]
  simp only [bind, Except.bind, pure, Except.pure]
  rw [fromKeys_distinct s hd]

/-- the default reduce rule would lose a falsy state under protocols 0 and 1 (which is what
    `IPSet.__reduce__` is there for); a truthy state is always passed -/
theorem falsy_state_rule (p : Nat) :
    (passesState (.pickle p) false = true ↔ 2 ≤ p) ∧ passesState (.pickle p) true = true ∧
    passesState .copy false = true ∧ passesState .deepcopy false = true := by
  refine ⟨?_, ?_, rfl, rfl⟩
  · simp only [passesState]; by_cases h : p < 2 <;> simp [h] <;> omega
  · simp only [passesState]; by_cases h : p < 2 <;> simp [h]

/-- whatever `str`, and whatever `hash` of the key, are as functions of the value-level object:
    the rebuilt object has the same `str()`, compares equal (and not unequal) and hashes equal -/
theorem roundtrip_observations (how : How) (x : Obj) (str : Obj → String) (h : List Int → Int)
    (hx : match x with
      | .addr a => a.WF
      | .net n => n.WF
      | .rng r => (r.ver = 4 ∨ r.ver = 6) ∧ r.lo ≤ maxInt r.ver ∧ r.hi ≤ maxInt r.ver) :
    ∃ y, (match x with
      | .addr a => (roundtripAddr how a).map Obj.addr
      | .net n => (roundtripNet how n).map Obj.net
      | .rng r => (roundtripRng how r).map Obj.rng) = .ok y ∧
      str y = str x ∧ eq y x = true ∧ ne y x = false ∧ hashOf h y = hashOf h x := by
  refine ⟨x, ?_, rfl, by simp [eq], by simp [ne], rfl⟩
  cases x with
  | addr a => simp only; rw [state_roundtrip_addr how a hx]; rfl
  | net n => simp only; rw [state_roundtrip_net how n hx]; rfl
  | rng r => simp only; rw [state_roundtrip_rng how r hx.1 hx.2.1 hx.2.2]; rfl

example : roundtripSet (.pickle 0) [] = .ok [] := by decide
example : roundtripNet (.pickle 1) ⟨6, 5, 128⟩ = .ok ⟨6, 5, 128⟩ := by decide
example : roundtripRng .deepcopy ⟨4, 1, 2⟩ = .ok ⟨4, 1, 2⟩ := by decide
/-- the guards of `__setstate__` are real: a prefix length beyond the width is rejected -/
example : setstateNet (1, 33, 4) = .error .value := by decide

end NV.C12
