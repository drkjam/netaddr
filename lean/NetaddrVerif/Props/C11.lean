/-
Props/C11.lean — property C11 "Subnetting, supernetting and stepping follow CIDR arithmetic".
The property theorems; helper lemmas are in Lemmas/C11L, NetworkL, NetBlock.

Statement (properties.jsonl): for every network N=/p and target prefix q: subnet(q) yields, in
ascending order, exactly the 2^(q-p) aligned /q blocks that tile N (the first `count` of them when
count is given, ValueError when count is out of range, nothing when q<p); supernet(q) for q<=p
lists exactly the blocks /q../(p-1) that contain N, outermost first, each host-bit-free.
next(k)/previous(k) and N+=k / N-=k give the aligned block k block-sizes above/below N's network
address with the same prefix, raising IndexError instead of leaving the address space, and
iter_hosts() yields first+1..last-1 for IPv4 blocks of 4 or more addresses, every address of
IPv4 /31 and /32, and first+1..last for IPv6 (nothing for /128).

Notation: `w = width n.ver`, `S = 2^(w-p)` the block size, `F = n.val / S * S` the network
address, `T = 2^(w-q)` the size of a /q block.

Some of the model functions have a twin translated from netaddr's source text (Gen/Trans.lean); Props/Tie*.lean
prove the two equal (DESIGN.md 4.5; the `tie_theorems` of obligations/C11.json).
-/
import NetaddrVerif.Lemmas.C11L
namespace NV.C11
open NV NV.Subnet

/-! ### subnet -/

/-- the `i`-th /q block inside `n` -/
def sub (n : Net) (q i : Nat) : Net :=
  ⟨n.ver, n.val / 2 ^ (width n.ver - n.plen) * 2 ^ (width n.ver - n.plen) + 2 ^ (width n.ver - q) * i, q⟩

theorem sub_val_mono (n : Net) (q : Nat) {i j : Nat} (h : i ≤ j) : (sub n q i).val ≤ (sub n q j).val :=
  Nat.add_le_add_left (Nat.mul_le_mul_left _ h) _

theorem subnetItem_ok (n : Net) (hn : n.WF) (q : Nat) (hpq : n.plen ≤ q) (hq : q ≤ width n.ver)
    (i : Nat) (hi : i < 2 ^ (q - n.plen)) : subnetItem n q i = .ok (sub n q i) := by
  obtain ⟨_, hv, hp⟩ := hn
  unfold subnetItem
  dsimp only
  rw [if_neg (Nat.not_lt.mpr hq), netSize_eq _ _ q (netFirst_lt _ _ _ hv), netFirst_eq _ _ _ hv,
    if_pos (show _ ≤ maxInt n.ver from Nat.le_sub_one_of_lt (grid_block_lt _ _ _ q i hv hp hpq hq hi))]
  rfl

theorem loop_all (n : Net) (hn : n.WF) (q : Nat) (hpq : n.plen ≤ q) (hq : q ≤ width n.ver)
    (c : Nat) (hc : c ≤ 2 ^ (q - n.plen)) :
    subnetLoop n q c 0 [] = .ok ((List.range c).map (sub n q)) := by
  rw [subnetLoop_eq n q c (sub n q) (fun i hi => subnetItem_ok n hn q hpq hq i (Nat.lt_of_lt_of_le hi hc)),
    List.nil_append, Nat.sub_zero, List.range_eq_range']

/-- subnet, closed form (as the driver runs it: the generator read through `islice(limit)`).
    * `q < p` (including negative `q`): nothing;
    * `p ≤ q ≤ width`: `ValueError` iff the count (default: all `2^(q-p)`) is outside `1 .. 2^(q-p)`;
      otherwise blocks number `0 .. count-1` of the `/q` grid starting at N's network address,
      in ascending order.
    The `ValueError` clause carries `0 < limit`: `subnet` is a generator, its checks run at the
    first `next()`, and `islice(gen, 0)` never asks, so at `limit = 0` the answer is `.ok []`
    (`C11A2.subnetTake_zero`).  The other two clauses hold at `limit = 0` as they stand
    (`min count 0 = 0` blocks). -/
theorem subnetTake_spec (n : Net) (hn : n.WF) (q : Int) (count : Option Int) (limit : Nat) :
    (q < n.plen → subnetTake n q count limit = .ok []) ∧
    ((n.plen : Int) ≤ q → q ≤ (width n.ver : Nat) →
      (¬ (1 ≤ count.getD ((2 ^ (q.toNat - n.plen) : Nat) : Int) ∧
          count.getD ((2 ^ (q.toNat - n.plen) : Nat) : Int) ≤ ((2 ^ (q.toNat - n.plen) : Nat) : Int)) →
        0 < limit → subnetTake n q count limit = .error .value) ∧
      (1 ≤ count.getD ((2 ^ (q.toNat - n.plen) : Nat) : Int) ∧
          count.getD ((2 ^ (q.toNat - n.plen) : Nat) : Int) ≤ ((2 ^ (q.toNat - n.plen) : Nat) : Int) →
        subnetTake n q count limit =
          .ok ((List.range (min (count.getD ((2 ^ (q.toNat - n.plen) : Nat) : Int)).toNat limit)).map
            (sub n q.toNat)))) := by
  have hp := hn.2.2
  by_cases h0 : limit = 0
  · subst h0
    exact ⟨fun _ => rfl, fun _ _ => ⟨fun _ h => absurd h (Nat.lt_irrefl 0), fun _ => by rw [Nat.min_zero]; rfl⟩⟩
  unfold subnetTake
  rw [if_neg h0]
  refine ⟨fun hlt => by rw [subnetCount_eq n hp, if_pos hlt], fun h1 h2 => ?_⟩
  rw [subnetCount_grid n hp q count h1 h2]
  refine ⟨fun hbad _ => by rw [if_neg hbad], fun hok => ?_⟩
  rw [if_pos hok]
  exact loop_all n hn q.toNat ((Int.le_toNat (Int.le_trans (Int.natCast_nonneg _) h1)).mpr h1)
    (Int.toNat_le.mpr h2) _ (Nat.le_trans (Nat.min_le_left _ _) (Int.toNat_le.mpr hok.2))

/-- `subnet(q)` read to its end (`list(n.subnet(q, count))`): all `2^(q-p)` blocks when no
    count is given, the first `count` when `1 ≤ count ≤ 2^(q-p)`, `ValueError` for every other
    count (`q < p` is `subnet_shorter`) -/
theorem subnet_spec (n : Net) (hn : n.WF) (q : Nat) (hpq : n.plen ≤ q) (hq : q ≤ width n.ver) :
    subnet n q none = .ok ((List.range (2 ^ (q - n.plen))).map (sub n q)) ∧
    (∀ c : Int, 1 ≤ c → c ≤ ((2 ^ (q - n.plen) : Nat) : Int) →
      subnet n q (some c) = .ok ((List.range c.toNat).map (sub n q))) ∧
    (∀ c : Int, ¬ (1 ≤ c ∧ c ≤ ((2 ^ (q - n.plen) : Nat) : Int)) → subnet n q (some c) = .error .value) := by
  have hc : ∀ count, subnetCount n q count = _ :=
    fun count => subnetCount_grid n hn.2.2 q count (Int.ofNat_le.mpr hpq) (Int.ofNat_le.mpr hq)
  have hM : (1 : Int) ≤ ((2 ^ (q - n.plen) : Nat) : Int) := Int.ofNat_le.mpr (Nat.two_pow_pos (q - n.plen))
  unfold subnet
  simp only [hc, Int.toNat_natCast]
  refine ⟨?_, fun c h1 h2 => ?_, fun c hbad => ?_⟩
  · rw [Option.getD_none, if_pos ⟨hM, Int.le_refl _⟩, Int.toNat_natCast]
    exact loop_all n hn q hpq hq _ (Nat.le_refl _)
  · rw [Option.getD_some, if_pos ⟨h1, h2⟩]
    exact loop_all n hn q hpq hq _ (Int.toNat_le.mpr h2)
  · rw [Option.getD_some, if_neg hbad]

theorem subnet_shorter (n : Net) (hn : n.WF) (q : Int) (count : Option Int) (h : q < n.plen) :
    subnet n q count = .ok [] := by
  unfold subnet
  rw [subnetCount_eq n hn.2.2, if_pos h]

/-- a target prefix beyond the width ends in an error: the `ValueError` of the count check, or the
    constructor's `AddrFormatError` at the first block -/
theorem subnet_beyond (n : Net) (hn : n.WF) (q : Int) (count : Option Int) (h : (width n.ver : Nat) < q) :
    ∃ e, subnet n q count = .error e := by
  have hp := hn.2.2
  unfold subnet
  rw [subnetCount_eq n hp, if_neg (by omega)]
  generalize ((maxSubnets _ _ _ : Nat) : Int) = M
  generalize count.getD M = w
  by_cases hc : 1 ≤ w ∧ w ≤ M
  · rw [if_pos hc]
    show ∃ e, subnetLoop n q.toNat _ 0 [] = .error e
    unfold subnetLoop
    rw [dif_pos (by omega)]
    have : subnetItem n q.toNat 0 = .error .addrFormat := by
      unfold subnetItem
      rw [if_pos (by omega)]
    rw [this]
    exact ⟨_, rfl⟩
  · rw [if_neg hc]
    exact ⟨_, rfl⟩

/-- the blocks are aligned /q networks of the family, ascending, and tile N: block `i` is
    `F + i·T .. F + (i+1)·T - 1`; an address lies in one of the `2^(q-p)` blocks iff it lies in N -/
theorem subnet_tiles (n : Net) (hn : n.WF) (q : Nat) (hpq : n.plen ≤ q) (hq : q ≤ width n.ver) :
    (∀ i, i < 2 ^ (q - n.plen) →
      (sub n q i).WF ∧ (sub n q i).val % 2 ^ (width n.ver - q) = 0 ∧
      (sub n q i).first = (sub n q i).val ∧
      (sub n q i).last + 1 = (sub n q (i + 1)).val) ∧
    (∀ a, (∃ i, i < 2 ^ (q - n.plen) ∧ (sub n q i).first ≤ a ∧ a ≤ (sub n q i).last) ↔
      (n.first ≤ a ∧ a ≤ n.last)) := by
  obtain ⟨hver, hv, hp⟩ := hn
  have hT := Nat.two_pow_pos (width n.ver - q)
  have hmod := fun i => grid_block_mod (width n.ver) n.val n.plen q i hpq hq
  have hlt : ∀ i, i < 2 ^ (q - n.plen) → (sub n q i).val < 2 ^ width n.ver := fun i hi =>
    grid_block_lt _ _ _ q i hv hp hpq hq hi
  have hfirst : ∀ i, i < 2 ^ (q - n.plen) → (sub n q i).first = (sub n q i).val := fun i hi =>
    netFirst_of_aligned _ _ q (hlt i hi) (hmod i)
  have hlast : ∀ i, (sub n q i).last = (sub n q i).val + (2 ^ (width n.ver - q) - 1) := fun i =>
    netLast_of_aligned _ _ q (hmod i)
  constructor
  · intro i hi
    refine ⟨⟨hver, hlt i hi, hq⟩, hmod i, hfirst i hi, ?_⟩
    rw [hlast, Nat.add_assoc, Nat.sub_add_cancel hT]
    exact (Nat.add_assoc _ _ _).trans (congrArg _ (Nat.mul_succ _ i).symm)
  · intro a
    -- both sides as half-open blocks: `M` consecutive blocks of size `T` from `F` cover `[F, F + M·T)`
    have hMT : 2 ^ (q - n.plen) * 2 ^ (width n.ver - q) = 2 ^ (width n.ver - n.plen) := by
      rw [Nat.mul_comm, ← pow_split' _ q _ hpq hq]
    have hr := run_tiles (n.val / 2 ^ (width n.ver - n.plen) * 2 ^ (width n.ver - n.plen)) _ (2 ^ (q - n.plen)) a hT
    rw [hMT] at hr
    refine Iff.trans (exists_congr fun i => and_congr_right fun hi => aligned_mem _ _ q a (hlt i hi) (hmod i))
      (Iff.trans hr ?_)
    rw [← netFirst_eq _ _ _ hv]
    exact blkOf_mem _ _ _ a hv

example : subnet ⟨4, 0xAC180005, 23⟩ 25 none =
    .ok [⟨4, 0xAC180000, 25⟩, ⟨4, 0xAC180080, 25⟩, ⟨4, 0xAC180100, 25⟩, ⟨4, 0xAC180180, 25⟩] := by decide +kernel
example : subnet ⟨4, 0xAC180005, 23⟩ 25 (some 5) = .error .value := by decide +kernel
example : subnet ⟨4, 0xAC180005, 23⟩ 22 none = .ok [] := by decide +kernel

/-! ### supernet -/

/-- `supernet(q)`: `ValueError` for `q` outside `0..width`; for `0 ≤ q ≤ p` the list of the
    blocks `/q, /q+1, …, /p-1` around N's value, outermost first, host bits cleared -/
theorem supernet_spec (n : Net) (hn : n.WF) (q : Int) :
    ((q < 0 ∨ (width n.ver : Nat) < q) → supernet n q = .error .value) ∧
    (0 ≤ q → q ≤ n.plen → supernet n q = .ok ((List.range' q.toNat (n.plen - q.toNat)).map
        (fun k => ⟨n.ver, n.val / 2 ^ (width n.ver - k) * 2 ^ (width n.ver - k), k⟩))) := by
  obtain ⟨_, hv, hp⟩ := hn
  unfold supernet
  constructor
  · intro h
    rw [if_pos (fun hg => h.elim (Int.not_lt.mpr hg.1) (Int.not_lt.mpr hg.2))]
  · intro h0 hqp
    have hqp' : q.toNat ≤ n.plen := Int.toNat_le.mpr hqp
    rw [if_neg (fun h => h ⟨h0, Int.le_trans hqp (Int.ofNat_le.mpr hp)⟩),
      supernetLoop_le n.ver (width n.ver) _ n.plen q.toNat [] hqp' hp, List.nil_append]
    refine congrArg Except.ok (List.map_congr_left fun k hk => ?_)
    have hkp : k ≤ n.plen := by
      have := (List.mem_range'_1.1 hk).2
      omega
    show Net.mk n.ver (netFirst (width n.ver) (netFirst (width n.ver) n.val n.plen) k) k = _
    rw [netFirst_eq _ _ _ (netFirst_lt _ _ _ hv), netFirst_eq _ _ _ hv, pow_split' (width n.ver) n.plen k hkp hp,
      floor_coarse _ _ _ (Nat.two_pow_pos _)]

theorem supernet_contains (n : Net) (hn : n.WF) (k : Nat) (hk : k ≤ n.plen) :
    let s : Net := ⟨n.ver, n.val / 2 ^ (width n.ver - k) * 2 ^ (width n.ver - k), k⟩
    s.WF ∧ s.val % 2 ^ (width n.ver - k) = 0 ∧ s.first = s.val ∧ s.first ≤ n.first ∧ n.last ≤ s.last := by
  intro s
  obtain ⟨hver, hv, hp⟩ := hn
  -- `s` is the /k network around N's value with its host bits cleared; two networks around one value nest
  have e : s = ⟨n.ver, netFirst (width n.ver) n.val k, k⟩ := by rw [netFirst_eq _ _ _ hv]
  have hnest := nested_of_share (width n.ver) n.val k n.val n.plen n.val hv hv hk
    (val_between _ _ _ hv) (val_between _ _ _ hv)
  rw [e]
  exact ⟨⟨hver, netFirst_lt _ _ _ hv, Nat.le_trans hk hp⟩, blkOf_aligned _ _ _ hv, netFirst_idem _ _ _ hv,
    Nat.le_trans (Nat.le_of_eq (netFirst_idem _ _ k hv)) hnest.1,
    Nat.le_trans hnest.2 (Nat.le_of_eq (netLast_netFirst _ _ k hv).symm)⟩

/-- outside the property (documented, not generated): a target prefix longer than N's own ends
    in the ValueError of `.cidr`'s negative shift -/
theorem supernet_longer (n : Net) (q : Int) (h1 : n.plen < q) (h2 : q ≤ (width n.ver : Nat)) :
    supernet n q = .error .value := by
  unfold supernet
  rw [if_neg (fun h => h ⟨Int.le_trans (Int.natCast_nonneg _) (Int.le_of_lt h1), h2⟩)]
  exact supernetLoop_gt _ _ _ _ _ _ (Int.lt_toNat.mpr h1)

example : supernet ⟨4, 0xC0000272, 29⟩ 26 =
    .ok [⟨4, 0xC0000240, 26⟩, ⟨4, 0xC0000260, 27⟩, ⟨4, 0xC0000270, 28⟩] := by decide +kernel

/-! ### stepping -/

/-- `N += k`: with `S` the block size and `F` the network address, the statement succeeds
    exactly when `0 ≤ F + k·S` and the whole block stays at or below `max_int`; the object then
    holds the aligned block `F + k·S` with the same prefix.  Otherwise `IndexError`. -/
theorem iadd_spec (n : Net) (hn : n.WF) (k : Int) :
    let S : Int := ((2 ^ (width n.ver - n.plen) : Nat) : Int)
    let F : Int := (n.first : Nat)
    (0 ≤ F + S * k ∧ F + S * k + S ≤ ((2 ^ width n.ver : Nat) : Int) →
      ∃ n', iadd n k = .ok n' ∧ n'.ver = n.ver ∧ n'.plen = n.plen ∧ (n'.val : Int) = F + S * k ∧ n'.WF) ∧
    (¬ (0 ≤ F + S * k ∧ F + S * k + S ≤ ((2 ^ width n.ver : Nat) : Int)) → iadd n k = .error .index) := by
  intro S F
  rw [iadd_eq_stepTo n hn k]
  exact stepTo_spec n hn _

theorem isub_spec (n : Net) (hn : n.WF) (k : Int) :
    let S : Int := ((2 ^ (width n.ver - n.plen) : Nat) : Int)
    let F : Int := (n.first : Nat)
    (0 ≤ F - S * k ∧ F - S * k + S ≤ ((2 ^ width n.ver : Nat) : Int) →
      ∃ n', isub n k = .ok n' ∧ n'.ver = n.ver ∧ n'.plen = n.plen ∧ (n'.val : Int) = F - S * k ∧ n'.WF) ∧
    (¬ (0 ≤ F - S * k ∧ F - S * k + S ≤ ((2 ^ width n.ver : Nat) : Int)) → isub n k = .error .index) := by
  intro S F
  rw [isub_eq_stepTo n hn k]
  exact stepTo_spec n hn _

/-- the stepped value is again block-aligned: `F + k·S` is a multiple of `S` -/
theorem stepped_aligned (n : Net) (hn : n.WF) (k : Int) (v : Nat)
    (h : (v : Int) = ((n.first : Nat) : Int) + ((2 ^ (width n.ver - n.plen) : Nat) : Int) * k ∨
         (v : Int) = ((n.first : Nat) : Int) - ((2 ^ (width n.ver - n.plen) : Nat) : Int) * k) :
    v % 2 ^ (width n.ver - n.plen) = 0 := by
  obtain ⟨_, hv, _⟩ := hn
  have hnf : n.first = n.val / 2 ^ (width n.ver - n.plen) * 2 ^ (width n.ver - n.plen) := netFirst_eq _ _ _ hv
  have hd : ((2 ^ (width n.ver - n.plen) : Nat) : Int) ∣ (v : Int) := by
    rcases h with h | h <;> rw [h, hnf]
    · apply Int.dvd_add
      · rw [Int.natCast_mul]; exact Int.dvd_mul_left _ _
      · exact Int.dvd_mul_right _ _
    · apply Int.dvd_sub
      · rw [Int.natCast_mul]; exact Int.dvd_mul_left _ _
      · exact Int.dvd_mul_right _ _
  exact Nat.mod_eq_zero_of_dvd (Int.natCast_dvd_natCast.1 hd)

/-- `next` / `previous` work on a host-bit-free copy: they are `+=` / `-=` applied to the network
    `(F, p)`, so the two theorems above apply with the same `F` and `S` (the copy's network
    address is `F` again), and the receiver is not modified (the model is a function of `n`) -/
theorem next_previous (n : Net) (hn : n.WF) (k : Int) :
    next n k = iadd (netCopy n) k ∧ previous n k = isub (netCopy n) k ∧
    (netCopy n).WF ∧ (netCopy n).first = n.first ∧ (netCopy n).plen = n.plen ∧ (netCopy n).ver = n.ver := by
  obtain ⟨hver, hv, hp⟩ := hn
  have hF := netFirst_lt (width n.ver) n.val n.plen hv
  exact ⟨rfl, rfl, ⟨hver, hF, hp⟩, netFirst_idem _ _ _ hv, rfl, rfl⟩

/-- a failed `+=` / `-=` leaves the object unchanged, and the only error is IndexError -/
theorem step_failure (n : Net) (k : Int) :
    (∀ e, (stepIadd n k).2 = some e → (stepIadd n k).1 = n ∧ e = .index) ∧
    (∀ e, (stepIsub n k).2 = some e → (stepIsub n k).1 = n ∧ e = .index) ∧
    ((stepIadd n k).2 = none → iadd n k = .ok (stepIadd n k).1) ∧
    ((stepIsub n k).2 = none → isub n k = .ok (stepIsub n k).1) := by
  unfold stepIadd stepIsub
  refine ⟨fun e h => ?_, fun e h => ?_, fun h => ?_, fun h => ?_⟩
  · cases hc : iadd n k with
    | ok n' => rw [hc] at h; exact nomatch h
    | error e' =>
      rw [hc] at h
      obtain rfl : e' = e := Option.some.inj h
      exact ⟨rfl, tests_error _ _ _ e' hc⟩
  · cases hc : isub n k with
    | ok n' => rw [hc] at h; exact nomatch h
    | error e' =>
      rw [hc] at h
      obtain rfl : e' = e := Option.some.inj h
      exact ⟨rfl, tests_error _ _ _ e' hc⟩
  · cases hc : iadd n k with
    | ok n' => rfl
    | error e' => rw [hc] at h; exact nomatch h
  · cases hc : isub n k with
    | ok n' => rfl
    | error e' => rw [hc] at h; exact nomatch h

example : next ⟨4, 0xC0000205, 28⟩ 1 = .ok ⟨4, 0xC0000210, 28⟩ := by decide +kernel
example : next ⟨4, 0xFFFFFFF5, 28⟩ 1 = .error .index := by decide +kernel
example : previous ⟨4, 5, 28⟩ 1 = .error .index := by decide +kernel
example : stepIadd ⟨4, 0xFFFFFFF5, 28⟩ 1 = (⟨4, 0xFFFFFFF5, 28⟩, some .index) := by decide +kernel

/-! ### iter_hosts -/

/-- `iter_hosts()`: IPv4 blocks of 4 or more addresses: `first+1 .. last-1`; IPv4 /31 and /32:
    every address; IPv6: `first+1 .. last` (nothing for /128).  `List.range' a len` is
    `a, a+1, …, a+len-1`; with `S = 2^(width-p)` the block size, `last = first + S - 1`. -/
theorem hosts_spec (n : Net) (hn : n.WF) :
    (n.ver = 4 → 4 ≤ 2 ^ (width n.ver - n.plen) →
      iterHosts n = List.range' (n.first + 1) (2 ^ (width n.ver - n.plen) - 2)) ∧
    (n.ver = 4 → 2 ^ (width n.ver - n.plen) < 4 →
      iterHosts n = List.range' n.first (2 ^ (width n.ver - n.plen))) ∧
    (n.ver = 6 → iterHosts n = List.range' (n.first + 1) (2 ^ (width n.ver - n.plen) - 1)) := by
  rw [iterHosts_eq n hn]
  refine ⟨fun h4 hS => ?_, fun h4 hS => ?_, fun h6 => ?_⟩
  · rw [if_pos h4, if_pos hS]
  · rw [if_pos h4, if_neg (Nat.not_le.mpr hS)]
  · rw [if_neg (fun h4 => absurd (h4.symm.trans h6) (by decide))]

/-- what the driver prints: the generator read through `islice(limit)` is the prefix of the full list -/
theorem hostsTake_eq (n : Net) (limit : Nat) : hostsTake n limit = (iterHosts n).take limit := by
  unfold hostsTake iterHosts
  cases hostBounds n with
  | none => exact List.take_nil.symm
  | some b =>
    obtain ⟨lo, hi⟩ := b
    show iterRange lo hi (min (hi + 1 - lo) limit) = (iterRange lo hi (hi + 1 - lo)).take limit
    rw [iterRange_eq, iterRange_eq, Nat.min_self, take_range', Nat.min_comm (hi + 1 - lo) limit,
      Nat.min_assoc, Nat.min_self]

example : iterHosts ⟨4, 0x0A000005, 30⟩ = [0x0A000005, 0x0A000006] := by decide +kernel
example : iterHosts ⟨4, 0x0A000005, 31⟩ = [0x0A000004, 0x0A000005] := by decide +kernel
example : iterHosts ⟨6, 5, 127⟩ = [5] := by decide +kernel
example : iterHosts ⟨6, 5, 128⟩ = [] := by decide +kernel

end NV.C11
