/-
Props/C03b.lean — C03: which network strings are accepted, and with what result.

First the printed address with a prefix part, the step from `parse_ip_network` to the constructor,
"every failure on a string is AddrFormatError", and the class rules.

`net_accepts_iff` reduces `IPNetwork(<str>, implicit_prefix, version, flags)` - the try/except
chain, the version detection, the flags - to a condition on the pieces of the text (`Spells`): it
builds the network `n` exactly when (after `cidr_abbrev_to_verbose` under implicit_prefix and
the split at the first '/') there is no second '/', the address part is accepted for the family
`n.ver` (strict `IPAddress(·, INET_PTON)`, or for IPv4 the partial expansion), the prefix part is
absent / a numeral / a netmask text / a hostmask text denoting `n.plen ≤ width`, and `n.val` is
the address value (host bits cleared under NOHOST); in every other case the constructor raises
AddrFormatError (`net_result`), ValueError only for a version other than None/4/6.
The pieces are still judged by the model's own `ipAddress`, `expandPartialAddress`,
`cidrAbbrevToVerbose` and `Py.pyInt`: `Spells` is no grammar of its own.  Props/C03c unfolds it
per family (`spells4_iff`, `spells6_iff`).  The proofs compute with the partial function `spell`
of Lemmas/C03LSpell, of which `Spells` is the graph (`spells_iff`), through `net_eq`, `net_ok`, `net_err`.

The remaining theorems are the property's spellings / tuple / round trip statements at the full
quantifier: both flag values, both implicit_prefix values, explicit and absent version.  The bare /
partial / classful / rejection statements are in Props/C03c.lean.
-/
import NetaddrVerif.Lemmas.C03LSpell
import NetaddrVerif.Lemmas.StrLit
namespace NV.C03
open NV NV.Text4 NV.AddrParse NV.NetParse NV.C01L NV.C03L NV.C03L.Acc NV.C03L.Abbrev
open NV.C03A2 (padded)

/-! ### a printed address with a prefix part; from `parse_ip_network` to the constructor -/

theorem parse_with_prefix (be : Backend) (ver : Nat) (hver : VerOK ver) (v : Nat) (hv : v < 2 ^ width ver)
    (T : List Char) (q : Nat) (hT : T.contains '/' = false)
    (hres : resolvePrefix be ver (some T) = .ok (q : Int)) (hq : q ≤ width ver) (fl : Nat) :
    parseIpNetwork be ver (.str (intToStr be ver v ++ '/' :: T)) false fl = applyNohost ver fl v q := by
  rw [parse_eq be ver hver, pre_false, spell_slash be ver _ T (addr_noslash be ver hver v hv), hT,
    addrVal_print be ver hver v hv, plenVal_ok be ver _ q hres hq, applyNohost_ok ver hver fl v q hq]
  rfl

theorem parse_bare (be : Backend) (ver : Nat) (hver : VerOK ver) (v : Nat) (hv : v < 2 ^ width ver) (fl : Nat) :
    parseIpNetwork be ver (.str (intToStr be ver v)) false fl = applyNohost ver fl v (width ver) := by
  rw [parse_eq be ver hver, pre_false, spell_bare be ver _ (addr_noslash be ver hver v hv), addrVal_print be ver hver v hv,
    applyNohost_ok ver hver fl v _ (Nat.le_refl _)]
  rfl

theorem net_of_parse (be : Backend) (ver : Nat) (hver : VerOK ver) (s : List Char) (i : Bool) (fl v' p : Nat)
    (pver : Option Nat) (hpver : pver = none ∨ pver = some ver)
    (h4 : ver = 6 → parseIpNetwork be 4 (.str s) i fl = .error .addrFormat)
    (h : parseIpNetwork be ver (.str s) i fl = .ok (v', p)) :
    ipNetwork be (.str s) i pver fl = .ok ⟨ver, v', p⟩ := by
  obtain ⟨a, hs, rfl⟩ := parseOut_eq_ok.1 (parse_eq be ver hver s i fl ▸ h)
  exact net_ok be ver hver pver hpver s i fl a p hs

/-- (the mirror of `C03L.parse4_v6text`, Lemmas/C03LSpell) -/
theorem parse6_v4text (be : Backend) (v : Nat) (hv : v < 2 ^ 32) (rest : Option (List Char))
    (hrest : ∀ t, rest = some t → t.contains '/' = false) (fl : Nat) :
    parseIpNetwork be 6 (.str (intToStr be 4 v ++ (match rest with | none => [] | some t => '/' :: t))) false fl
      = .error .addrFormat :=
  parse_addr_refused be 6 (Or.inr rfl) _ (addr_noslash be 4 (Or.inl rfl) v hv) (addrVal6_nocolon be (colon_not_in_ntoa v))
    rest hrest fl

/-! ### every failure on a string is AddrFormatError -/

theorem core_err (be : Backend) (ver : Nat) (hver : VerOK ver) (val1 : List Char) (val2 : Option (List Char))
    (fl : Nat) (e : Err) (hfst : val1.contains '/' = false) (hno : ∀ t, val2 = some t → t.contains '/' = false)
    (h : parseStrCore be ver val1 val2 fl = .error e) : e = .addrFormat :=
  (parseOut_eq_error.1 (core_eq be ver hver val1 val2 fl hfst hno ▸ h)).2

theorem parse_err (be : Backend) (ver : Nat) (hver : VerOK ver) (s : List Char) (i : Bool) (fl : Nat) (e : Err)
    (h : parseIpNetwork be ver (.str s) i fl = .error e) : e = .addrFormat :=
  (parseOut_eq_error.1 (parse_eq be ver hver s i fl ▸ h)).2

/-- **A malformed network string raises AddrFormatError**: whatever string is given (with a valid
    or absent version argument, any flags, implicit_prefix or not), `IPNetwork(s)` either builds a
    network or raises AddrFormatError — never another exception class. -/
theorem error_is_addrformat (be : Backend) (s : List Char) (i : Bool) (pver : Option Nat) (fl : Nat) (e : Err)
    (hpver : pver = none ∨ pver = some 4 ∨ pver = some 6)
    (h : ipNetwork be (.str s) i pver fl = .error e) : e = .addrFormat :=
  (netOut_eq_error.1 (net_eq be s i pver fl hpver ▸ h)).2

/-- the documented class rules -/
def classOf (o : Nat) : Nat :=
  if o ≤ 127 then 8 else if o ≤ 191 then 16 else if o ≤ 223 then 24 else if o ≤ 239 then 4 else 32

/-- **Classful rules**: `classful_prefix` is exactly 0-127 → 8, 128-191 → 16, 192-223 → 24,
    224-239 → 4, 240-255 → 32, and IndexError outside 0..255. -/
theorem classful_rules (o : Int) :
    classfulPrefix o = if 0 ≤ o ∧ o ≤ 255 then some (classOf o.toNat) else none := by
  unfold classfulPrefix classOf
  by_cases h : 0 ≤ o ∧ o ≤ 255
  · simp only [h, not_true_eq_false, if_false, and_self, if_true]
    by_cases h1 : o ≤ 127
    · have : o.toNat ≤ 127 := by omega
      simp [h1, this]
    · by_cases h2 : o ≤ 191
      · have a : ¬ o.toNat ≤ 127 := by omega
        have b : o.toNat ≤ 191 := by omega
        have c : (128 : Int) ≤ o := by omega
        simp [h1, h2, a, b, c]
      · by_cases h3 : o ≤ 223
        · have a : ¬ o.toNat ≤ 127 := by omega
          have b : ¬ o.toNat ≤ 191 := by omega
          have c : o.toNat ≤ 223 := by omega
          have d : (192 : Int) ≤ o := by omega
          simp [h1, h2, h3, a, b, c, d]
        · by_cases h4 : o ≤ 239
          · have a : ¬ o.toNat ≤ 127 := by omega
            have b : ¬ o.toNat ≤ 191 := by omega
            have c : ¬ o.toNat ≤ 223 := by omega
            have d : o.toNat ≤ 239 := by omega
            have e : (224 : Int) ≤ o := by omega
            simp [h1, h2, h3, h4, a, b, c, d, e]
          · have a : ¬ o.toNat ≤ 127 := by omega
            have b : ¬ o.toNat ≤ 191 := by omega
            have c : ¬ o.toNat ≤ 223 := by omega
            have d : ¬ o.toNat ≤ 239 := by omega
            simp [h1, h2, h3, h4, a, b, c, d]
  · simp [h]

theorem classOf_le (o : Nat) : classOf o ≤ 32 := by
  unfold classOf
  repeat' split
  all_goals decide

theorem pton4_short (be : Backend) (toks : List (List Char)) (hd : ∀ t ∈ toks, '.' ∉ t) (hne : toks ≠ [])
    (hlen : toks.length ≠ 4) : inetPton4 be (['.'].intercalate toks) = none :=
  C01L.inetPton4_pieces be toks hd hne hlen

theorem parse_accepts_iff (be : Backend) (ver : Nat) (hver : VerOK ver) (s : List Char) (i : Bool) (fl v p : Nat) :
    parseIpNetwork be ver (.str s) i fl = .ok (v, p) ↔
      ∃ a, Spells be ver (pre i s) a p ∧ v = stored ver fl a p := by
  simp only [parse_eq be ver hver, parseOut_eq_ok, spells_iff be ver hver]

/-- **ValueError only for a bad version argument** (strings and tuples alike) -/
theorem bad_version_value (be : Backend) (arg : NetArg) (i : Bool) (ver fl : Nat) (h : ver ≠ 4 ∧ ver ≠ 6)
    (harg : (∃ s, arg = .str s) ∨ (∃ x y, arg = .tuple x y)) :
    ipNetwork be arg i (some ver) fl = .error .value := by
  have : ¬ (ver = 4 ∨ ver = 6) := by omega
  rcases harg with ⟨s, rfl⟩ | ⟨x, y, rfl⟩ <;> unfold ipNetwork <;> simp only [if_neg this]

/-- no text is accepted in both families -/
theorem spells_exclusive (be : Backend) (t : List Char) (a a' q q' : Nat) (h4 : Spells be 4 t a q) (h6 : Spells be 6 t a' q') :
    False := by
  have := spell_excl be t _ ((spells_iff be 4 (Or.inl rfl) t a q).mpr h4)
  rw [(spells_iff be 6 (Or.inr rfl) t a' q').mpr h6] at this
  cases this

/-- **Which network strings are accepted, and what they build.**  For a version argument
    None/4/6, any flags, implicit_prefix or not: `IPNetwork(s, …)` builds `n` exactly when the
    version argument is absent or `n.ver`, and the text (after `cidr_abbrev_to_verbose` under
    implicit_prefix) spells an address value `a` with prefix `n.plen` in family `n.ver`, and
    `n.val` is `a` (host bits cleared under NOHOST). -/
theorem net_accepts_iff (be : Backend) (s : List Char) (i : Bool) (pver : Option Nat) (fl : Nat) (n : Net)
    (hpver : pver = none ∨ pver = some 4 ∨ pver = some 6) :
    ipNetwork be (.str s) i pver fl = .ok n ↔
      (pver = none ∨ pver = some n.ver) ∧ VerOK n.ver ∧
        ∃ a, Spells be n.ver (pre i s) a n.plen ∧ n.val = stored n.ver fl a n.plen := by
  constructor
  · intro h
    -- either some admitted family spells the text, and `net_ok` says what is built, or none does
    by_cases hex : ∃ ver a q, VerOK ver ∧ (pver = none ∨ pver = some ver) ∧ spell be ver (pre i s) = some (a, q)
    · obtain ⟨ver, a, q, hver, hp, hs⟩ := hex
      rw [net_ok be ver hver pver hp s i fl a q hs] at h
      cases h
      exact ⟨hp, hver, a, (spells_iff be ver hver _ a q).mp hs, rfl⟩
    · rw [net_err be pver hpver s i fl fun ver hver hp => by
        cases hs : spell be ver (pre i s) with
        | none => rfl
        | some r => exact absurd ⟨ver, r.1, r.2, hver, hp, hs⟩ hex] at h
      cases h
  · obtain ⟨nv, na, np⟩ := n
    rintro ⟨hp, hver, a, hs, hv⟩
    rw [show na = _ from hv]
    exact net_ok be nv hver pver hp s i fl a np ((spells_iff be nv hver _ a np).mpr hs)

/-- **Otherwise AddrFormatError.**  With a version argument None/4/6 the constructor raises
    AddrFormatError exactly when no network is spelled - it never raises another class and never
    builds a network the text does not spell. -/
theorem net_rejects_iff (be : Backend) (s : List Char) (i : Bool) (pver : Option Nat) (fl : Nat)
    (hpver : pver = none ∨ pver = some 4 ∨ pver = some 6) :
    ipNetwork be (.str s) i pver fl = .error .addrFormat ↔
      ∀ n : Net, ¬ ((pver = none ∨ pver = some n.ver) ∧ VerOK n.ver ∧
        ∃ a, Spells be n.ver (pre i s) a n.plen ∧ n.val = stored n.ver fl a n.plen) := by
  simp only [← net_accepts_iff be s i pver fl _ hpver, net_eq be s i pver fl hpver, netOut_eq_ok, netOut_eq_error, and_true]
  cases denote be pver fl (pre i s) with
  | none => exact ⟨fun _ _ => nofun, fun _ => rfl⟩
  | some n => exact ⟨nofun, fun h => (h n rfl).elim⟩

theorem net_result (be : Backend) (s : List Char) (i : Bool) (pver : Option Nat) (fl : Nat)
    (hpver : pver = none ∨ pver = some 4 ∨ pver = some 6) :
    (∃ n, ipNetwork be (.str s) i pver fl = .ok n ∧ VerOK n.ver ∧
        ∃ a, Spells be n.ver (pre i s) a n.plen ∧ n.val = stored n.ver fl a n.plen) ∨
      ipNetwork be (.str s) i pver fl = .error .addrFormat := by
  cases hr : ipNetwork be (.str s) i pver fl with
  | ok n => exact Or.inl ⟨n, rfl, ((net_accepts_iff be s i pver fl n hpver).mp hr).2⟩
  | error e => rw [error_is_addrformat be s i pver fl e hpver hr]; exact Or.inr rfl

/-- a spelled network, concretely: the partial address `10.1` with prefix numeral `16` -/
example : Spells .platform 4 "10.1/16".toList 0x0A010000 16 := by
  refine ⟨by decide +kernel, ?_, Or.inl (by decide +kernel), by decide +kernel⟩
  exact (addrPart4_iff .platform _ (by decide +kernel) _).mpr (by decide +kernel)

/-! ### an explicit prefix part wins over implicit_prefix=True -/

theorem explicit_wins_parse (be : Backend) (ver : Nat) (hver : VerOK ver) (s : List Char) (hs : s.contains '/' = true)
    (fl : Nat) : parseIpNetwork be ver (.str s) true fl = parseIpNetwork be ver (.str s) false fl := by
  rw [parse_eq be ver hver, parse_eq be ver hver, spell_pre_slash be ver hver s hs]
  rfl

/-- **An explicit prefix wins.**  Whatever text carries a '/' - address or partial address, with a
    numeral, netmask or hostmask after it, well-formed or not - `implicit_prefix=True` changes
    nothing: same network or same AddrFormatError, for every version argument and flags. -/
theorem explicit_prefix_wins (be : Backend) (s : List Char) (hs : s.contains '/' = true) (pver : Option Nat) (fl : Nat) :
    ipNetwork be (.str s) true pver fl = ipNetwork be (.str s) false pver fl :=
  ipNetwork_congr be s s true false fl (fun ver hver => explicit_wins_parse be ver hver s hs fl) pver

example : ("010.1/255.255.0.0".toList).contains '/' = true := by decide_lit

/-- a text with ':' (every IPv6 spelling) is left alone by `cidr_abbrev_to_verbose` -/
theorem implicit_ignored_colon (be : Backend) (s : List Char) (hs : ':' ∈ s) (pver : Option Nat) (fl : Nat) :
    ipNetwork be (.str s) true pver fl = ipNetwork be (.str s) false pver fl :=
  ipNetwork_congr be s s true false fl (fun ver _ => by rw [parse_implicit, abbrev_colon s hs]) pver

/-! ### all spellings, both flag values, both implicit_prefix values -/

theorem net_with_prefix_all (be : Backend) (ver : Nat) (hver : VerOK ver) (v : Nat) (hv : v < 2 ^ width ver)
    (T : List Char) (q : Nat) (hT : T.contains '/' = false)
    (hres : resolvePrefix be ver (some T) = .ok (q : Int)) (hq : q ≤ width ver) (fl : Nat)
    (pver : Option Nat) (hpver : pver = none ∨ pver = some ver) (i : Bool) :
    ipNetwork be (.str (intToStr be ver v ++ '/' :: T)) i pver fl = .ok ⟨ver, stored ver fl v q, q⟩ :=
  net_slash_ok be ver hver pver hpver _ T (addr_noslash be ver hver v hv) hT i fl v q (addrVal_print be ver hver v hv)
    (plenVal_ok be ver _ q hres hq)

theorem net_with_prefix (be : Backend) (ver : Nat) (hver : VerOK ver) (v : Nat) (hv : v < 2 ^ width ver)
    (T : List Char) (q : Nat) (hT : T.contains '/' = false)
    (hres : resolvePrefix be ver (some T) = .ok (q : Int)) (hq : q ≤ width ver) (fl : Nat)
    (pver : Option Nat) (hpver : pver = none ∨ pver = some ver) :
    ipNetwork be (.str (intToStr be ver v ++ '/' :: T)) false pver fl =
      .ok ⟨ver, if hasFlag fl NOHOST then v &&& netNetmask (width ver) q else v, q⟩ :=
  net_with_prefix_all be ver hver v hv T q hT hres hq fl pver hpver false

theorem resolve_netmask_text (be : Backend) (ver : Nat) (hver : VerOK ver) (p : Nat) (hp : p ≤ width ver) :
    resolvePrefix be ver (some (intToStr be ver (netNetmask (width ver) p))) = .ok (p : Int) := by
  rw [resolve_mask be ver hver _ (netNetmask_lt _ p), isNetmask_netNetmask _ p hp, if_pos rfl,
    lookup_netmaskToPrefix ver hver p hp]

/-- the hostmask text of `p` resolves to `p`, except that the all-ones / all-zeros texts are
    netmasks first -/
theorem resolve_hostmask_text (be : Backend) (ver : Nat) (hver : VerOK ver) (p : Nat) (hp : p ≤ width ver) :
    resolvePrefix be ver (some (intToStr be ver (netHostmask (width ver) p))) =
      .ok (((if p = 0 ∨ p = width ver then width ver - p else p : Nat)) : Int) := by
  by_cases hpe : p = 0 ∨ p = width ver
  · rw [if_pos hpe, hostmask_ends _ p hpe]
    exact resolve_netmask_text be ver hver _ (Nat.sub_le _ p)
  · rw [if_neg hpe, resolve_mask be ver hver _ (netHostmask_lt _ p),
      Bool.eq_false_iff.mpr (mt (isNetmask_netHostmask _ p hp).mp hpe),
      if_neg Bool.false_ne_true, isHostmask_netHostmask, if_pos rfl, lookup_hostmaskToPrefix ver hver p hp]

def Fits (ver : Nat) (x y : Int) : Prop := (0 ≤ x ∧ x ≤ (maxInt ver : Int)) ∧ (0 ≤ y ∧ y ≤ (width ver : Int))

instance (ver : Nat) (x y : Int) : Decidable (Fits ver x y) := by unfold Fits; infer_instance

theorem parse_tuple (be : Backend) (ver : Nat) (hver : VerOK ver) (x y : Int) (i : Bool) (fl : Nat) :
    parseIpNetwork be ver (.tuple x y) i fl =
      if Fits ver x y then .ok (stored ver fl x.toNat y.toNat, y.toNat) else .error .addrFormat := by
  unfold parseIpNetwork
  simp only
  by_cases h1 : 0 ≤ x ∧ x ≤ (maxInt ver : Int)
  · by_cases h2 : 0 ≤ y ∧ y ≤ (width ver : Int)
    · have hy : y.toNat ≤ width ver := by omega
      have hf : Fits ver x y := ⟨h1, h2⟩
      rw [if_neg (fun hn => hn h1), if_neg (fun hn => hn h2), if_pos hf, applyNohost_ok ver hver fl _ _ hy]
      rfl
    · have hf : ¬ Fits ver x y := fun h => h2 h.2
      rw [if_neg (fun hn => hn h1), if_pos h2, if_neg hf]
  · have hf : ¬ Fits ver x y := fun h => h1 h.1
    rw [if_pos h1, if_neg hf]

/-- **Tuples, completely** (any integers, any flags, implicit_prefix ignored): with an explicit
    version the tuple must fit that family; without one it is IPv4 when value and prefix fit
    IPv4, else IPv6 when they fit IPv6; the stored value has its host bits cleared under NOHOST;
    everything else - negative or too large value or prefix - is AddrFormatError. -/
theorem tuple_all (be : Backend) (x y : Int) (i : Bool) (fl : Nat) :
    (∀ ver, VerOK ver → ipNetwork be (.tuple x y) i (some ver) fl =
      if Fits ver x y then .ok ⟨ver, stored ver fl x.toNat y.toNat, y.toNat⟩ else .error .addrFormat) ∧
    ipNetwork be (.tuple x y) i none fl =
      (if Fits 4 x y then .ok ⟨4, stored 4 fl x.toNat y.toNat, y.toNat⟩
       else if Fits 6 x y then .ok ⟨6, stored 6 fl x.toNat y.toNat, y.toNat⟩
       else .error .addrFormat) := by
  constructor
  · intro ver hver
    rw [ipNetwork_some be _ (Or.inr ⟨x, y, rfl⟩) i ver hver fl, parse_tuple be ver hver]
    unfold liftNet
    by_cases hf : Fits ver x y
    · rw [if_pos hf, if_pos hf]
    · rw [if_neg hf, if_neg hf]
  · rw [ipNetwork_none be _ (Or.inr ⟨x, y, rfl⟩), parse_tuple be 4 (Or.inl rfl), parse_tuple be 6 (Or.inr rfl)]
    unfold liftNet
    by_cases h4 : Fits 4 x y
    · rw [if_pos h4, if_pos h4]
    · rw [if_neg h4, if_neg h4]
      by_cases h6 : Fits 6 x y
      · rw [if_pos h6, if_pos h6]
      · rw [if_neg h6, if_neg h6]

example : Fits 6 (2 ^ 32) 3 ∧ ¬ Fits 4 (2 ^ 32) 3 ∧ ¬ Fits 6 (-1) 3 ∧ ¬ Fits 6 5 129 := by decide +kernel

theorem fits4_iff (x y : Int) : Fits 4 x y ↔ (0 ≤ x ∧ x < 2 ^ 32) ∧ (0 ≤ y ∧ y ≤ 32) := by
  have m4 : (maxInt 4 : Int) = 4294967295 := by decide
  unfold Fits; rw [m4, width4_int]; omega

theorem fits6_iff (x y : Int) : Fits 6 x y ↔ (0 ≤ x ∧ x < 2 ^ 128) ∧ (0 ≤ y ∧ y ≤ 128) := by
  have m6 : (maxInt 6 : Int) = 340282366920938463463374607431768211455 := by decide
  unfold Fits; rw [m6, width6_int]; omega

/-- a tuple that fits no family (negative or oversized value or prefix) is AddrFormatError
    also without a version argument -/
theorem tuple_rejects_implicit (be : Backend) (x y : Int) (i : Bool) (fl : Nat)
    (h : ¬ ((0 ≤ x ∧ x < 2 ^ 128) ∧ (0 ≤ y ∧ y ≤ 128))) :
    ipNetwork be (.tuple x y) i none fl = .error .addrFormat := by
  rw [(tuple_all be x y i fl).2, if_neg (by rw [fits4_iff]; omega), if_neg (by rw [fits6_iff]; exact h)]

/-- **All spellings agree, at the full quantifier.**  Every family, value, prefix; flags 0 or
    NOHOST (any flags word); implicit_prefix False or True; explicit or detected version:
    'a/p', 'a/<netmask of p>', 'a/<hostmask of p>' and the tuple build `⟨ver, stored v, p⟩`
    where `stored` is `v` itself, or `v` with exactly the host bits cleared under NOHOST - the
    same in every spelling (hostmask spelling at p ∈ {0, width}: netmask precedence).  Copy
    construction returns the source unchanged: the code does not look at `flags` there. -/
theorem spellings_agree_all (be : Backend) (ver : Nat) (hver : VerOK ver) (v : Nat) (hv : v < 2 ^ width ver)
    (p : Nat) (hp : p ≤ width ver) (pver : Option Nat) (hpver : pver = none ∨ pver = some ver) (fl : Nat) (i : Bool) :
    let a := intToStr be ver v
    let w := width ver
    let p' := if p = 0 ∨ p = w then w - p else p
    ipNetwork be (.str (a ++ '/' :: dec p)) i pver fl = .ok ⟨ver, stored ver fl v p, p⟩ ∧
    ipNetwork be (.str (a ++ '/' :: intToStr be ver (netNetmask w p))) i pver fl = .ok ⟨ver, stored ver fl v p, p⟩ ∧
    ipNetwork be (.str (a ++ '/' :: intToStr be ver (netHostmask w p))) i pver fl = .ok ⟨ver, stored ver fl v p', p'⟩ ∧
    ipNetwork be (.tuple v p) i (some ver) fl = .ok ⟨ver, stored ver fl v p, p⟩ ∧
    ipNetwork be (.copyNet ⟨ver, v, p⟩) i pver fl = .ok ⟨ver, v, p⟩ := by
  intro a w p'
  refine ⟨?_, ?_, ?_, ?_, rfl⟩
  · exact net_with_prefix_all be ver hver v hv (dec p) p (slash_not_in_dec p) (resolve_dec be ver p) hp fl pver hpver i
  · exact net_with_prefix_all be ver hver v hv _ p (addr_noslash be ver hver _ (netNetmask_lt _ p)) (resolve_netmask_text be ver hver p hp)
      hp fl pver hpver i
  · have hp' : p' ≤ width ver := by
      show (if p = 0 ∨ p = width ver then width ver - p else p) ≤ width ver
      split <;> omega
    exact net_with_prefix_all be ver hver v hv _ p' (addr_noslash be ver hver _ (netHostmask_lt _ p)) (resolve_hostmask_text be ver hver p hp)
      hp' fl pver hpver i
  · have hfit : Fits ver (v : Int) (p : Int) := by
      have : v ≤ maxInt ver := by unfold maxInt; omega
      unfold Fits; omega
    rw [(tuple_all be v p i fl).1 ver hver, if_pos hfit]
    simp

example : stored 4 NOHOST 0xC0A80105 24 = 0xC0A80100 ∧ stored 4 0 0xC0A80105 24 = 0xC0A80105 := ⟨rfl, rfl⟩

/-- **NOHOST clears exactly the host bits, in every spelling**: the stored value of each string /
    tuple spelling under NOHOST is `v / 2^(w-p) * 2^(w-p)` -/
theorem nohost_every_spelling (ver : Nat) (v : Nat) (hv : v < 2 ^ width ver)
    (p : Nat) (hp : p ≤ width ver) : stored ver NOHOST v p = v / 2 ^ (width ver - p) * 2 ^ (width ver - p) ∧
      stored ver 0 v p = v := by
  rw [stored_eq ver NOHOST v p hv, stored_eq ver 0 v p hv]
  exact ⟨by rw [if_pos (by decide)], by rw [if_neg (by decide)]⟩

/-- **str() round trip, every flags / implicit_prefix**: `IPNetwork(str(n), …)` is `n` again -
    with `n`'s host bits cleared exactly when NOHOST is given -/
theorem str_roundtrip_all (be : Backend) (n : Net) (hn : n.WF) (pver : Option Nat) (hpver : pver = none ∨ pver = some n.ver)
    (fl : Nat) (i : Bool) :
    ipNetwork be (.str (netStr be n)) i pver fl = .ok ⟨n.ver, stored n.ver fl n.val n.plen, n.plen⟩ := by
  obtain ⟨hver, hv, hp⟩ := hn
  have := (spellings_agree_all be n.ver hver n.val hv n.plen hp pver hpver fl i).1
  unfold netStr
  rw [List.append_assoc]
  exact this

theorem copies_ignore_flags (be : Backend) (n : Net) (a : Addr) (i : Bool) (pver : Option Nat) (fl : Nat) :
    ipNetwork be (.copyNet n) i pver fl = .ok n ∧
    ipNetwork be (.copyAddr a) i pver fl = .ok ⟨a.ver, a.val, width a.ver⟩ := ⟨rfl, rfl⟩

end NV.C03
