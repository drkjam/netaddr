/-
Props/C03c.lean — C03: partial and classful IPv4 forms at the full quantifier
(1-4 octets, every octet spelling `int()` reads - zero-padded, signed, spaced, underscored -,
with and without a prefix part, implicit_prefix False and True, version None and 4, both flag
values), what a bare IPv4 text is exactly, and the rejections for arbitrary address parts.
-/
import NetaddrVerif.Props.C03b
namespace NV.C03
open NV NV.Text4 NV.AddrParse NV.NetParse NV.C01L NV.C03L NV.C03L.Acc NV.C03L.Abbrev
open NV.C03A2 (padded)

/-- `os` are one to four octet texts which `int()` reads as `ns`, every value in 0..255 -/
def Octets (os : List (List Char)) (ns : List Int) : Prop :=
  os.mapM (Py.pyInt 10) = some ns ∧ os ≠ [] ∧ os.length ≤ 4 ∧ InRange ns

theorem ipNetwork_implicit (be : Backend) (s : List Char) (pver : Option Nat) (fl : Nat) :
    ipNetwork be (.str s) true pver fl = ipNetwork be (.str (cidrAbbrevToVerbose s)) false pver fl :=
  ipNetwork_congr be s _ true false fl (fun ver _ => parse_implicit be ver s fl) pver

theorem octets_text (os : List (List Char)) (ns : List Int) (h : Octets os ns) :
    (['.'].intercalate os).contains '/' = false ∧ (['.'].intercalate os).splitOn '.' = os ∧
      addr4Spec (['.'].intercalate os) = some (quadVal ns) ∧ quadVal ns < 2 ^ 32 ∧ ':' ∉ ['.'].intercalate os := by
  obtain ⟨hm, hne, hlen, hr⟩ := h
  have hclean : ∀ o ∈ os, '.' ∉ o ∧ ':' ∉ o ∧ '/' ∉ o := by
    intro o ho
    obtain ⟨n, hn⟩ := mapM_all hm o ho
    exact pyInt_some_clean o n hn
  obtain ⟨hsp, hcol, hsl⟩ := clean_join os hne hclean
  have hl := mapM_length hm
  have hnne : ns ≠ [] := by
    intro e
    rw [e] at hl
    exact hne (List.eq_nil_of_length_eq_zero hl.symm)
  refine ⟨contains_false_of_not_mem hsl, hsp, ?_, (join_in_range ns hnne (by omega) hr).2, hcol⟩
  rw [addr4Spec_alt, hsp, hm]
  exact if_pos ⟨by omega, hr⟩

theorem partial_net (be : Backend) (txt : List Char) (a : Nat) (h1 : txt.contains '/' = false)
    (hspec : addr4Spec txt = some a) (T : List Char) (q : Nat) (hT : T.contains '/' = false)
    (hres : resolvePrefix be 4 (some T) = .ok (q : Int)) (hq : q ≤ 32)
    (pver : Option Nat) (hpver : pver = none ∨ pver = some 4) (fl : Nat) (i : Bool) :
    ipNetwork be (.str (txt ++ '/' :: T)) i pver fl = .ok ⟨4, stored 4 fl a q, q⟩ :=
  net_slash_ok be 4 (Or.inl rfl) pver hpver txt T h1 hT i fl a q hspec (plenVal_ok be 4 _ q hres hq)

/-- a string that is not a strict dotted quad but expands (`expand_partial_address`) to one -/
theorem net_of_partial (be : Backend) (txt : List Char) (val p : Nat)
    (h1 : txt.contains '/' = false) (h2 : inetPton4 be txt = none)
    (h3 : expandPartialAddress txt = .ok (ntoa val)) (hval : val < 2 ^ 32) (hp : p ≤ 32) :
    ipNetwork be (.str (txt ++ '/' :: dec p)) false (some 4) 0 = .ok ⟨4, val, p⟩ :=
  partial_net be txt val h1 (spec_of_expand be txt _ val h3 (ipAddress_print be 4 (Or.inl rfl) val hval)) (dec p) p
    (C03L.slash_not_in_dec p) (resolve_dec be 4 p) hp (some 4) (Or.inr rfl) 0 false

theorem partial_bare_net (be : Backend) (txt : List Char) (a : Nat) (h1 : txt.contains '/' = false)
    (hspec : addr4Spec txt = some a) (ha : a < 2 ^ 32)
    (pver : Option Nat) (hpver : pver = none ∨ pver = some 4) (fl : Nat) :
    ipNetwork be (.str txt) false pver fl = .ok ⟨4, a, 32⟩ := by
  rw [net_ok be 4 (Or.inl rfl) pver hpver txt false fl a 32
    (by rw [pre_false, spell_bare be 4 txt h1, show addrVal be 4 txt = _ from hspec]; rfl),
    show stored 4 fl a 32 = a from stored_full 4 fl a ha]

/-! ### `cidr_abbrev_to_verbose` on bare octet texts -/

theorem classful_of_range (n : Int) (h : 0 ≤ n ∧ n ≤ 255) : classfulPrefix n = some (classOf n.toNat) := by
  rw [classful_rules, if_pos h]

theorem classful_out_of_range (n : Int) (h : ¬ (0 ≤ n ∧ n ≤ 255)) : classfulPrefix n = none := by
  rw [classful_rules, if_neg h]

/-- one octet text `o` read by `int()` as `n` in 0..255, as the code builds the result:
    `'%d.0.0.0/%d' % (n, classful_prefix(n))` -/
theorem abbrev_numeral (o : List Char) (n : Int) (hpi : Py.pyInt 10 o = some n) (hn : 0 ≤ n ∧ n ≤ 255) :
    cidrAbbrevToVerbose o = dec n.toNat ++ ".0.0.0/".toList ++ dec (classOf n.toNat) := by
  rw [abbrev_of_int o n hpi, classful_of_range n hn, (showInt_of_range n hn).1]

theorem abbrev_one (o : List Char) (n : Int) (hpi : Py.pyInt 10 o = some n) (hn : 0 ≤ n ∧ n ≤ 255) :
    cidrAbbrevToVerbose o = ntoa (n.toNat * 16777216) ++ '/' :: dec (classOf n.toNat) := by
  have := ntoa_of_octs n.toNat 0 0 0 (by decide) (by decide) (by decide)
  simp only [Nat.zero_mul, Nat.add_zero] at this
  rw [abbrev_numeral o n hpi hn, this]
  simp [List.intercalate, dec]

theorem abbrev_pieces (os : List (List Char)) (hclean : ∀ o ∈ os, '.' ∉ o ∧ ':' ∉ o ∧ '/' ∉ o)
    (hlen : 2 ≤ os.length ∧ os.length ≤ 4) (n : Int) (hpi : Py.pyInt 10 (os.headD []) = some n) (hn : 0 ≤ n ∧ n ≤ 255) :
    cidrAbbrevToVerbose (['.'].intercalate os) = padded (['.'].intercalate os) ++ '/' :: dec (classOf n.toNat) := by
  have hne : os ≠ [] := by rintro rfl; simp at hlen
  obtain ⟨hsplit, hcol, hsl⟩ := clean_join os hne hclean
  -- with two pieces there is a '.', so `int()` does not read the whole text
  have hdot : '.' ∈ ['.'].intercalate os := by
    match os, hlen with
    | a :: b :: r, _ => rw [List.intercalate_cons_cons]; simp
  rw [abbrev_of_bare _ (contains_false_of_not_mem hsl) hcol (pyInt_dot _ hdot), hsplit, if_pos hlen.2, hpi]
  simp only [Option.bind_some, classful_of_range n hn]

theorem abbrev_many (os : List (List Char)) (o0 : List Char) (rest : List (List Char)) (hos : os = o0 :: rest)
    (hclean : ∀ o ∈ os, '.' ∉ o ∧ ':' ∉ o ∧ '/' ∉ o) (hlen : 2 ≤ os.length ∧ os.length ≤ 4)
    (n : Int) (hpi : Py.pyInt 10 o0 = some n) (hn : 0 ≤ n ∧ n ≤ 255) :
    cidrAbbrevToVerbose (['.'].intercalate os) =
      ['.'].intercalate (os ++ List.replicate (4 - os.length) ['0']) ++ '/' :: dec (classOf n.toNat) := by
  subst hos
  rw [abbrev_pieces _ hclean hlen n hpi hn]
  unfold padded
  rw [(clean_join _ (List.cons_ne_nil _ _) hclean).1]

/-- **Partial and classful IPv4 forms, at the full quantifier.**  Let `os` be one to four octet
    texts that `int()` reads (any spelling: "010", "+1", " 2", "1_0", …) as `ns`, all in
    0..255, `txt` = the texts joined by '.', `a` = the value with the missing octets zero.
    Version None or 4, any flags (`stored` clears the host bits under NOHOST):
    * `txt/T` for any prefix text `T` resolving to `q ≤ 32` (numeral, netmask, hostmask) builds
      `⟨4, a, q⟩`, with implicit_prefix False or True;
    * bare `txt`, implicit_prefix=False: `⟨4, a, 32⟩`;
    * bare `txt`, implicit_prefix=True: `⟨4, a, class prefix of the first octet⟩`. -/
theorem partial_forms (be : Backend) (os : List (List Char)) (ns : List Int) (h : Octets os ns)
    (pver : Option Nat) (hpver : pver = none ∨ pver = some 4) (fl : Nat) :
    let txt := ['.'].intercalate os
    let a := quadVal ns
    let c := classOf (ns.headD 0).toNat
    (∀ (T : List Char) (q : Nat) (i : Bool), T.contains '/' = false → resolvePrefix be 4 (some T) = .ok (q : Int) → q ≤ 32 →
      ipNetwork be (.str (txt ++ '/' :: T)) i pver fl = .ok ⟨4, stored 4 fl a q, q⟩) ∧
    ipNetwork be (.str txt) false pver fl = .ok ⟨4, a, 32⟩ ∧
    ipNetwork be (.str txt) true pver fl = .ok ⟨4, stored 4 fl a c, c⟩ := by
  intro txt a c
  obtain ⟨hns, hsp, hspec, ha, hcolon⟩ := octets_text os ns h
  obtain ⟨hm, hne, hlen, hr⟩ := h
  have hl := mapM_length hm
  refine ⟨?_, ?_, ?_⟩
  · intro T q i hT hres hq
    exact partial_net be txt a hns hspec T q hT hres hq pver hpver fl i
  · exact partial_bare_net be txt a hns hspec ha pver hpver fl
  · rw [ipNetwork_implicit]
    have hclean : ∀ o ∈ os, '.' ∉ o ∧ ':' ∉ o ∧ '/' ∉ o := by
      intro o ho
      obtain ⟨n, hn⟩ := mapM_all hm o ho
      exact pyInt_some_clean o n hn
    cases os with
    | nil => exact absurd rfl hne
    | cons o0 rest0 =>
      obtain ⟨n0, ns', hp0, hm', rfl⟩ := mapM_cons_some.1 hm
      have hn0 : 0 ≤ n0 ∧ n0 ≤ 255 := hr n0 (List.mem_cons_self ..)
      show ipNetwork be (.str (cidrAbbrevToVerbose txt)) false pver fl =
        .ok ⟨4, stored 4 fl a (classOf n0.toNat), classOf n0.toNat⟩
      cases rest0 with
      | nil =>
        cases hm'
        have hv : n0.toNat * 16777216 < 2 ^ width 4 := by
          have : width 4 = 32 := rfl
          rw [this]; omega
        have htxt : txt = o0 := by show ['.'].intercalate [o0] = o0; simp [List.intercalate]
        have hq : a = n0.toNat * 16777216 := by show quadVal [n0] = _; simp [quadVal]
        rw [htxt, abbrev_one o0 n0 hp0 hn0, hq]
        exact net_with_prefix_all be 4 (Or.inl rfl) _ hv _ _ (C03L.slash_not_in_dec _) (resolve_dec be 4 _)
          (classOf_le _) fl pver hpver false
      | cons o1 rest =>
        rw [abbrev_pieces (o0 :: o1 :: rest) hclean ⟨by simp, hlen⟩ n0 hp0 hn0]
        have hpad : addr4Spec (padded txt) = some a := (addr4Spec_pad txt (by rw [hsp]; exact hlen)).trans hspec
        exact partial_net be _ a (padded_noslash txt hns) hpad _ _ (C03L.slash_not_in_dec _) (resolve_dec be 4 _)
          (classOf_le _) pver hpver fl false

/-- octet spellings `int()` reads: zero-padded, signed, spaced -/
example : Octets ["010".toList, "+1".toList, " 2".toList] [10, 1, 2] := by
  refine ⟨by decide +kernel, by decide +kernel, by decide +kernel, by decide +kernel⟩

example : ipNetwork .platform (.str "010.+1. 2/24".toList) false none 0 = .ok ⟨4, 0x0A010200, 24⟩ := by decide_lit
example : ipNetwork .platform (.str "010.1".toList) true none 0 = .ok ⟨4, 0x0A010000, 8⟩ := by decide_lit

/-- **A bare IPv4 text, exactly.**  With version 4 and implicit_prefix=False a text without '/'
    is accepted exactly when its '.'-pieces are at most four, each read by `int()`, each in
    0..255 (`addr4Spec`); the network is that address with prefix 32. -/
theorem bare4_accepts_iff (be : Backend) (txt : List Char) (h1 : txt.contains '/' = false) (fl : Nat) (n : Net) :
    ipNetwork be (.str txt) false (some 4) fl = .ok n ↔ ∃ a, addr4Spec txt = some a ∧ n = ⟨4, a, 32⟩ := by
  cases hs : addr4Spec txt with
  | some a =>
    rw [partial_bare_net be txt a h1 hs (addr4Spec_lt txt a hs) (some 4) (Or.inr rfl) fl]
    constructor
    · intro h; cases h; exact ⟨a, rfl, rfl⟩
    · rintro ⟨a', ha', rfl⟩; cases ha'; rfl
  | none =>
    rw [net_err be (some 4) (Or.inr (Or.inl rfl)) txt false fl fun ver _ h => by
      cases h.resolve_left nofun
      rw [pre_false, spell_bare be 4 txt h1, show addrVal be 4 txt = _ from hs]; rfl]
    exact ⟨nofun, fun ⟨a, ha, _⟩ => nomatch ha⟩

/-! ### canonical decimal octets; a bare full address under both implicit_prefix values -/

theorem octets_dec (ds : List Nat) (hne : ds ≠ []) (hlen : ds.length ≤ 4) (hd : ∀ d ∈ ds, d < 256) :
    Octets (ds.map dec) (ds.map (fun d : Nat => (d : Int))) := by
  refine ⟨?_, by simpa using hne, by simpa using hlen, ?_⟩
  · exact List.mapM_map.trans (mapM_eq_pure_map _ _ ds fun d _ => pyInt_dec d)
  · intro n hn
    obtain ⟨d, hdm, rfl⟩ := List.mem_map.mp hn
    have := hd d hdm
    omega

/-- **Classful abbreviations, canonical octets, version None or 4, any flags**: `a`, `a.b`,
    `a.b.c` (and `a.b.c.d`) under implicit_prefix=True get the class prefix of `a`; the same
    texts with an explicit '/p' keep `p` whatever implicit_prefix says. -/
theorem classful_canonical (be : Backend) (ds : List Nat) (hne : ds ≠ []) (hlen : ds.length ≤ 4) (hd : ∀ d ∈ ds, d < 256)
    (pver : Option Nat) (hpver : pver = none ∨ pver = some 4) (fl : Nat) :
    let txt := ['.'].intercalate (ds.map dec)
    let a := quadVal (ds.map (fun d : Nat => (d : Int)))
    let c := classOf (ds.headD 0)
    ipNetwork be (.str txt) true pver fl = .ok ⟨4, stored 4 fl a c, c⟩ ∧
    ipNetwork be (.str txt) false pver fl = .ok ⟨4, a, 32⟩ ∧
    ∀ p i, p ≤ 32 → ipNetwork be (.str (txt ++ '/' :: dec p)) i pver fl = .ok ⟨4, stored 4 fl a p, p⟩ := by
  intro txt a c
  obtain ⟨h1, h2, h3⟩ := partial_forms be _ _ (octets_dec ds hne hlen hd) pver hpver fl
  have hc : c = classOf ((ds.map (fun d : Nat => (d : Int))).headD 0).toNat := by
    cases ds with
    | nil => exact absurd rfl hne
    | cons d _ => simp [c]
  refine ⟨?_, h2, ?_⟩
  · rw [hc]; exact h3
  · intro p i hp
    exact h1 (dec p) p i (C03L.slash_not_in_dec p) (resolve_dec be 4 p) hp

example : quadVal ([192, 168].map (fun d : Nat => (d : Int))) = 0xC0A80000 ∧ classOf ([192, 168].headD 0) = 24 := ⟨rfl, rfl⟩

/-- **A bare address, every flags and implicit_prefix value.**  implicit_prefix=False: the full
    width (host bits there are none to clear).  implicit_prefix=True: an IPv6 text still gets 128;
    an IPv4 dotted quad gets the class prefix of its first octet, the value kept (host bits
    cleared under NOHOST).  An IPAddress copy gets the full width. -/
theorem bare_all (be : Backend) (ver : Nat) (hver : VerOK ver) (v : Nat) (hv : v < 2 ^ width ver)
    (pver : Option Nat) (hpver : pver = none ∨ pver = some ver) (fl : Nat) :
    ipNetwork be (.str (intToStr be ver v)) false pver fl = .ok ⟨ver, v, width ver⟩ ∧
    (ver = 6 → ipNetwork be (.str (intToStr be ver v)) true pver fl = .ok ⟨6, v, 128⟩) ∧
    (ver = 4 → ipNetwork be (.str (intToStr be ver v)) true pver fl =
      .ok ⟨4, stored 4 fl v (classOf (v / 16777216)), classOf (v / 16777216)⟩) ∧
    ∀ i, ipNetwork be (.copyAddr ⟨ver, v⟩) i pver fl = .ok ⟨ver, v, width ver⟩ := by
  have hfalse : ipNetwork be (.str (intToStr be ver v)) false pver fl = .ok ⟨ver, v, width ver⟩ := by
    rw [net_ok be ver hver pver hpver (intToStr be ver v) false fl v (width ver)
      (by rw [pre_false, spell_bare be ver _ (addr_noslash be ver hver v hv), addrVal_print be ver hver v hv]; rfl),
      stored_full ver fl v hv]
  refine ⟨hfalse, ?_, ?_, fun _ => rfl⟩
  · intro h6; subst h6
    rw [implicit_ignored_colon be _ (addr6_colon be v hv) pver fl]
    exact hfalse
  · intro h4; subst h4
    have hw : width 4 = 32 := rfl
    rw [hw] at hv
    obtain ⟨h0, h1, h2, h3⟩ := octs_lt v hv
    have := (classful_canonical be [v / 16777216, v / 65536 % 256, v / 256 % 256, v % 256] (by simp) (by simp)
      (by intro d hd; simp at hd; rcases hd with e | e | e | e <;> subst e <;> assumption) pver hpver fl).1
    have htxt : ['.'].intercalate ([v / 16777216, v / 65536 % 256, v / 256 % 256, v % 256].map dec) = intToStr be 4 v := by
      show _ = ntoa v
      rw [ntoa_eq]; rfl
    have hq : quadVal ([v / 16777216, v / 65536 % 256, v / 256 % 256, v % 256].map (fun d : Nat => (d : Int))) = v :=
      (quadVal_octs _ _ _ _).2.2.2.trans (octs_sum v)
    rw [htxt, hq] at this
    exact this

example : classOf (0x0A010203 / 16777216) = 8 ∧ stored 4 NOHOST 0x0A010203 8 = 0x0A000000 := by decide +kernel

/-! ### rejections, for an arbitrary address part -/

/-- **A numeral prefix out of range is refused, whatever the address part.**  `T` is any text
    `int()` reads as `q` ("33", "-1", "+200", " 129", …), `val1` any '/'-free text at all;
    implicit_prefix False or True, any flags.  With version `ver`: `q ∉ 0..width` is
    AddrFormatError.  Without a version: `q ∉ 0..128` is AddrFormatError, and so is `q ∉ 0..32`
    when the address part has no ':' (it cannot be IPv6). -/
theorem rejects_numeral (be : Backend) (val1 T : List Char) (q : Int) (h1 : val1.contains '/' = false)
    (hq : Py.pyInt 10 T = some q) (i : Bool) (fl : Nat) :
    (∀ ver, VerOK ver → ¬ (0 ≤ q ∧ q ≤ (width ver : Int)) →
      ipNetwork be (.str (val1 ++ '/' :: T)) i (some ver) fl = .error .addrFormat) ∧
    (¬ (0 ≤ q ∧ q ≤ 128) → ipNetwork be (.str (val1 ++ '/' :: T)) i none fl = .error .addrFormat) ∧
    (':' ∉ val1 → ¬ (0 ≤ q ∧ q ≤ 32) → ipNetwork be (.str (val1 ++ '/' :: T)) i none fl = .error .addrFormat) := by
  -- family `ver` refuses a part when `q` is out of its range or the address part is not of the family
  have key : ∀ ver, ¬ (0 ≤ q ∧ q ≤ (width ver : Int)) ∨ addrVal be ver val1 = none →
      addrVal be ver val1 = none ∨ plenVal be ver (some T) = none :=
    fun ver h => h.symm.imp_right (plenVal_out_of_range be ver T q hq)
  refine ⟨fun ver hver hr => ?_, fun hr => ?_, fun hc hr => ?_⟩
  · exact net_slash_err be _ (pver_some ver hver) val1 T h1 i fl fun ver' _ h =>
      key ver' (Or.inl (by cases h.resolve_left nofun; exact hr))
  · exact net_slash_err be _ (Or.inl rfl) val1 T h1 i fl fun ver hver _ => key ver (Or.inl (by
      rcases hver with rfl | rfl
      · rw [width4_int]; omega
      · rw [width6_int]; exact hr))
  · refine net_slash_err be _ (Or.inl rfl) val1 T h1 i fl fun ver hver _ => key ver ?_
    rcases hver with rfl | rfl
    · exact Or.inl (by rw [width4_int]; exact hr)
    · right
      exact addrVal6_nocolon be hc

/-- **Negative and oversized decimal prefixes**: any text + '/' + a minus sign + the numeral of `n ≥ 1`, and
    `'<anything>/q'` with `q > 128` are AddrFormatError for version None, 4 and 6; `q > width`
    for that explicit version. -/
theorem rejects_decimal_prefix (be : Backend) (val1 : List Char) (h1 : val1.contains '/' = false)
    (pver : Option Nat) (hpver : pver = none ∨ pver = some 4 ∨ pver = some 6) (i : Bool) (fl : Nat) :
    (∀ n, 1 ≤ n → ipNetwork be (.str (val1 ++ '/' :: '-' :: dec n)) i pver fl = .error .addrFormat) ∧
    (∀ q, q > 128 → ipNetwork be (.str (val1 ++ '/' :: dec q)) i pver fl = .error .addrFormat) ∧
    (∀ ver q, VerOK ver → q > width ver → ipNetwork be (.str (val1 ++ '/' :: dec q)) i (some ver) fl = .error .addrFormat) := by
  have w : ∀ ver, VerOK ver → width ver ≤ 128 := by rintro ver (rfl | rfl) <;> decide
  refine ⟨fun n hn => ?_, fun q hq => ?_, fun ver q hver hq => ?_⟩
  · exact net_slash_err be pver hpver val1 _ h1 i fl fun ver _ _ =>
      Or.inr (plenVal_out_of_range be ver _ _ (pyInt_neg_dec n) (by omega))
  · exact net_slash_err be pver hpver val1 _ h1 i fl fun ver hver _ =>
      Or.inr (plenVal_out_of_range be ver _ _ (pyInt_dec q) (by have := w ver hver; omega))
  · exact net_slash_err be _ (pver_some ver hver) val1 _ h1 i fl fun ver' _ h =>
      Or.inr (plenVal_out_of_range be ver' _ _ (pyInt_dec q) (by cases h.resolve_left nofun; omega))

example : Py.pyInt 10 "-1".toList = some (-1) ∧ Py.pyInt 10 " +200".toList = some 200 := by decide_lit

theorem mask_text_no_prefix (be : Backend) (ver : Nat) (hver : VerOK ver) (m : Nat) (hm : m < 2 ^ width ver)
    (hn : isNetmask (width ver) m = false) (hh : isHostmask m = false) (ver' : Nat) (hver' : VerOK ver') (q : Int) :
    ¬ PrefixPart be ver' (some (intToStr be ver m)) q := by
  intro hpp
  by_cases hvv : ver' = ver
  · -- the same family: `resolve_mask` says what the lookup does, and `m` is no mask
    subst hvv
    have := (resolvePrefix_iff be ver' hver _ q).mpr hpp
    rw [resolve_mask be ver' hver m hm, hn, hh, if_neg Bool.false_ne_true, if_neg Bool.false_ne_true] at this
    cases this
  · -- a printed address is no numeral and no strict text of the other family: the ':' tells them apart
    rcases hpp with e | ⟨m', p, hip, _⟩
    · rw [pyInt_addr be ver hver m hm] at e; cases e
    · rcases hver with e | e <;> rcases hver' with e' | e' <;> subst e <;> subst e'
      · exact hvv rfl
      · exact colon_not_in_ntoa m (colon_of_strict6 be _ _ hip)
      · exact nocolon_of_strict4 be _ _ hip (addr6_colon be m hm)
      · exact hvv rfl

/-- **A non-contiguous mask is refused, whatever the address part**: the text of a mask value
    that is neither a netmask nor a hostmask, after any '/'-free text, with version None or the
    mask's family, implicit_prefix False or True, any flags. -/
theorem rejects_bad_mask (be : Backend) (ver : Nat) (hver : VerOK ver) (val1 : List Char) (h1 : val1.contains '/' = false)
    (m : Nat) (hm : m < 2 ^ width ver) (hn : isNetmask (width ver) m = false) (hh : isHostmask m = false)
    (pver : Option Nat) (hpver : pver = none ∨ pver = some 4 ∨ pver = some 6) (i : Bool) (fl : Nat) :
    ipNetwork be (.str (val1 ++ '/' :: intToStr be ver m)) i pver fl = .error .addrFormat :=
  net_slash_err be pver hpver val1 _ h1 i fl fun ver' hver' _ =>
    Or.inr (plenVal_none_of be ver' hver' _ (mask_text_no_prefix be ver hver m hm hn hh ver' hver' ·))

example : isNetmask 32 0xff00ff00 = false ∧ isHostmask 0xff00ff00 = false := ⟨rfl, rfl⟩

/-! ### a malformed address part -/

/-- `cidr_abbrev_to_verbose` on a text without '/': unchanged; or one numeral in 0..255 expanded
    to `n.0.0.0/<class>`; or at most four '.'-pieces padded with "0" pieces and given the class
    prefix of the first -/
theorem abbrev_bare_cases (txt : List Char) (h1 : txt.contains '/' = false) :
    cidrAbbrevToVerbose txt = txt ∨
    (∃ n : Int, Py.pyInt 10 txt = some n ∧ (0 ≤ n ∧ n ≤ 255) ∧
      cidrAbbrevToVerbose txt = ntoa (n.toNat * 16777216) ++ '/' :: dec (classOf n.toNat)) ∨
    (Py.pyInt 10 txt = none ∧ ':' ∉ txt ∧ (txt.splitOn '.').length ≤ 4 ∧ ∃ c, c ≤ 32 ∧
      cidrAbbrevToVerbose txt =
        ['.'].intercalate (txt.splitOn '.' ++ List.replicate (4 - (txt.splitOn '.').length) ['0']) ++ '/' :: dec c) := by
  by_cases hcol : ':' ∈ txt
  · exact Or.inl (abbrev_colon txt hcol)
  · cases hpi : Py.pyInt 10 txt with
    | some n =>
      by_cases hn : 0 ≤ n ∧ n ≤ 255
      · exact Or.inr (Or.inl ⟨n, rfl, hn, abbrev_one txt n hpi hn⟩)
      · left
        rw [abbrev_of_int txt n hpi, classful_out_of_range n hn]
    | none =>
      rw [abbrev_of_bare txt h1 hcol hpi]
      by_cases hl : (txt.splitOn '.').length ≤ 4
      · rw [if_pos hl]
        cases hc : (Py.pyInt 10 ((txt.splitOn '.').headD [])).bind classfulPrefix with
        | none => exact Or.inl rfl
        | some c =>
          obtain ⟨o, _, hco⟩ := Option.bind_eq_some_iff.mp hc
          have hc32 : c ≤ 32 := by
            rw [classful_rules] at hco
            split at hco
            · cases hco; exact classOf_le _
            · cases hco
          exact Or.inr (Or.inr ⟨rfl, hcol, hl, c, hc32, rfl⟩)
      · exact Or.inl (if_neg hl)

/-- **A malformed address part is refused, whatever follows.**  `val1` is any '/'-free text
    that is neither an IPv4 address part (`addr4Spec`: at most four '.'-pieces, each read by
    `int()`, each in 0..255) nor accepted by `inet_pton(AF_INET6, ·)`.  Bare or followed by
    '/' and any text at all, version None / 4 / 6, implicit_prefix False or True, any flags:
    AddrFormatError. -/
theorem rejects_bad_address (be : Backend) (val1 : List Char) (h1 : val1.contains '/' = false)
    (h4 : addr4Spec val1 = none) (h6 : inetPton6 be val1 = none) (suffix : Option (List Char))
    (pver : Option Nat) (hpver : pver = none ∨ pver = some 4 ∨ pver = some 6) (i : Bool) (fl : Nat) :
    ipNetwork be (.str (val1 ++ (match suffix with | none => [] | some T => '/' :: T))) i pver fl = .error .addrFormat := by
  have aa : ∀ ver, VerOK ver → addrVal be ver val1 = none := by
    rintro ver (rfl | rfl) <;> assumption
  cases suffix with
  | some T => exact net_slash_err be pver hpver val1 T h1 i fl fun ver hver _ => Or.inl (aa ver hver)
  | none =>
    rw [List.append_nil]
    have hfalse : ipNetwork be (.str val1) false pver fl = .error .addrFormat :=
      net_err be pver hpver val1 false fl fun ver hver _ => by
        rw [pre_false, spell_bare be ver val1 h1, aa ver hver]; rfl
    cases i with
    | false => exact hfalse
    | true =>
      rw [ipNetwork_implicit]
      rcases abbrev_bare_cases val1 h1 with e | ⟨n, hpi, hn, _⟩ | ⟨_, hcol, hlen, c, _, e⟩
      · rw [e]; exact hfalse
      · -- a numeral in 0..255 is an IPv4 address part
        have hd := (pyInt_some_clean val1 n hpi).1
        rw [addr4Spec_alt, List.splitOn_eq_singleton hd] at h4
        simp only [List.mapM_cons, List.mapM_nil, hpi, Option.bind_eq_bind, Option.bind_some, Option.pure_def] at h4
        rw [if_pos ⟨by simp, fun x hx => by rw [List.mem_singleton.mp hx]; exact hn⟩] at h4
        cases h4
      · rw [e]
        exact net_slash_err be pver hpver (padded val1) (dec c) (padded_noslash val1 h1) false fl fun ver hver _ =>
          Or.inl ((addrVal_pad be ver hver val1 hcol hlen).trans (aa ver hver))

example : addr4Spec "1.2.3.256".toList = none ∧ inetPton6 .platform "1.2.3.256".toList = none ∧
    addr4Spec "1.2.3.4.5".toList = none ∧ addr4Spec "1..2".toList = none ∧ addr4Spec "0x10".toList = none := by decide_lit

/-! ### `Spells`, unfolded per family -/

/-- IPv4: the address part is at most four '.'-pieces, each read by `int()`, each in 0..255
    (`addr4Spec`; a strict dotted quad is the special case) -/
theorem spells4_iff (be : Backend) (t : List Char) (a q : Nat) :
    Spells be 4 t a q ↔ secondSlash (splitSlash t).2 = false ∧ addr4Spec (splitSlash t).1 = some a ∧
      PrefixPart be 4 (splitSlash t).2 (q : Int) ∧ q ≤ 32 := by
  unfold Spells
  rw [addrPart4_iff be _ (splitSlash_fst t) a]
  rfl

/-- IPv6: the address part is what `inet_pton(AF_INET6, ·)` accepts (RFC 4291 text, C01.strict6_iff) -/
theorem spells6_iff (be : Backend) (t : List Char) (a q : Nat) :
    Spells be 6 t a q ↔ secondSlash (splitSlash t).2 = false ∧ inetPton6 be (splitSlash t).1 = some a ∧
      PrefixPart be 6 (splitSlash t).2 (q : Int) ∧ q ≤ 128 := by
  unfold Spells
  rw [addrPart6_iff, strict6_ok_iff be _ (splitSlash_fst t)]
  rfl

example : PrefixPart .platform 4 (some "255.255.0.0".toList) 16 :=
  Or.inr ⟨0xffff0000, 16, by decide +kernel, by decide +kernel, rfl, Or.inl (by decide +kernel)⟩

example : (⟨6, 0xfe80 <<< 112 ||| 5, 64⟩ : Net).WF := by
  refine ⟨Or.inr rfl, by decide +kernel, by decide +kernel⟩

example : addr4Spec "010.1".toList = some 0x0A010000 ∧ addr4Spec "1.2.3.04".toList = some 0x01020304 := by decide_lit

end NV.C03
