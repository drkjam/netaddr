/-
Props/C05.lean — property C05: CIDR summarisation is exact and minimal.

  "For any collection of addresses, networks (with or without host bits) and ranges of either
   family, cidr_merge returns the unique minimal list of CIDR blocks whose union is exactly the
   union of the inputs: blocks are pairwise disjoint, no two can be combined, IPv4 precedes IPv6
   and blocks ascend by address; the result does not depend on input order or duplication and
   merging it again changes nothing.  For any start <= end of one family, iprange_to_cidrs /
   IPRange.cidrs() / glob_to_cidrs return that same minimal list for the single interval
   [start.first, end.last]."

Vocabulary (Lemmas/Canon.lean, Lemmas/C05L*.lean):
* `Blk` = (base, k) is the address set `[base, base + 2^k)`; `den l a` = some block of `l` contains `a`.
* `Canon l` = every block aligned, strictly ascending, pairwise disjoint, no sibling pair
  (no two blocks that could be combined into one CIDR).
* `toBlk w ⟨val, plen⟩ = ⟨val, w - plen⟩`; `famBlks u l` = the blocks of the family-`u` networks of `l`.
* `RangeOK w l lo hi` = `l` is canonical as blocks, `den` is exactly `[lo, hi]`, every element has no
  host bits and a prefix ≤ w.  `NetCanon l` = ascending by (version, address) — IPv4 before
  IPv6 —, prefixes inside the width, canonical per family.
* `ItemWF` = what netaddr's constructors can produce (value < 2^width, prefix ≤ width; lo ≤ hi < 2^width);
  `iden xs u a` = address `a` of family `u` belongs to some input.
The theorems are for every width / version number (32 and 128 are instances) and every input list,
except `merge_minimal_total` (versions 4 and 6) and `glob_to_cidrs_spec` (width 32).
-/
import NetaddrVerif.Model.Summarise
import NetaddrVerif.Lemmas.C05LNet
namespace NV.C05
open NV NV.C05L NV.Summ Blk

/-! ### (a) iprange_to_cidrs / IPRange.cidrs() / glob_to_cidrs -/

/-- `iprange_to_cidrs(start, end)` for two networks or addresses of one family (host bits allowed)
    with `start.first ≤ end.last`: the result is canonical (aligned, ascending, disjoint, nothing
    combinable), denotes exactly `[start.first, end.last]`, and has no host bits. -/
theorem iprange_to_cidrs_spec (w : Nat) (s e : Pfx) (hs : s.val < 2 ^ w) (he : e.val < 2 ^ w)
    (hsp : s.plen ≤ w) (hep : e.plen ≤ w) (hle : s.first w ≤ e.last w) :
    RangeOK w (iprangeToCidrs w s e) (s.first w) (e.last w) :=
  range_net w s e hs he hsp hep hle

example : (⟨1, 46⟩ : Pfx).val < 2 ^ 128 ∧ (⟨2, 43⟩ : Pfx).val < 2 ^ 128 ∧
    (⟨1, 46⟩ : Pfx).first 128 ≤ (⟨2, 43⟩ : Pfx).last 128 := by decide +kernel

/-- address arguments: every `lo ≤ hi < 2^w` -/
theorem iprange_to_cidrs_addr (w lo hi : Nat) (hle : lo ≤ hi) (hhi : hi < 2 ^ w) :
    RangeOK w (iprangeToCidrs w ⟨lo, w⟩ ⟨hi, w⟩) lo hi :=
  range_addr w lo hi hle hhi

example : (4294967293 : Nat) ≤ 4294967295 ∧ 4294967295 < 2 ^ 32 := by decide

/-- *the unique* such list: any list with the same three properties is the one returned -/
theorem iprange_to_cidrs_unique (w : Nat) (s e : Pfx) (hs : s.val < 2 ^ w) (he : e.val < 2 ^ w)
    (hsp : s.plen ≤ w) (hep : e.plen ≤ w) (hle : s.first w ≤ e.last w)
    (l' : List Pfx) (h' : RangeOK w l' (s.first w) (e.last w)) : l' = iprangeToCidrs w s e := by
  have h := range_net w s e hs he hsp hep hle
  exact toBlk_inj w _ _ (fun b hb => (h'.wf b hb).2) (fun b hb => (h.wf b hb).2)
    (canon_unique _ _ h'.canon h.canon fun a => (h'.den_blk a).trans (h.den_blk a).symm)

/-- *minimal*: no list of aligned blocks with the same union is shorter -/
theorem iprange_to_cidrs_minimal (w : Nat) (s e : Pfx) (hs : s.val < 2 ^ w) (he : e.val < 2 ^ w)
    (hsp : s.plen ≤ w) (hep : e.plen ≤ w) (hle : s.first w ≤ e.last w)
    (l' : List Blk) (hal : ∀ c ∈ l', c.aligned) (hden : ∀ a, den l' a ↔ s.first w ≤ a ∧ a ≤ e.last w) :
    (iprangeToCidrs w s e).length ≤ l'.length := by
  have h := range_net w s e hs he hsp hep hle
  exact (C09L.unique_minimal w _ h.canon l' fun a => (hden a).trans (h.den_blk a).symm).2 hal

/-- `IPRange(lo, hi).cidrs()` -/
theorem range_cidrs_spec (r : Rng) (hle : r.lo ≤ r.hi) (hhi : r.hi < 2 ^ width r.ver) :
    ∃ L, rangeCidrs r = L.map (fun b => (⟨r.ver, b.val, b.plen⟩ : Net)) ∧
      RangeOK (width r.ver) L r.lo r.hi :=
  ⟨_, rfl, range_addr _ _ _ hle hhi⟩

example : (⟨4, 4294967293, 4294967295⟩ : Rng).lo ≤ (⟨4, 4294967293, 4294967295⟩ : Rng).hi ∧
    (⟨4, 4294967293, 4294967295⟩ : Rng).hi < 2 ^ width 4 := by decide

/-- the two ends of a valid glob (four octet pairs `l ≤ h ≤ 255`) are ordered and inside IPv4 -/
theorem glob_ends (os : List (Nat × Nat)) (hlen : os.length = 4) (hoct : ∀ o ∈ os, o.1 ≤ o.2 ∧ o.2 ≤ 255) :
    octetsToInt (os.map (·.1)) ≤ octetsToInt (os.map (·.2)) ∧ octetsToInt (os.map (·.2)) < 2 ^ 32 := by
  match os, hlen with
  | [a, b, c, d], _ =>
    have ha := hoct a (by simp); have hb := hoct b (by simp)
    have hc := hoct c (by simp); have hd := hoct d (by simp)
    simp only [octetsToInt, List.map_cons, List.map_nil, List.foldl_cons, List.foldl_nil]
    omega

/-- `glob_to_cidrs(glob)` for every valid glob, on its decoded octet pairs -/
theorem glob_to_cidrs_spec (os : List (Nat × Nat)) (hlen : os.length = 4)
    (hoct : ∀ o ∈ os, o.1 ≤ o.2 ∧ o.2 ≤ 255) :
    ∃ L, globToCidrs os = L.map (fun b => (⟨4, b.val, b.plen⟩ : Net)) ∧
      RangeOK 32 L (octetsToInt (os.map (·.1))) (octetsToInt (os.map (·.2))) := by
  obtain ⟨h1, h2⟩ := glob_ends os hlen hoct
  exact range_cidrs_spec ⟨4, _, _⟩ h1 h2

example : ([(10, 10), (0, 0), (1, 3), (0, 255)] : List (Nat × Nat)).length = 4 ∧
    ∀ o ∈ ([(10, 10), (0, 0), (1, 3), (0, 255)] : List (Nat × Nat)), o.1 ≤ o.2 ∧ o.2 ≤ 255 := by decide

/-! ### (b) cidr_merge -/

/-- exactness, per family: the union of the result is the union of the inputs -/
theorem merge_den (xs : List MItem) (hwf : ∀ it ∈ xs, ItemWF it) (u a : Nat) :
    den (famBlks u (cidrMerge xs)) a ↔ iden xs u a := by
  obtain ⟨R, hR, hn, hg, hd⟩ := merge_main xs hwf
  rw [hR, (flat_canon u R hn hg).2 a, hd u a]

/-- every returned network is a proper CIDR: no host bits, prefix and block inside the width -/
theorem merge_wf (xs : List MItem) (hwf : ∀ it ∈ xs, ItemWF it) (n : Net) (hn : n ∈ cidrMerge xs) :
    n.plen ≤ width n.ver ∧ n.val % 2 ^ (width n.ver - n.plen) = 0 ∧
      n.val + 2 ^ (width n.ver - n.plen) ≤ 2 ^ width n.ver := by
  obtain ⟨R, hR, hnorm, hg, _⟩ := merge_main xs hwf
  rw [hR] at hn
  obtain ⟨r, hr, h1, _, h3, h4, h5⟩ := (flat_order R hnorm hg).2 n hn
  exact ⟨h4, h5, fits_of_aligned _ _ _ (by have := (hg r hr).2; rw [← h1] at this; omega) h4 h5⟩

/-- the result is in the form the property describes: IPv4 before IPv6 and ascending by
    address; per family aligned, pairwise disjoint, no two blocks combinable -/
theorem merge_canon (xs : List MItem) (hwf : ∀ it ∈ xs, ItemWF it) : NetCanon (cidrMerge xs) := by
  obtain ⟨R, hR, hn, hg, _⟩ := merge_main xs hwf
  refine ⟨?_, fun n hn' => (merge_wf xs hwf n hn').1, fun u => ?_⟩
  · rw [hR]; exact (flat_order R hn hg).1
  · rw [hR]; exact (flat_canon u R hn hg).1

example : ∀ it ∈ [MItem.net 4 ⟨3232235777, 24⟩, MItem.rng 6 5 (2 ^ 128 - 1), MItem.net 4 ⟨3232236032, 32⟩],
    ItemWF it := by
  intro it hit
  simp only [List.mem_cons, List.not_mem_nil, or_false] at hit
  rcases hit with rfl | rfl | rfl <;> simp only [ItemWF] <;> decide +kernel

/-- *the unique* list: whatever list has the described form and the same union is the result -/
theorem merge_unique (xs : List MItem) (hwf : ∀ it ∈ xs, ItemWF it) (l' : List Net) (hl' : NetCanon l')
    (hden : ∀ u a, den (famBlks u l') a ↔ iden xs u a) : l' = cidrMerge xs :=
  net_ext _ _ hl' (merge_canon xs hwf) (fun u a => by rw [hden u a, merge_den xs hwf u a])

/-- the result depends only on the union of the inputs … -/
theorem merge_union_indep (xs ys : List MItem) (hx : ∀ it ∈ xs, ItemWF it) (hy : ∀ it ∈ ys, ItemWF it)
    (h : ∀ u a, iden xs u a ↔ iden ys u a) : cidrMerge xs = cidrMerge ys :=
  merge_unique ys hy _ (merge_canon xs hx) (fun u a => by rw [merge_den xs hx u a, h u a])

/-- … hence not on duplication (any two lists with the same set of items) … -/
theorem merge_dup (xs ys : List MItem) (hx : ∀ it ∈ xs, ItemWF it) (hs : ∀ it, it ∈ xs ↔ it ∈ ys) :
    cidrMerge xs = cidrMerge ys :=
  merge_union_indep xs ys hx (fun it h => hx it ((hs it).2 h))
    (fun u a => by simp only [iden]; exact ⟨fun ⟨it, h, m⟩ => ⟨it, (hs it).1 h, m⟩, fun ⟨it, h, m⟩ => ⟨it, (hs it).2 h, m⟩⟩)

/-- … nor on input order -/
theorem merge_perm (xs ys : List MItem) (hx : ∀ it ∈ xs, ItemWF it) (hp : xs.Perm ys) :
    cidrMerge xs = cidrMerge ys :=
  merge_dup xs ys hx fun _ => hp.mem_iff

theorem merge_idem (xs : List MItem) (hwf : ∀ it ∈ xs, ItemWF it) :
    cidrMerge ((cidrMerge xs).map (fun n => MItem.net n.ver ⟨n.val, n.plen⟩)) = cidrMerge xs := by
  symm
  have hw := merge_wf xs hwf
  refine merge_unique _ ?_ _ (merge_canon xs hwf) (fun u a => (iden_nets _ (fun n hn => (hw n hn).2) u a).symm)
  intro it hit
  obtain ⟨n, hn, rfl⟩ := List.mem_map.1 hit
  obtain ⟨h1, _, h3⟩ := hw n hn
  have := Nat.two_pow_pos (width n.ver - n.plen)
  exact ⟨by show n.val < _; omega, h1⟩

/-- *minimal*, per family: no list of aligned blocks with the same union is shorter -/
theorem merge_minimal (xs : List MItem) (hwf : ∀ it ∈ xs, ItemWF it) (u : Nat)
    (l' : List Blk) (hal : ∀ c ∈ l', c.aligned) (hden : ∀ a, den l' a ↔ iden xs u a) :
    (famBlks u (cidrMerge xs)).length ≤ l'.length :=
  canon_minimal _ l' ((merge_canon xs hwf).canon u) hal (fun a => by rw [hden a, merge_den xs hwf u a])

/-- *minimal*, whole mixed IPv4/IPv6 list: no list of host-bit-free networks with the same
    per-family union is shorter -/
theorem merge_minimal_total (xs : List MItem) (hwf : ∀ it ∈ xs, ItemWF it)
    (hver : ∀ it ∈ xs, it.toRange.ver = 4 ∨ it.toRange.ver = 6)
    (l' : List Net) (hal : ∀ n ∈ l', n.val % 2 ^ (width n.ver - n.plen) = 0)
    (hden : ∀ u a, den (famBlks u l') a ↔ iden xs u a) :
    (cidrMerge xs).length ≤ l'.length := by
  have hv : ∀ n ∈ cidrMerge xs, n.ver = 4 ∨ n.ver = 6 := by
    intro n hn
    have : den (famBlks n.ver (cidrMerge xs)) n.val :=
      ⟨⟨n.val, width n.ver - n.plen⟩, mem_famBlks_self hn, mem_base _⟩
    obtain ⟨it, hit, hvv, _⟩ := (merge_den xs hwf n.ver n.val).1 this
    rw [← hvv]; exact hver it hit
  have hal' : ∀ u, ∀ c ∈ famBlks u l', c.aligned := by
    intro u c hc
    obtain ⟨n, hn, hvn, rfl⟩ := mem_famBlks.1 hc
    have := hal n hn; rw [hvn] at this; exact this
  have h4 := merge_minimal xs hwf 4 _ (hal' 4) (hden 4)
  have h6 := merge_minimal xs hwf 6 _ (hal' 6) (hden 6)
  have := fam_len_eq _ hv
  have := fam_len_le l'
  omega

example : ∀ it ∈ [MItem.net 4 ⟨3232235777, 24⟩, MItem.rng 6 5 (2 ^ 128 - 1)],
    it.toRange.ver = 4 ∨ it.toRange.ver = 6 := by
  intro it hit
  simp only [List.mem_cons, List.not_mem_nil, or_false] at hit
  rcases hit with rfl | rfl <;> simp [MItem.toRange]

/-- a single range is summarised exactly as `IPRange.cidrs()` / `iprange_to_cidrs` do it -/
theorem merge_single_range (ver lo hi : Nat) :
    cidrMerge [MItem.rng ver lo hi] = rangeCidrs ⟨ver, lo, hi⟩ := by
  simp [cidrMerge, MItem.toRange, mergeSweep, MRange.emit, rangeCidrs]

/-- "that same minimal list": whenever the union of the inputs is the single interval
    `[lo, hi]` of family `ver`, `cidr_merge` returns exactly what `IPRange(lo, hi).cidrs()` /
    `iprange_to_cidrs(lo, hi)` return -/
theorem merge_interval (xs : List MItem) (hwf : ∀ it ∈ xs, ItemWF it) (ver lo hi : Nat)
    (hle : lo ≤ hi) (hhi : hi < 2 ^ width ver)
    (h : ∀ u a, iden xs u a ↔ ver = u ∧ lo ≤ a ∧ a ≤ hi) :
    cidrMerge xs = rangeCidrs ⟨ver, lo, hi⟩ := by
  rw [← merge_single_range]
  apply merge_union_indep xs _ hwf
  · intro it hit
    simp only [List.mem_cons, List.not_mem_nil, or_false] at hit
    subst hit; exact ⟨hle, hhi⟩
  · intro u a
    rw [h u a]
    simp [iden, MItem.toRange, rmem]

/-- `iter_unique_ips(*args)`: strictly ascending by (version, address) — hence without
    duplicates — and exactly the addresses of the inputs -/
theorem iter_unique_ips_spec (xs : List MItem) (hwf : ∀ it ∈ xs, ItemWF it) :
    (iterUniqueIps xs).Pairwise AddrLt ∧ ∀ x : Addr, x ∈ iterUniqueIps xs ↔ iden xs x.ver x.val := by
  have h := flat_addrs (cidrMerge xs) (merge_canon xs hwf)
    (fun n hn => (merge_wf xs hwf n hn).2)
  exact ⟨h.1, fun x => by rw [← merge_den xs hwf]; exact h.2 x⟩

end NV.C05
