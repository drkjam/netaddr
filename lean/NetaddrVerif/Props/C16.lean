/-
Props/C16.lean — property C16 "IPv4/IPv6 conversion is lossless and refuses what cannot
convert".  The property theorems; helper lemmas are in Lemmas/C16L, but for `embed_facts` and
`block_of_embed`, which stand here because their `match` has to be the one this module's statements are written with
(a `match` elaborated in another module is another auxiliary function, and `rw` does not see through it).

Statement (properties.jsonl): for every IPv4 address or network, ipv6() gives the
IPv4-mapped (::ffff:a.b.c.d) or, on request, IPv4-compatible (::a.b.c.d) IPv6 object with the
same low 32 bits and prefix+96, is_ipv4_mapped()/is_ipv4_compat() recognise exactly those two
/96 blocks, and ipv4() on the result returns the original object; ipv4() on an IPv4 object and
ipv6() on an IPv6 object are identities up to the documented mapped->compatible rewrite.  For
every IPv6 address outside those two /96 blocks, and every IPv6 network whose prefix is
shorter than /96, ipv4() raises AddrConversionError — never another exception and never a
wrong address.

Vocabulary: an IPv6 value `v` lies in the /96 block number `v / 2^32`; block `0` is
`::/96` (IPv4-compatible), block `0xffff` is `::ffff:0:0/96` (IPv4-mapped, first address
`mappedLo = 0xffff00000000`); `v % 2^32` are its low 32 bits.  All theorems are for every
well-formed object (`WF`: version 4 or 6, value < 2^width, prefix ≤ width) — no bounds.

Some of the model functions have a twin translated from netaddr's source text (Gen/Trans.lean); Props/Tie*.lean
prove the two equal (DESIGN.md 4.5; the `tie_theorems` of obligations/C16.json).
-/
import NetaddrVerif.Lemmas.C16L
import NetaddrVerif.Model.Network   -- `DecidableEq (Except ..)`, for the examples
namespace NV.C16
open NV NV.Address NV.Convert

/-! ### recognition of the two /96 blocks -/

/-- `is_ipv4_mapped` / `is_ipv4_compat` hold exactly for IPv6 values in `::ffff:0:0/96`
    = `[0xffff00000000, 0xffffffffffff]` and `::/96` = `[0, 0xffffffff]` -/
theorem recognise (ver val : Nat) :
    (isIpv4Mapped ver val = true ↔ ver = 6 ∧ 0xffff00000000 ≤ val ∧ val ≤ 0xffffffffffff) ∧
    (isIpv4Compat ver val = true ↔ ver = 6 ∧ val ≤ 0xffffffff) ∧
    (isIpv4Mapped ver val = true ↔ ver = 6 ∧ val / 2 ^ 32 = 0xffff) ∧
    (isIpv4Compat ver val = true ↔ ver = 6 ∧ val / 2 ^ 32 = 0) := by
  have hm := isIpv4Mapped_iff ver val
  have hc := isIpv4Compat_iff ver val
  exact ⟨hm.trans (and_congr_right fun _ => (mapped_iff val).symm),
    hc.trans (and_congr_right fun _ => (le_max4_iff val).symm), hm, hc⟩

example : isIpv4Mapped 6 0xffff01020304 = true ∧ isIpv4Mapped 6 0xfffeffffffff = false ∧
    isIpv4Mapped 6 0x1000000000000 = false ∧ isIpv4Compat 6 0xffffffff = true ∧
    isIpv4Compat 6 0x100000000 = false ∧ isIpv4Mapped 4 0 = false ∧ isIpv4Compat 4 0 = false := by decide

/-! ### addresses -/

/-- **ipv4() of an address, completely.**  IPv4: identity.  IPv6: the low 32 bits when the value
    is in one of the two /96 blocks, otherwise AddrConversionError. -/
theorem addrIpv4_spec (a : Addr) (h : a.WF) :
    addrIpv4 a =
      if a.ver = 4 then .ok a
      else if a.val / 2 ^ 32 = 0 ∨ a.val / 2 ^ 32 = 0xffff then .ok ⟨4, a.val % 2 ^ 32⟩
      else .error .addrConversion := by
  obtain ⟨ver, val⟩ := a
  obtain ⟨hver, hv⟩ := h
  dsimp only at hver hv ⊢
  unfold addrIpv4
  dsimp only
  rcases hver with rfl | rfl
  · rw [if_pos rfl, if_pos rfl, ctor4_ok val hv]
  · rw [if_neg six_ne_four, if_neg six_ne_four, if_pos rfl, low32_cases (fun x => ctor x (some 4)),
      ctor4_ok _ (low32_lt val)]

/-- **ipv6() of an address, completely**: never fails; IPv4 gives offset `0xffff00000000`
    (mapped) or `0` (compatible); IPv6 is the identity except that a mapped value is rewritten
    to the compatible one (same low 32 bits) when `ipv4_compatible` is set. -/
theorem addrIpv6_spec (a : Addr) (c : Bool) (h : a.WF) :
    addrIpv6 a c =
      if a.ver = 4 then .ok ⟨6, match c with | true => a.val | false => mappedLo + a.val⟩
      else .ok ⟨6, if c = true ∧ a.val / 2 ^ 32 = 0xffff then a.val % 2 ^ 32 else a.val⟩ := by
  obtain ⟨ver, val⟩ := a
  obtain ⟨hver, hv⟩ := h
  dsimp only at hver hv ⊢
  unfold addrIpv6
  dsimp only
  rcases hver with rfl | rfl
  · rw [if_neg four_ne_six, if_pos rfl, if_pos rfl,
      ctor6_ok val (lt_w6_of_lt_w4 hv)]
    cases c
    · exact ctor6_ok (mappedLo + val) (mappedLo_add_lt hv)
    · rfl
  · rw [if_pos rfl, if_neg six_ne_four, compat_cases (fun x => ctor x (some 6))]
    exact ctor6_ok _ (compat_val_lt hv)

/-- where an IPv4 value lands in the compatible (`c`) or the mapped /96 block: inside the IPv6 space, with
    the same low 32 bits, in block `0` resp. `0xffff`, recognised by exactly one of the two predicates.
    `r` names the embedded value so that its `match` is written once.
    (`generalizing := false`: otherwise `hr` is abstracted into the second `match`, which is then not the
    `match` of the statements below.) -/
theorem embed_facts (c : Bool) {v : Nat} (hv : v < 2 ^ 32) (r : Nat)
    (hr : r = match c with | true => v | false => mappedLo + v) :
    r < 2 ^ width 6 ∧ r % 2 ^ 32 = v ∧
    r / 2 ^ 32 = (match (generalizing := false) c with | true => 0 | false => 0xffff) ∧
    isIpv4Mapped 6 r = !c ∧ isIpv4Compat 6 r = c := by
  subst hr
  cases c
  · obtain ⟨hd, hm⟩ := mappedLo_add v hv
    exact ⟨mappedLo_add_lt hv, hm, hd, (isIpv4Mapped_six _).2 hd, (isIpv4Compat_six_false _).2 (by rw [hd]; decide)⟩
  · have hd := Nat.div_eq_of_lt hv
    exact ⟨lt_w6_of_lt_w4 hv, Nat.mod_eq_of_lt hv, hd, (isIpv4Mapped_six_false _).2 (by rw [hd]; decide),
      (isIpv4Compat_six _).2 hd⟩

theorem block_of_embed {b : Nat} (c : Bool) (h : b = (match c with | true => 0 | false => 0xffff)) :
    b = 0 ∨ b = 0xffff := by
  cases c
  · exact Or.inr h
  · exact Or.inl h

/-- **IPv4 → IPv6 → IPv4 is lossless** (addresses): `ipv6()` gives an IPv6 address in the mapped
    (or, on request, compatible) block with the same low 32 bits, recognised as such by the
    predicates, and `ipv4()` of it is the original address. -/
theorem addr_roundtrip (a : Addr) (c : Bool) (h : a.WF) (h4 : a.ver = 4) :
    ∃ r, addrIpv6 a c = .ok r ∧ r.WF ∧ r.ver = 6 ∧ r.val % 2 ^ 32 = a.val ∧
      r.val / 2 ^ 32 = (match c with | true => 0 | false => 0xffff) ∧
      isIpv4Mapped r.ver r.val = !c ∧ isIpv4Compat r.ver r.val = c ∧
      addrIpv4 r = .ok a := by
  obtain ⟨ver, val⟩ := a
  dsimp only at h4; subst h4
  obtain ⟨hlt, hm, hd, hM, hC⟩ := embed_facts c (show val < 2 ^ 32 from h.2) _ rfl
  have hwf : Addr.WF ⟨6, _⟩ := ⟨Or.inr rfl, hlt⟩
  rw [addrIpv6_spec _ c h, if_pos rfl]
  refine ⟨_, rfl, hwf, rfl, hm, hd, hM, hC, ?_⟩
  dsimp only
  rw [addrIpv4_spec _ hwf, if_neg six_ne_four, if_pos (block_of_embed c hd), hm]

example : addrIpv6 ⟨4, 0x01020304⟩ false = .ok ⟨6, 0xffff01020304⟩ ∧
    addrIpv6 ⟨4, 0x01020304⟩ true = .ok ⟨6, 0x01020304⟩ ∧
    addrIpv4 ⟨6, 0xffff01020304⟩ = .ok ⟨4, 0x01020304⟩ := by decide

/-- **IPv6 → IPv4 → IPv6 is lossless too**: for an IPv6 address in one of the two blocks,
    `ipv4()` then `ipv6()` into the same block gives the address back. -/
theorem addr_roundtrip64 (a : Addr) (h : a.WF) (h6 : a.ver = 6)
    (hb : a.val / 2 ^ 32 = 0 ∨ a.val / 2 ^ 32 = 0xffff) :
    ∃ b, addrIpv4 a = .ok b ∧ b.WF ∧ b.ver = 4 ∧ b.val = a.val % 2 ^ 32 ∧
      addrIpv6 b (a.val / 2 ^ 32 == 0) = .ok a := by
  obtain ⟨ver, val⟩ := a
  dsimp only at h6 hb ⊢; subst h6
  have hwf : Addr.WF ⟨4, val % 2 ^ 32⟩ := ⟨Or.inl rfl, low32_lt val⟩
  rw [addrIpv4_spec _ h, if_neg six_ne_four, if_pos hb]
  refine ⟨_, rfl, hwf, rfl, rfl, ?_⟩
  rw [addrIpv6_spec _ _ hwf, if_pos rfl]
  rcases hb with hb | hb <;> rw [hb]
  · exact congrArg (fun x => Except.ok (Addr.mk 6 x)) (low32_of_block0 hb)
  · exact congrArg (fun x => Except.ok (Addr.mk 6 x)) (mappedLo_add_mod val hb)

/-- **identities**: `ipv4()` of an IPv4 address and `ipv6()` of an IPv6 address return the
    same address, except for the documented rewrite of a mapped address to the compatible
    one (same low 32 bits) under `ipv4_compatible=True`. -/
theorem addr_identities (a : Addr) (h : a.WF) :
    (a.ver = 4 → addrIpv4 a = .ok a) ∧
    (a.ver = 6 → addrIpv6 a false = .ok a) ∧
    (a.ver = 6 → isIpv4Mapped a.ver a.val = false → addrIpv6 a true = .ok a) ∧
    (a.ver = 6 → isIpv4Mapped a.ver a.val = true →
      addrIpv6 a true = .ok ⟨6, a.val % 2 ^ 32⟩ ∧ isIpv4Compat 6 (a.val % 2 ^ 32) = true) := by
  obtain ⟨ver, val⟩ := a
  refine ⟨fun h4 => ?_, fun h6 => ?_, fun h6 hm => ?_, fun h6 hm => ?_⟩
  · rw [addrIpv4_spec _ h, if_pos h4]
  all_goals dsimp only at h6; subst h6
  · rw [addrIpv6_spec _ _ h, if_neg six_ne_four, if_neg (fun hc => Bool.false_ne_true hc.1)]
  · rw [addrIpv6_spec _ _ h, if_neg six_ne_four,
      if_neg (fun hc => (isIpv4Mapped_six_false val).1 hm hc.2)]
  · rw [addrIpv6_spec _ _ h, if_neg six_ne_four,
      if_pos ⟨rfl, (isIpv4Mapped_six val).1 hm⟩]
    exact ⟨rfl, low32_compat val⟩

/-- **refusal** (addresses): `ipv4()` fails exactly for IPv6 values outside the two /96
    blocks, and then with AddrConversionError — never another exception; `ipv6()` never fails. -/
theorem addr_refuses (a : Addr) (h : a.WF) :
    (∀ e, addrIpv4 a = .error e →
      e = .addrConversion ∧ a.ver = 6 ∧ isIpv4Mapped a.ver a.val = false ∧ isIpv4Compat a.ver a.val = false) ∧
    (a.ver = 6 → isIpv4Mapped a.ver a.val = false → isIpv4Compat a.ver a.val = false →
      addrIpv4 a = .error .addrConversion) ∧
    (∀ c e, addrIpv6 a c ≠ .error e) := by
  refine ⟨fun e he => ?_, fun h6 hm hc => ?_, fun c e => ?_⟩
  · rw [addrIpv4_spec a h] at he
    split at he
    · exact nomatch he
    · have h6 : a.ver = 6 := h.1.resolve_left ‹_›
      split at he
      · exact nomatch he
      · rename_i hb
        injection he with he
        rw [h6]
        exact ⟨he.symm, rfl, (isIpv4Mapped_six_false _).2 (fun hm => hb (Or.inr hm)),
          (isIpv4Compat_six_false _).2 (fun hc => hb (Or.inl hc))⟩
  · rw [h6] at hm hc
    rw [addrIpv4_spec a h, h6, if_neg six_ne_four,
      if_neg (fun hb => hb.elim ((isIpv4Compat_six_false _).1 hc) ((isIpv4Mapped_six_false _).1 hm))]
  · rw [addrIpv6_spec a c h]
    split <;> exact nofun

example : addrIpv4 ⟨6, 0x100000000⟩ = .error .addrConversion ∧          -- '::1:0:0'  (finding F3)
    addrIpv4 ⟨6, 0xfffeffffffff⟩ = .error .addrConversion ∧
    addrIpv4 ⟨6, 0x1000000000000⟩ = .error .addrConversion ∧
    addrIpv4 ⟨6, 2 ^ 128 - 1⟩ = .error .addrConversion ∧
    addrIpv4 ⟨6, 0xffffffff⟩ = .ok ⟨4, 0xffffffff⟩ ∧
    addrIpv6 ⟨6, 0xffff00000005⟩ true = .ok ⟨6, 5⟩ := by decide

/-! ### networks -/

/-- **ipv4() of a network, completely.**  IPv4: identity.  IPv6: AddrConversionError when the
    prefix is shorter than /96 or the value is outside the two blocks, otherwise the low 32
    bits (host bits included) with prefix − 96. -/
theorem netIpv4_spec (n : Net) (h : n.WF) :
    netIpv4 n =
      if n.ver = 4 then .ok n
      else if n.plen < 96 then .error .addrConversion
      else if n.val / 2 ^ 32 = 0 ∨ n.val / 2 ^ 32 = 0xffff then .ok ⟨4, n.val % 2 ^ 32, n.plen - 96⟩
      else .error .addrConversion := by
  obtain ⟨ver, val, plen⟩ := n
  obtain ⟨hver, hv, hp⟩ := h
  dsimp only at hver hv hp ⊢
  unfold netIpv4
  dsimp only
  rcases hver with rfl | rfl
  · rw [if_pos rfl, if_pos rfl, mkNet_ok 4 val plen hv hp]
  · rw [if_neg six_ne_four, if_neg six_ne_four, if_pos rfl]
    by_cases c0 : plen < 96
    · rw [if_pos c0, if_pos c0]
    · rw [if_neg c0, if_neg c0, low32_cases (fun x => mkNet 4 x ((plen : Int) - 96)),
        cast_sub96 (Nat.le_of_not_lt c0), mkNet_ok 4 _ _ (low32_lt val) (sub96_le hp)]

/-- **ipv6() of a network, completely**: never fails; IPv4 gives the mapped / compatible value
    with prefix + 96; IPv6 is the identity up to the mapped → compatible rewrite. -/
theorem netIpv6_spec (n : Net) (c : Bool) (h : n.WF) :
    netIpv6 n c =
      if n.ver = 4 then .ok ⟨6, match c with | true => n.val | false => mappedLo + n.val, n.plen + 96⟩
      else .ok ⟨6, if c = true ∧ n.val / 2 ^ 32 = 0xffff then n.val % 2 ^ 32 else n.val, n.plen⟩ := by
  obtain ⟨ver, val, plen⟩ := n
  obtain ⟨hver, hv, hp⟩ := h
  dsimp only at hver hv hp ⊢
  unfold netIpv6
  dsimp only
  rcases hver with rfl | rfl
  · rw [if_neg four_ne_six, if_pos rfl, if_pos rfl]
    cases c
    · exact mkNet_ok 6 (mappedLo + val) (plen + 96) (mappedLo_add_lt hv) (add96_le hp)
    · exact mkNet_ok 6 val (plen + 96) (lt_w6_of_lt_w4 hv) (add96_le hp)
  · rw [if_pos rfl, if_neg six_ne_four, compat_cases (fun x => mkNet 6 x plen)]
    exact mkNet_ok 6 _ plen (compat_val_lt hv) hp

/-- **IPv4 → IPv6 → IPv4 is lossless** (networks, host bits included): same low 32 bits,
    prefix + 96, in the requested block, and `ipv4()` of the result is the original network. -/
theorem net_roundtrip (n : Net) (c : Bool) (h : n.WF) (h4 : n.ver = 4) :
    ∃ r, netIpv6 n c = .ok r ∧ r.WF ∧ r.ver = 6 ∧ r.val % 2 ^ 32 = n.val ∧ r.plen = n.plen + 96 ∧
      r.val / 2 ^ 32 = (match c with | true => 0 | false => 0xffff) ∧
      isIpv4Mapped r.ver r.val = !c ∧ isIpv4Compat r.ver r.val = c ∧
      netIpv4 r = .ok n := by
  obtain ⟨ver, val, plen⟩ := n
  dsimp only at h4; subst h4
  obtain ⟨hlt, hm, hd, hM, hC⟩ := embed_facts c (show val < 2 ^ 32 from h.2.1) _ rfl
  have hwf : Net.WF ⟨6, _, plen + 96⟩ := ⟨Or.inr rfl, hlt, add96_le h.2.2⟩
  rw [netIpv6_spec _ c h, if_pos rfl]
  refine ⟨_, rfl, hwf, rfl, hm, rfl, hd, hM, hC, ?_⟩
  dsimp only
  rw [netIpv4_spec _ hwf, if_neg six_ne_four, if_neg (Nat.not_lt.mpr (Nat.le_add_left 96 plen)),
    if_pos (block_of_embed c hd), hm]
  rfl

/-- **IPv6 → IPv4 → IPv6 is lossless too** (networks): for an IPv6 network with prefix ≥ 96 in
    one of the two blocks, `ipv4()` then `ipv6()` into the same block gives the network back. -/
theorem net_roundtrip64 (n : Net) (h : n.WF) (h6 : n.ver = 6) (hp : 96 ≤ n.plen)
    (hb : n.val / 2 ^ 32 = 0 ∨ n.val / 2 ^ 32 = 0xffff) :
    ∃ b, netIpv4 n = .ok b ∧ b.WF ∧ b.ver = 4 ∧ b.val = n.val % 2 ^ 32 ∧ b.plen = n.plen - 96 ∧
      netIpv6 b (n.val / 2 ^ 32 == 0) = .ok n := by
  obtain ⟨ver, val, plen⟩ := n
  dsimp only at h6 hb hp ⊢; subst h6
  have hwf : Net.WF ⟨4, val % 2 ^ 32, plen - 96⟩ := ⟨Or.inl rfl, low32_lt val, sub96_le h.2.2⟩
  rw [netIpv4_spec _ h, if_neg six_ne_four, if_neg (Nat.not_lt.mpr hp), if_pos hb]
  refine ⟨_, rfl, hwf, rfl, rfl, rfl, ?_⟩
  rw [netIpv6_spec _ _ hwf, if_pos rfl]
  dsimp only
  rw [Nat.sub_add_cancel hp]
  rcases hb with hb | hb <;> rw [hb]
  · exact congrArg (fun x => Except.ok (Net.mk 6 x plen)) (low32_of_block0 hb)
  · exact congrArg (fun x => Except.ok (Net.mk 6 x plen)) (mappedLo_add_mod val hb)

example : netIpv6 ⟨4, 0x0a000005, 24⟩ false = .ok ⟨6, 0xffff0a000005, 120⟩ ∧
    netIpv6 ⟨4, 0x0a000005, 24⟩ true = .ok ⟨6, 0x0a000005, 120⟩ ∧
    netIpv4 ⟨6, 0xffff0a000005, 120⟩ = .ok ⟨4, 0x0a000005, 24⟩ ∧
    netIpv4 ⟨6, 0x0a000005, 96⟩ = .ok ⟨4, 0x0a000005, 0⟩ := by decide

theorem net_identities (n : Net) (h : n.WF) :
    (n.ver = 4 → netIpv4 n = .ok n) ∧
    (n.ver = 6 → netIpv6 n false = .ok n) ∧
    (n.ver = 6 → isIpv4Mapped n.ver n.val = false → netIpv6 n true = .ok n) ∧
    (n.ver = 6 → isIpv4Mapped n.ver n.val = true →
      netIpv6 n true = .ok ⟨6, n.val % 2 ^ 32, n.plen⟩ ∧ isIpv4Compat 6 (n.val % 2 ^ 32) = true) := by
  obtain ⟨ver, val, plen⟩ := n
  refine ⟨fun h4 => ?_, fun h6 => ?_, fun h6 hm => ?_, fun h6 hm => ?_⟩
  · rw [netIpv4_spec _ h, if_pos h4]
  all_goals dsimp only at h6; subst h6
  · rw [netIpv6_spec _ _ h, if_neg six_ne_four, if_neg (fun hc => Bool.false_ne_true hc.1)]
  · rw [netIpv6_spec _ _ h, if_neg six_ne_four,
      if_neg (fun hc => (isIpv4Mapped_six_false val).1 hm hc.2)]
  · rw [netIpv6_spec _ _ h, if_neg six_ne_four,
      if_pos ⟨rfl, (isIpv4Mapped_six val).1 hm⟩]
    exact ⟨rfl, low32_compat val⟩

/-- **refusal** (networks): `ipv4()` fails exactly for IPv6 networks whose prefix is shorter
    than /96 or whose value is outside the two /96 blocks — always with AddrConversionError,
    never another exception (in particular not the AddrFormatError for a prefix of minus 32
    of finding F3); `ipv6()` never fails. -/
theorem net_refuses (n : Net) (h : n.WF) :
    (∀ e, netIpv4 n = .error e →
      e = .addrConversion ∧ n.ver = 6 ∧
      (n.plen < 96 ∨ (isIpv4Mapped n.ver n.val = false ∧ isIpv4Compat n.ver n.val = false))) ∧
    (n.ver = 6 → n.plen < 96 → netIpv4 n = .error .addrConversion) ∧
    (n.ver = 6 → isIpv4Mapped n.ver n.val = false → isIpv4Compat n.ver n.val = false →
      netIpv4 n = .error .addrConversion) ∧
    (∀ c e, netIpv6 n c ≠ .error e) := by
  refine ⟨fun e he => ?_, fun h6 hp => ?_, fun h6 hm hc => ?_, fun c e => ?_⟩
  · rw [netIpv4_spec n h] at he
    split at he
    · exact nomatch he
    · have h6 : n.ver = 6 := h.1.resolve_left ‹_›
      split at he
      · rename_i hp
        injection he with he
        exact ⟨he.symm, h6, Or.inl hp⟩
      · split at he
        · exact nomatch he
        · rename_i hb
          injection he with he
          rw [h6]
          exact ⟨he.symm, rfl, Or.inr ⟨(isIpv4Mapped_six_false _).2 (fun hm => hb (Or.inr hm)),
            (isIpv4Compat_six_false _).2 (fun hc => hb (Or.inl hc))⟩⟩
  · rw [netIpv4_spec n h, h6, if_neg six_ne_four, if_pos hp]
  · rw [h6] at hm hc
    rw [netIpv4_spec n h, h6, if_neg six_ne_four,
      if_neg (fun hb : _ ∨ _ => hb.elim ((isIpv4Compat_six_false _).1 hc) ((isIpv4Mapped_six_false _).1 hm)), ite_self]
  · rw [netIpv6_spec n c h]
    split <;> exact nofun

example : netIpv4 ⟨6, 0xffff01020304, 64⟩ = .error .addrConversion ∧    -- '::ffff:1.2.3.4/64' (finding F3)
    netIpv4 ⟨6, 0x01020304, 95⟩ = .error .addrConversion ∧
    netIpv4 ⟨6, 0x100000000, 128⟩ = .error .addrConversion ∧
    netIpv4 ⟨6, 0xffff01020304, 96⟩ = .ok ⟨4, 0x01020304, 0⟩ ∧
    netIpv6 ⟨6, 0xffff01020304, 64⟩ true = .ok ⟨6, 0x01020304, 64⟩ := by decide
end NV.C16
