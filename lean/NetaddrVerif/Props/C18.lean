/-
Props/C18.lean — property C18 "Address classification follows the published special-purpose
blocks exactly".

Statement (properties.jsonl): for every address, is_multicast, is_loopback and is_link_local
agree with an independent implementation of the IANA special-purpose registries, is_unicast is
the exact negation of is_multicast, and is_private / is_reserved are True exactly inside the
blocks netaddr documents for them (link-local addresses always counting as private) — each
predicate constant across a block and flipping exactly at its first and last address.  Applied
to a network or range a predicate holds iff the whole object lies inside a single such block,
and classification never depends on how the object was constructed.

The `spec*` lists below are the independent numeric spelling (own constants, written from the
RFCs / netaddr's documentation, not derived from `Gen/Tables.lean`).  The model scans the
tables regenerated from /repo (`NV.Gen.ipv4Private` …); `tables_ok` and `tables_match` are
kernel-checked facts about those generated tables, so an edited, dropped or shifted row in
/repo makes them — and with them every theorem below — fail to check.
-/
import NetaddrVerif.Lemmas.C18L
namespace NV.C18
open NV NV.Contains NV.Classify

/-! ### Independent statement of the blocks: `(version, first, last)` -/

/-- IPv6 block bounds from the leading 16 bits -/
def lo6 (h : Nat) : Nat := h * 2 ^ 112
def hi6 (h : Nat) : Nat := h * 2 ^ 112 + (2 ^ 112 - 1)

/-- 224.0.0.0/4 (RFC 5771), ff00::/8 (RFC 4291) -/
def specMulticast : List Iv := [(4, 0xE0000000, 0xEFFFFFFF), (6, lo6 0xff00, hi6 0xffff)]
/-- 127.0.0.0/8 (RFC 1122), ::1/128 (RFC 4291) -/
def specLoopback : List Iv := [(4, 0x7F000000, 0x7FFFFFFF), (6, 1, 1)]
/-- 169.254.0.0/16 (RFC 3927), fe80::/10 (RFC 4291) -/
def specLinkLocal : List Iv := [(4, 0xA9FE0000, 0xA9FEFFFF), (6, lo6 0xfe80, hi6 0xfebf)]
/-- the blocks netaddr documents as private; link-local always counts as private -/
def specPrivate : List Iv := [
  (4, 0x0A000000, 0x0AFFFFFF),   -- 10.0.0.0/8        RFC 1918
  (4, 0x64400000, 0x647FFFFF),   -- 100.64.0.0/10     RFC 6598
  (4, 0xAC100000, 0xAC1FFFFF),   -- 172.16.0.0/12     RFC 1918
  (4, 0xC0000000, 0xC00000FF),   -- 192.0.0.0/24      RFC 5736
  (4, 0xC0A80000, 0xC0A8FFFF),   -- 192.168.0.0/16    RFC 1918
  (4, 0xC6120000, 0xC613FFFF),   -- 198.18.0.0/15     RFC 2544
  (4, 0xEF000000, 0xEFFFFFFF),   -- 239.0.0.0 - 239.255.255.255  RFC 2365
  (4, 0xA9FE0000, 0xA9FEFFFF),   -- 169.254.0.0/16    link-local
  (6, lo6 0xfc00, hi6 0xfdff),   -- fc00::/7          RFC 4193
  (6, lo6 0xfec0, hi6 0xfeff),   -- fec0::/10         RFC 3879
  (6, lo6 0xfe80, hi6 0xfebf)]   -- fe80::/10         link-local
/-- the blocks netaddr documents as reserved, in the order of `IPV4_RESERVED` then `IPV6_RESERVED`: `tables_match` compares this
    list with the generated tables position by position (see there) -/
def specReserved : List Iv := [
  (4, 0x00000000, 0x00FFFFFF),   -- 0.0.0.0/8
  (4, 0xC0000200, 0xC00002FF),   -- 192.0.2.0/24      TEST-NET-1
  (4, 0xF0000000, 0xFFFFFFFF),   -- 240.0.0.0/4
  (4, 0xC6336400, 0xC63364FF),   -- 198.51.100.0/24   TEST-NET-2
  (4, 0xCB007100, 0xCB0071FF),   -- 203.0.113.0/24    TEST-NET-3
  (4, 0xE9FC0000, 0xE9FC00FF),   -- 233.252.0.0/24
  (4, 0xEA000000, 0xEEFFFFFF),   -- 234.0.0.0 - 238.255.255.255
  (4, 0xE1000000, 0xE7FFFFFF),   -- 225.0.0.0 - 231.255.255.255
  (4, 0x7F000000, 0x7FFFFFFF),   -- 127.0.0.0/8
  (4, 0xC0586300, 0xC05863FF),   -- 192.88.99.0/24    6to4 relay anycast
  (6, lo6 0xff00, hi6 0xff0f),   -- ff00::/12
  (6, lo6 0x0000, hi6 0x00ff),   -- ::/8
  (6, lo6 0x0100, hi6 0x01ff),   -- 0100::/8
  (6, lo6 0x0200, hi6 0x03ff),   -- 0200::/7
  (6, lo6 0x0400, hi6 0x07ff),   -- 0400::/6
  (6, lo6 0x0800, hi6 0x0fff),   -- 0800::/5
  (6, lo6 0x1000, hi6 0x1fff),   -- 1000::/4
  (6, lo6 0x4000, hi6 0x5fff),   -- 4000::/3
  (6, lo6 0x6000, hi6 0x7fff),   -- 6000::/3
  (6, lo6 0x8000, hi6 0x9fff),   -- 8000::/3
  (6, lo6 0xa000, hi6 0xbfff),   -- a000::/3
  (6, lo6 0xc000, hi6 0xdfff),   -- c000::/3
  (6, lo6 0xe000, hi6 0xefff),   -- e000::/4
  (6, lo6 0xf000, hi6 0xf7ff),   -- f000::/5
  (6, lo6 0xf800, hi6 0xfbff),   -- f800::/6
  (6, lo6 0xfe00, hi6 0xfe7f)]   -- fe00::/9

/-! ### Facts about the generated tables (finite, decided by the kernel) -/

/-- every generated row is well-formed (family, bounds, the rebuilt `IPNetwork`/`IPRange`
    has exactly the row's first/last), sits in its family's table, and the single-object
    tables have one row -/
theorem tables_ok :
    tableOK 4 Gen.ipv4Multicast = true ∧ tableOK 6 Gen.ipv6Multicast = true ∧
    tableOK 4 Gen.ipv4Loopback = true ∧ tableOK 6 Gen.ipv6Loopback = true ∧
    tableOK 4 Gen.ipv4LinkLocal = true ∧ tableOK 6 Gen.ipv6LinkLocal = true ∧
    tableOK 4 Gen.ipv4Private = true ∧ tableOK 6 Gen.ipv6Private = true ∧
    tableOK 4 Gen.ipv4Reserved = true ∧ tableOK 6 Gen.ipv6Reserved = true ∧
    Gen.ipv4Multicast.length = 1 ∧ Gen.ipv6Multicast.length = 1 ∧
    Gen.ipv4Loopback.length = 1 ∧ Gen.ipv6Loopback.length = 1 ∧
    Gen.ipv4LinkLocal.length = 1 ∧ Gen.ipv6LinkLocal.length = 1 := by
  refine ⟨tableOK_of_block ?_, tableOK_of_block ?_, tableOK_of_block ?_, tableOK_of_block ?_,
    tableOK_of_block ?_, tableOK_of_block ?_, tableOK_of_block ?_, tableOK_of_block ?_,
    tableOK_of_block ?_, tableOK_of_block ?_, ?_, ?_, ?_, ?_, ?_, ?_⟩ <;> decide +kernel

theorem tables_match :
    sameSet (Gen.ipv4Multicast ++ Gen.ipv6Multicast) specMulticast = true ∧
    sameSet (Gen.ipv4Loopback ++ Gen.ipv6Loopback) specLoopback = true ∧
    sameSet (Gen.ipv4LinkLocal ++ Gen.ipv6LinkLocal) specLinkLocal = true ∧
    sameSet ((Gen.ipv4Private ++ Gen.ipv6Private) ++ (Gen.ipv4LinkLocal ++ Gen.ipv6LinkLocal)) specPrivate = true ∧
    sameSet (Gen.ipv4Reserved ++ Gen.ipv6Reserved) specReserved = true := by
  -- the reserved rows are compared in table order: pair by pair the IPv6 ones collide in the kernel's term cache (see `rowBlock`)
  exact ⟨by decide +kernel, by decide +kernel, by decide +kernel, by decide +kernel,
    sameSet_of_map_eq (by decide +kernel)⟩

/-- **is_multicast** holds iff the whole object lies inside 224.0.0.0/4 or ff00::/8 -/
theorem multicast_iff (x : Obj) (hx : x.WF) :
    isMulticast x = true ↔ InAny specMulticast x.ver x.first x.last := by
  obtain ⟨o1, o2, _, _, _, _, _, _, _, _, l1, l2, _⟩ := tables_ok
  exact (single_iff x hx o1 o2 l1 l2).trans (sameSet_spec tables_match.1 x)

theorem unicast_eq_not_multicast (x : Obj) : isUnicast x = !isMulticast x := rfl

/-- **is_loopback** holds iff the whole object lies inside 127.0.0.0/8 or is ::1 -/
theorem loopback_iff (x : Obj) (hx : x.WF) :
    isLoopback x = true ↔ InAny specLoopback x.ver x.first x.last := by
  obtain ⟨_, _, o1, o2, _, _, _, _, _, _, _, _, l1, l2, _⟩ := tables_ok
  exact (single_iff x hx o1 o2 l1 l2).trans (sameSet_spec tables_match.2.1 x)

private theorem link_local_rows (x : Obj) (hx : x.WF) :
    isLinkLocal x = true ↔ ∃ r ∈ Gen.ipv4LinkLocal ++ Gen.ipv6LinkLocal, rowHit x r := by
  obtain ⟨_, _, _, _, o1, o2, _, _, _, _, _, _, _, _, l1, l2⟩ := tables_ok
  exact single_iff x hx o1 o2 l1 l2

/-- **is_link_local** holds iff the whole object lies inside 169.254.0.0/16 or fe80::/10 -/
theorem link_local_iff (x : Obj) (hx : x.WF) :
    isLinkLocal x = true ↔ InAny specLinkLocal x.ver x.first x.last :=
  (link_local_rows x hx).trans (sameSet_spec tables_match.2.2.1 x)

/-- **is_private** holds iff the whole object lies inside a single documented private block
    or inside the link-local block -/
theorem private_iff (x : Obj) (hx : x.WF) :
    isPrivate x = true ↔ InAny specPrivate x.ver x.first x.last := by
  obtain ⟨_, _, _, _, _, _, o1, o2, _⟩ := tables_ok
  have hd := dispatch_iff x hx o1 o2
  rw [← sameSet_spec tables_match.2.2.2.1 x, exists_mem_append, ← hd, ← link_local_rows x hx]
  unfold isPrivate
  cases (if x.ver = 4 then scan x Gen.ipv4Private else if x.ver = 6 then scan x Gen.ipv6Private else false) <;>
    cases isLinkLocal x <;> decide

/-- **is_reserved** holds iff the whole object lies inside a single documented reserved block -/
theorem reserved_iff (x : Obj) (hx : x.WF) :
    isReserved x = true ↔ InAny specReserved x.ver x.first x.last := by
  obtain ⟨_, _, _, _, _, _, _, _, o1, o2, _⟩ := tables_ok
  exact (dispatch_iff x hx o1 o2).trans (sameSet_spec tables_match.2.2.2.2 x)

/-- **Addresses**: for every address each predicate is True exactly on the union of its
    blocks — constant across a block, flipping exactly at a block's first and last address
    (`lo <= v <= hi`) — for all 2^32 IPv4 and 2^128 IPv6 addresses. -/
theorem address_spec (a : Addr) (ha : a.WF) :
    (isMulticast (.addr a) = true ↔ ∃ b ∈ specMulticast, b.1 = a.ver ∧ b.2.1 ≤ a.val ∧ a.val ≤ b.2.2) ∧
    (isUnicast (.addr a) = true ↔ ¬ ∃ b ∈ specMulticast, b.1 = a.ver ∧ b.2.1 ≤ a.val ∧ a.val ≤ b.2.2) ∧
    (isLoopback (.addr a) = true ↔ ∃ b ∈ specLoopback, b.1 = a.ver ∧ b.2.1 ≤ a.val ∧ a.val ≤ b.2.2) ∧
    (isLinkLocal (.addr a) = true ↔ ∃ b ∈ specLinkLocal, b.1 = a.ver ∧ b.2.1 ≤ a.val ∧ a.val ≤ b.2.2) ∧
    (isPrivate (.addr a) = true ↔ ∃ b ∈ specPrivate, b.1 = a.ver ∧ b.2.1 ≤ a.val ∧ a.val ≤ b.2.2) ∧
    (isReserved (.addr a) = true ↔ ∃ b ∈ specReserved, b.1 = a.ver ∧ b.2.1 ≤ a.val ∧ a.val ≤ b.2.2) := by
  have hx : (Obj.addr a).WF := ha
  have key (s : List Iv) : InAny s (Obj.addr a).ver (Obj.addr a).first (Obj.addr a).last ↔
      ∃ b ∈ s, b.1 = a.ver ∧ b.2.1 ≤ a.val ∧ a.val ≤ b.2.2 := Iff.rfl
  refine ⟨(multicast_iff _ hx).trans (key _), ?_, (loopback_iff _ hx).trans (key _),
    (link_local_iff _ hx).trans (key _), (private_iff _ hx).trans (key _), (reserved_iff _ hx).trans (key _)⟩
  rw [unicast_eq_not_multicast, Bool.not_eq_true', ← Bool.not_eq_true]
  exact not_congr ((multicast_iff _ hx).trans (key _))

/-- the three IANA-registry predicates on IPv4 / IPv6 addresses, as plain numeric bounds -/
theorem iana_addr_bounds (v : Nat) :
    (v < 2 ^ 32 → (isMulticast (.addr ⟨4, v⟩) = true ↔ 0xE0000000 ≤ v ∧ v ≤ 0xEFFFFFFF)) ∧
    (v < 2 ^ 32 → (isLoopback (.addr ⟨4, v⟩) = true ↔ 0x7F000000 ≤ v ∧ v ≤ 0x7FFFFFFF)) ∧
    (v < 2 ^ 32 → (isLinkLocal (.addr ⟨4, v⟩) = true ↔ 0xA9FE0000 ≤ v ∧ v ≤ 0xA9FEFFFF)) ∧
    (v < 2 ^ 128 → (isMulticast (.addr ⟨6, v⟩) = true ↔ 0xff00 * 2 ^ 112 ≤ v)) ∧
    (v < 2 ^ 128 → (isLoopback (.addr ⟨6, v⟩) = true ↔ v = 1)) ∧
    (v < 2 ^ 128 → (isLinkLocal (.addr ⟨6, v⟩) = true ↔ 0xfe80 * 2 ^ 112 ≤ v ∧ v < 0xfec0 * 2 ^ 112)) := by
  have w4 (hv : v < 2 ^ 32) : (Obj.addr ⟨4, v⟩).WF := ⟨Or.inl rfl, hv⟩
  have w6 (hv : v < 2 ^ 128) : (Obj.addr ⟨6, v⟩).WF := ⟨Or.inr rfl, hv⟩
  refine ⟨fun hv => (multicast_iff _ (w4 hv)).trans (inAny_addr4 _ _ _ _ v), fun hv => (loopback_iff _ (w4 hv)).trans (inAny_addr4 _ _ _ _ v),
    fun hv => (link_local_iff _ (w4 hv)).trans (inAny_addr4 _ _ _ _ v), fun hv => ?_, fun hv => ?_, fun hv => ?_⟩
  · refine ((multicast_iff _ (w6 hv)).trans (inAny_addr6 _ _ _ _ v)).trans ?_
    simp only [lo6, hi6]
    omega
  · refine ((loopback_iff _ (w6 hv)).trans (inAny_addr6 _ _ _ _ v)).trans ?_
    omega
  · refine ((link_local_iff _ (w6 hv)).trans (inAny_addr6 _ _ _ _ v)).trans ?_
    simp only [lo6, hi6]
    omega

/-- **Classification never depends on how the object was constructed**: two valid objects of
    any kinds (address, network with any host bits, range) with the same version, first
    and last address get the same answer from all six predicates. -/
theorem construction_independent (x y : Obj) (hx : x.WF) (hy : y.WF)
    (hv : x.ver = y.ver) (hf : x.first = y.first) (hl : x.last = y.last) :
    isUnicast x = isUnicast y ∧ isMulticast x = isMulticast y ∧ isLoopback x = isLoopback y ∧
    isPrivate x = isPrivate y ∧ isLinkLocal x = isLinkLocal y ∧ isReserved x = isReserved y := by
  -- a predicate that is membership of `(ver, first, last)` in a block list cannot tell `x` from `y`
  have key (p : Obj → Bool) (s : List Iv) (h : ∀ z, z.WF → (p z = true ↔ InAny s z.ver z.first z.last)) : p x = p y := by
    rw [Bool.eq_iff_iff, h x hx, h y hy, hv, hf, hl]
  have hm := key _ _ multicast_iff
  exact ⟨by rw [unicast_eq_not_multicast, unicast_eq_not_multicast, hm], hm, key _ _ loopback_iff, key _ _ private_iff,
    key _ _ link_local_iff, key _ _ reserved_iff⟩

/-- non-vacuity: block ends and their outside neighbours; the F1 shape (a network ending at
    the end of an `IPRange` row); a straddling network; a range equal to a block -/
example : isPrivate (.addr ⟨4, 0x0AFFFFFF⟩) = true ∧ isPrivate (.addr ⟨4, 0x0B000000⟩) = false ∧
    isPrivate (.addr ⟨4, 0x09FFFFFF⟩) = false := by decide +kernel
example : isPrivate (.net ⟨4, 0xEF000000, 8⟩) = true ∧ isPrivate (.net ⟨4, 0xEF000000, 7⟩) = false := by decide +kernel
example : isReserved (.rng ⟨4, 0xEA000000, 0xEEFFFFFF⟩) = true ∧ isReserved (.rng ⟨4, 0xEA000000, 0xEF000000⟩) = false := by
  decide +kernel
example : isLoopback (.addr ⟨6, 1⟩) = true ∧ isLoopback (.addr ⟨6, 2⟩) = false ∧ isLoopback (.addr ⟨6, 0⟩) = false := by
  decide +kernel
example : isPrivate (.addr ⟨6, 0xfe80 * 2 ^ 112⟩) = true ∧ isLinkLocal (.net ⟨6, 0xfe80 * 2 ^ 112 + 5, 10⟩) = true := by
  decide +kernel
example : (Obj.net ⟨4, 0xEF000000, 8⟩).WF := ⟨Or.inl rfl, by decide, by decide⟩

end NV.C18
