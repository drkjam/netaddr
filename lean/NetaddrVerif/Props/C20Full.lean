/-
Props/C20Full.lean — closes the one gap of Props/C20.lean: the hypothesis `MergeExact` is
discharged from property C05's theorems about `cidrMerge` (`NV.C05.merge_wf`, `NV.C05.merge_den`),
which gives the C20 history theorem without any hypothesis.
-/
import NetaddrVerif.Props.C20
import NetaddrVerif.Props.C05
namespace NV.C20
open NV NV.Splitter NV.C20L NV.C05L Blk

theorem items_wf (ver : Nat) (subs : List Net) (hs : ∀ n ∈ subs, NOk ver n) :
    ∀ it ∈ toItems subs, ItemWF it := by
  intro it hit
  obtain ⟨n, hn, rfl⟩ := List.mem_map.1 hit
  obtain ⟨h1, h2, h3⟩ := hs n hn
  simp only [ItemWF]; rw [h1]; exact ⟨h2, h3⟩

theorem iden_items (ver : Nat) (subs : List Net) (hs : ∀ n ∈ subs, NOk ver n) (u a : Nat) :
    iden (toItems subs) u a ↔ u = ver ∧ Cov subs a := by
  simp only [iden, toItems, List.mem_map, Cov]
  constructor
  · rintro ⟨it, ⟨n, hn, rfl⟩, hr⟩
    simp only [MItem.toRange, rmem] at hr
    exact ⟨by rw [← hr.1]; exact (hs n hn).1, n, hn, hr.2⟩
  · rintro ⟨rfl, n, hn, hm⟩
    refine ⟨_, ⟨n, hn, rfl⟩, ?_⟩
    simp only [MItem.toRange, rmem]
    exact ⟨(hs n hn).1, hm⟩

/-- **`cidr_merge` is exact** in the form C20 needs — from Props/C05 -/
theorem mergeExact : MergeExact := by
  intro ver subs hs
  have hwf := items_wf ver subs hs
  -- the merged blocks of a family, as address sets, are the inputs when the family is `ver`, else nothing
  have hden : ∀ u a, (∃ m ∈ cidrMerge (toItems subs), m.ver = u ∧ nmem m a) ↔ u = ver ∧ Cov subs a := fun u a =>
    ((den_famBlks_nets _ (fun m hm => (C05.merge_wf _ hwf m hm).2) u a).symm.trans (C05.merge_den _ hwf u a)).trans
      (iden_items ver subs hs u a)
  have hver : ∀ m ∈ cidrMerge (toItems subs), m.ver = ver := fun m hm =>
    ((hden m.ver m.first).1 ⟨m, hm, rfl, Nat.le_refl _, netFirst_le_netLast ..⟩).1
  refine ⟨fun m hm => ?_, fun a => ⟨fun ⟨m, hm, hma⟩ => ((hden m.ver a).1 ⟨m, hm, rfl, hma⟩).2,
    fun hc => ((hden ver a).2 ⟨rfl, hc⟩).elim fun m h => ⟨m, h.1, h.2.2⟩⟩⟩
  obtain ⟨h1, _, h3⟩ := C05.merge_wf _ hwf m hm
  have hv := hver m hm
  have hp := Nat.two_pow_pos (width m.ver - m.plen)
  exact ⟨hv, by rw [← hv]; omega, by rw [← hv]; exact h1⟩

/-- **C20, the history theorem, without hypotheses**: from any state satisfying the invariant,
    along every finite history, the invariant holds at every point and every call satisfies
    `StepFacts` -/
theorem history_invariant (b : Net) (hb : b.WF) (ops : List Op) :
    ∀ (s g : List Net), Tiling b s g → AllGood b s g ops :=
  history_invariant_partial mergeExact b hb ops

/-- a fresh `SubnetSplitter(base)` and any history -/
theorem splitter (b : Net) (hb : b.WF) (ops : List Op) : AllGood b (init b) [] ops :=
  splitter_partial mergeExact b hb ops

end NV.C20
