/-
Props/C13.lean — property C13 "spanning_cidr returns the smallest single block covering all
inputs".  Property theorems only; helper lemmas are in Lemmas/C13L.lean.

Statement (properties.jsonl): for every sequence of two or more addresses/networks of one
family, spanning_cidr returns a host-bit-free network that contains every input (from the
lowest first address to the highest last address) and no longer-prefix block does; the result
is independent of input order and repetition.  Fewer than two inputs raise ValueError and
mixed families raise TypeError.

The theorems are about `spanningCidr` / `spanLoop` of Model/Cidr.lean (the definitions the
driver op `spanning` executes) and the argument-handling wrapper `Span.spanningCidrNets` of
Model/SpanErr.lean (driver op `span_nets`).
-/
import NetaddrVerif.Lemmas.C13L
import NetaddrVerif.Lemmas.NetBlock
namespace NV.C13
open NV NV.Span

/-- a valid `IPNetwork` of a family of width `w`: `(_value, _prefixlen)` -/
def PfxWF (w : Nat) (n : Pfx) : Prop := n.val < 2 ^ w ∧ n.plen ≤ w

/-- **C13, main theorem** (one family of any width `w`; IPv4: 32, IPv6: 128).
    For every sequence of two or more networks (addresses are `/w` networks; any host bits,
    any order, duplicates allowed) `spanning_cidr` returns a block `r` that
    * is a valid, host-bit-free network (`r.val` is a multiple of its block size, so
      `r.first = r.val`),
    * contains every input: `r.first <= n.first` and `n.last <= r.last` for all inputs `n`,
    * is the smallest such: every block `(v, q)` that contains every input has `q <= r.plen`
      (no longer-prefix block covers them). -/
theorem spanning_spec (w : Nat) (a b : Pfx) (rest : List Pfx) (hwf : ∀ n ∈ a :: b :: rest, PfxWF w n) :
    ∃ r, spanningCidr w (a :: b :: rest) = .ok r ∧
      r.plen ≤ w ∧ r.val < 2 ^ w ∧ r.val % 2 ^ (w - r.plen) = 0 ∧ r.first w = r.val ∧
      (∀ n ∈ a :: b :: rest, r.first w ≤ n.first w ∧ n.last w ≤ r.last w) ∧
      (∀ q v, q ≤ w → v < 2 ^ w →
        (∀ n ∈ a :: b :: rest, netFirst w v q ≤ n.first w ∧ n.last w ≤ netLast w v q) → q ≤ r.plen) := by
  refine ⟨_, spanningCidr_eq w a b rest, ?_⟩
  obtain ⟨hlo1, nlo, hnlo, elo⟩ := lowest_spec w a (b :: rest)
  obtain ⟨hhi1, nhi, hnhi, ehi⟩ := highest_spec w a (b :: rest)
  generalize lowest w a (b :: rest) = lo at *
  generalize highest w a (b :: rest) = hi at *
  have hhi : hi < 2 ^ w := ehi ▸ netLast_lt w nhi.val nhi.plen (hwf nhi hnhi).1
  have hlh : lo ≤ hi := Nat.le_trans (hlo1 a (List.mem_cons_self ..))
    (Nat.le_trans (netFirst_le_netLast w a.val a.plen) (hhi1 a (List.mem_cons_self ..)))
  obtain ⟨s1, s2, s3, s4, s5, -, s7⟩ := C05L.spanningOf_spec w lo hi hlh hhi
  generalize spanningOf w lo hi = r at *
  have hB := Nat.two_pow_pos (w - r.plen)
  have hvlt : r.val < 2 ^ w := Nat.lt_of_lt_of_le (Nat.lt_add_of_pos_right hB) s5
  have hfirst : r.first w = r.val := netFirst_of_aligned w r.val r.plen hvlt s2
  have hlast : r.last w = r.val + (2 ^ (w - r.plen) - 1) := netLast_of_aligned w r.val r.plen s2
  refine ⟨s1, hvlt, s2, hfirst, ?_, ?_⟩
  · intro n hn
    have h1 := hlo1 n hn
    have h2 := hhi1 n hn
    rw [hfirst, hlast]
    omega
  · intro q v hq hv hcov
    rcases Nat.lt_or_ge r.plen q with hqr | hqr
    · -- a longer prefix: the block of that size around `hi` starts above `lo`
      have h1 : lo < trunc hi (w - q) := C05L.fl_eq_trunc _ _ ▸ s7 q hqr hq
      have h2 := cover_trunc w v q lo hi hv (by rw [elo]; exact (hcov nlo hnlo).1)
        (by rw [ehi]; exact (hcov nhi hnhi).2) hlh
      exact absurd h2 (Nat.not_le_of_lt h1)
    · exact hqr

/-- **Order and repetition do not matter**: two sequences (length >= 2) with the same members
    — any permutation, any duplication — give the same result. -/
theorem perm_dup_invariant (w : Nat) (l l' : List Pfx) (h2 : 2 ≤ l.length) (h2' : 2 ≤ l'.length)
    (hmem : ∀ x, x ∈ l ↔ x ∈ l') : spanningCidr w l = spanningCidr w l' := by
  match l, l', h2, h2' with
  | a :: b :: rest, a' :: b' :: rest', _, _ =>
    rw [spanningCidr_eq, spanningCidr_eq, lowest_congr w a a' _ _ hmem, highest_congr w a a' _ _ hmem]

theorem perm_invariant (w : Nat) (l l' : List Pfx) (hp : l.Perm l') : spanningCidr w l = spanningCidr w l' := by
  by_cases h2 : 2 ≤ l.length
  · exact perm_dup_invariant w l l' h2 (by rw [← hp.length_eq]; exact h2) (fun x => hp.mem_iff)
  · have h2' : ¬ 2 ≤ l'.length := by rw [← hp.length_eq]; exact h2
    match l, l', h2, h2' with
    | [], [], _, _ => rfl
    | [], [_], _, _ => rfl
    | [_], [], _, _ => rfl
    | [_], [_], _, _ => rfl
    | _ :: _ :: _, _, h, _ => simp at h
    | _, _ :: _ :: _, _, h => simp at h

/-- **Errors of the core**: exactly the sequences with fewer than two elements are rejected,
    with ValueError. -/
theorem short_iff (w : Nat) (l : List Pfx) : spanningCidr w l = .error .value ↔ l.length < 2 := by
  match l with
  | [] => simp [spanningCidr]
  | [_] => simp [spanningCidr]
  | a :: b :: rest => rw [spanningCidr_eq]; simp

/-- **C13, errors, on the argument-handling wrapper** (`spanning_cidr(ip_addrs)` on the
    `IPNetwork(ip)` conversions of its elements):
    * fewer than two inputs ⇔ ValueError,
    * at least two inputs, not all of the first one's family ⇔ TypeError,
    * otherwise the result is the spanning block of the common family (so `spanning_spec`
      and `perm_dup_invariant` apply with `w = width ver`). -/
theorem errors (nets : List Net) :
    (spanningCidrNets nets = .error .value ↔ nets.length < 2) ∧
    (spanningCidrNets nets = .error .type_ ↔ (2 ≤ nets.length ∧ ∃ n ∈ nets, ∃ m ∈ nets, n.ver ≠ m.ver)) ∧
    (∀ a b rest, nets = a :: b :: rest → (∀ n ∈ nets, n.ver = a.ver) →
      ∃ r, spanningCidr (width a.ver) (nets.map (fun n => (⟨n.val, n.plen⟩ : Pfx))) = .ok r ∧
        spanningCidrNets nets = .ok ⟨a.ver, r.val, r.plen⟩) := by
  match nets with
  | [] => simp [spanningCidrNets]
  | [x] => simp [spanningCidrNets]
  | a :: b :: rest =>
    rw [spanningCidrNets_eq]
    by_cases hsame : ∀ n ∈ a :: b :: rest, n.ver = a.ver
    · rw [if_pos hsame]
      refine ⟨by simp [Except.map, spanningCidr], ⟨nofun, ?_⟩, ?_⟩
      · rintro ⟨_, n, hn, m, hm, hne⟩
        exact absurd ((hsame n hn).trans (hsame m hm).symm) hne
      · intro a' b' rest' heq _
        cases heq
        exact ⟨_, rfl, rfl⟩
    · rw [if_neg hsame]
      refine ⟨by simp, ⟨fun _ => ⟨by simp, ?_⟩, fun _ => rfl⟩, ?_⟩
      · obtain ⟨n, hn, hne⟩ := exists_mem_not hsame
        exact ⟨n, hn, a, List.mem_cons_self .., hne⟩
      · intro a' b' rest' heq hs
        cases heq
        exact absurd hs hsame

/-- **C13 on the function the driver op `span_nets` runs**: for two or more valid networks of
    one family the wrapper returns a valid, host-bit-free network of that family that contains
    every input, and every block containing all inputs has a prefix length `<=` the result's. -/
theorem spanning_nets_spec (a b : Net) (rest : List Net) (hwf : ∀ n ∈ a :: b :: rest, n.WF)
    (hver : ∀ n ∈ a :: b :: rest, n.ver = a.ver) :
    ∃ r, spanningCidrNets (a :: b :: rest) = .ok r ∧ r.WF ∧ r.ver = a.ver ∧ r.first = r.val ∧
      (∀ n ∈ a :: b :: rest, r.first ≤ n.first ∧ n.last ≤ r.last) ∧
      (∀ c : Net, c.WF → c.ver = a.ver → (∀ n ∈ a :: b :: rest, c.first ≤ n.first ∧ n.last ≤ c.last) →
        c.plen ≤ r.plen) := by
  obtain ⟨p, hp, hres⟩ := (errors (a :: b :: rest)).2.2 a b rest rfl hver
  -- quantifiers over the family-level list are quantifiers over the networks
  have hall : ∀ {P : Pfx → Prop}, (∀ n ∈ (⟨a.val, a.plen⟩ : Pfx) :: ⟨b.val, b.plen⟩ :: rest.map (fun n => ⟨n.val, n.plen⟩),
      P n) ↔ ∀ m ∈ a :: b :: rest, P ⟨m.val, m.plen⟩ :=
    List.forall_mem_map (l := a :: b :: rest) (f := fun n : Net => Pfx.mk n.val n.plen)
  obtain ⟨r, hr, s1, s2, s3, s4, s5, s6⟩ := spanning_spec (width a.ver) ⟨a.val, a.plen⟩ ⟨b.val, b.plen⟩
    (rest.map (fun n => (⟨n.val, n.plen⟩ : Pfx))) (hall.2 fun m hm => hver m hm ▸ (hwf m hm).2)
  obtain rfl : p = r := Except.ok.inj (hp.symm.trans hr)
  refine ⟨⟨a.ver, p.val, p.plen⟩, hres, ⟨(hwf a (List.mem_cons_self ..)).1, s2, s1⟩, rfl, s4, fun n hn => ?_,
    fun c hc hcv hcov => s6 c.plen c.val (hcv ▸ hc.2.2) (hcv ▸ hc.2.1) (hall.2 fun m hm => ?_)⟩
  · have := hall.1 s5 n hn
    unfold Net.first Net.last
    rw [hver n hn]
    exact this
  · have := hcov m hm
    unfold Net.first Net.last at this
    rw [hcv, hver m hm] at this
    exact this

/-- order / repetition invariance on the wrapper, errors included: two sequences of length
    >= 2 with the same members give the same result or the same error -/
theorem nets_perm_dup_invariant (l l' : List Net) (h2 : 2 ≤ l.length) (h2' : 2 ≤ l'.length)
    (hmem : ∀ x, x ∈ l ↔ x ∈ l') : spanningCidrNets l = spanningCidrNets l' := by
  match l, l', h2, h2' with
  | a :: b :: rest, a' :: b' :: rest', _, _ =>
    have ha' : (∀ n ∈ a :: b :: rest, n.ver = a.ver) → a'.ver = a.ver := fun h => h a' ((hmem a').2 (List.mem_cons_self ..))
    have ha : (∀ n ∈ a' :: b' :: rest', n.ver = a'.ver) → a.ver = a'.ver := fun h => h a ((hmem a).1 (List.mem_cons_self ..))
    rw [spanningCidrNets_eq, spanningCidrNets_eq]
    by_cases hsame : ∀ n ∈ a :: b :: rest, n.ver = a.ver
    · -- one family on the left, hence on the right, and the family-level lists have the same members
      rw [if_pos hsame, if_pos fun n hn => (hsame n ((hmem n).2 hn)).trans (ha' hsame).symm, ha' hsame]
      exact congrArg _ (perm_dup_invariant (width a.ver) _ _ (by simp) (by simp) fun x => by
        simp only [List.mem_map]
        exact ⟨fun ⟨n, hn, e⟩ => ⟨n, (hmem n).1 hn, e⟩, fun ⟨n, hn, e⟩ => ⟨n, (hmem n).2 hn, e⟩⟩)
    · rw [if_neg hsame, if_neg fun h => hsame fun n hn => (h n ((hmem n).1 hn)).trans (ha h).symm]

/-- non-vacuity: the F2 witnesses (fixed by e6cfd06) and the boundary shapes -/
example : spanningCidr 32 [⟨167772160, 8⟩, ⟨167837696, 16⟩] = .ok ⟨167772160, 8⟩ := by decide
example : spanningCidr 32 [⟨167772165, 24⟩, ⟨167772160, 24⟩] = .ok ⟨167772160, 24⟩ := by decide
example : spanningCidr 32 [⟨167772415, 32⟩, ⟨167772416, 32⟩] = .ok ⟨167772160, 23⟩ := by decide
example : spanningCidr 32 [⟨0, 32⟩, ⟨4294967295, 32⟩] = .ok ⟨0, 0⟩ := by decide
example : spanningCidr 128 [⟨1, 46⟩, ⟨2, 43⟩] = .ok ⟨0, 43⟩ := by decide
example : ∀ n ∈ [(⟨167772160, 8⟩ : Pfx), ⟨167837696, 16⟩], PfxWF 32 n := by
  intro n hn
  simp only [List.mem_cons, List.mem_nil_iff, or_false] at hn
  rcases hn with rfl | rfl <;> exact ⟨by decide, by decide⟩
example : spanningCidrNets [⟨4, 1, 8⟩] = .error .value := by decide
example : spanningCidrNets [⟨4, 1, 8⟩, ⟨6, 1, 8⟩] = .error .type_ := by decide
example : spanningCidrNets [⟨4, 167772160, 8⟩, ⟨4, 167837696, 16⟩] = .ok ⟨4, 167772160, 8⟩ := by decide

end NV.C13
