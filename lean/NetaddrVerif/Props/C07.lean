/-
Props/C07.lean — property C07 "IPSet algebra and queries agree with plain set theory on
addresses".  The property theorems; the query theorems are proved here from the lemmas of
Lemmas/IPSetQueries and BlkCount, the others cite Lemmas/IPSet*.  The second part (iteration over addresses,
queries as steps of a history) is Props/C07b.lean.
-/
import NetaddrVerif.Lemmas.IPSetMergeOps
import NetaddrVerif.Lemmas.IPSetDifference
import NetaddrVerif.Lemmas.IPSetInter
import NetaddrVerif.Lemmas.IPSetQueries
import NetaddrVerif.Props.C06
namespace NV.C07
open NV NV.IPSet

/-- membership: `ip in ipset` (address or network, host bits allowed) is True exactly when
    every address of the argument is denoted by the set -/
theorem contains_iff (s : St) (hs : Inv s) (n : Net) (hn : n.WF) :
    contains s n = true ↔ ∀ a, n.first ≤ a → a ≤ n.last → denS s n.ver a :=
  IPSet.contains_iff s hs n hn

theorem issubset_iff (s t : St) (hs : Inv s) (ht : Inv t) :
    issubset s t = true ↔ ∀ ver a, denS s ver a → denS t ver a := by
  unfold issubset
  simp only [List.all_eq_true]
  constructor
  · intro h ver a ⟨n, hn, hv, h1, h2⟩
    have := (contains_iff t ht n (hs.wf n hn)).1 (h n hn) a h1 h2
    rw [hv] at this; exact this
  · intro h n hn
    apply (contains_iff t ht n (hs.wf n hn)).2
    intro a h1 h2
    exact h n.ver a ⟨n, hn, rfl, h1, h2⟩

theorem issuperset_iff (s t : St) (hs : Inv s) (ht : Inv t) :
    issuperset s t = true ↔ ∀ ver a, denS t ver a → denS s ver a := issubset_iff t s ht hs

/-- `A & B` (`intersection`): for canonical operands the result is canonical and contains
    exactly the addresses common to both — for every pair of sets, any mix of families -/
theorem intersection_spec (s t : St) (hs : Inv s) (ht : Inv t) :
    Inv (intersection s t) ∧
    ∀ ver a, denS (intersection s t) ver a ↔ denS s ver a ∧ denS t ver a :=
  IPSet.intersection_spec s t hs ht

/-- `A | B` (`union`: a copy, then `update(B)`) -/
theorem union_spec (s t : St) (hs : Inv s) (ht : Inv t) :
    Inv (union s t) ∧ ∀ u a, denS (union s t) u a ↔ denS s u a ∨ denS t u a := IPSet.union_spec s t hs ht

/-- `A - B` (`difference`): for canonical operands (any mix of families) the result is
    canonical and contains exactly the addresses of `A` that are not in `B`.  Covers the
    two-cursor sweep, `_subtract` (gaps before, between and after the subtracted blocks),
    `_iter_merged_ranges`, `iprange_to_cidrs` on every merged range, and the fact that whole
    kept blocks and the blocks of the ranges never form a combinable pair. -/
theorem difference_spec (s t : St) (hs : Inv s) (ht : Inv t) :
    Inv (difference s t) ∧ ∀ ver a, denS (difference s t) ver a ↔ denS s ver a ∧ ¬ denS t ver a :=
  IPSet.difference_spec s t hs ht

/-- `A ^ B` (`symmetric_difference`): for canonical operands the result is canonical and
    contains exactly the addresses that are in one operand and not in the other -/
theorem symmetric_difference_spec (s t : St) (hs : Inv s) (ht : Inv t) :
    Inv (symmetricDifference s t) ∧
    ∀ ver a, denS (symmetricDifference s t) ver a ↔
      (denS s ver a ∧ ¬ denS t ver a) ∨ (denS t ver a ∧ ¬ denS s ver a) :=
  IPSet.symmetricDifference_spec s t hs ht

/-- a concrete instance of the hypotheses, and what the two theorems say about it:
    10.0.0.0/24 minus (and also xor) 10.0.0.128/25 keeps 10.0.0.1 and drops 10.0.0.129 -/
example : Inv (newOfNet ⟨4, 0x0a000005, 24⟩) ∧ Inv (newOfNet ⟨4, 0x0a000080, 25⟩) :=
  ⟨(newOfNet_spec _ (by simp [Net.WF, width])).1, (newOfNet_spec _ (by simp [Net.WF, width])).1⟩
example : denS (difference (newOfNet ⟨4, 0x0a000005, 24⟩) (newOfNet ⟨4, 0x0a000080, 25⟩)) 4 0x0a000001 ∧
    ¬ denS (difference (newOfNet ⟨4, 0x0a000005, 24⟩) (newOfNet ⟨4, 0x0a000080, 25⟩)) 4 0x0a000081 := by
  have hA := newOfNet_spec ⟨4, 0x0a000005, 24⟩ (by simp [Net.WF, width])
  have hB := newOfNet_spec ⟨4, 0x0a000080, 25⟩ (by simp [Net.WF, width])
  have hD := (difference_spec _ _ hA.1 hB.1).2
  rw [hD, hD, hA.2, hA.2, hB.2, hB.2]
  unfold argDen
  decide +kernel
example : denS (symmetricDifference (newOfNet ⟨4, 0x0a000005, 24⟩) (newOfNet ⟨4, 0x0a000080, 25⟩)) 4 0x0a000001 ∧
    ¬ denS (symmetricDifference (newOfNet ⟨4, 0x0a000005, 24⟩) (newOfNet ⟨4, 0x0a000080, 25⟩)) 4 0x0a000081 := by
  have hA := newOfNet_spec ⟨4, 0x0a000005, 24⟩ (by simp [Net.WF, width])
  have hB := newOfNet_spec ⟨4, 0x0a000080, 25⟩ (by simp [Net.WF, width])
  have hD := (symmetric_difference_spec _ _ hA.1 hB.1).2
  rw [hD, hD, hA.2, hA.2, hB.2, hB.2]
  unfold argDen
  decide +kernel

theorem isdisjoint_iff (s t : St) (hs : Inv s) (ht : Inv t) :
    isdisjoint s t = true ↔ ∀ ver a, ¬ (denS s ver a ∧ denS t ver a) := by
  unfold isdisjoint
  rw [List.isEmpty_iff, nil_iff_no_den]
  exact forall_congr' fun ver => forall_congr' fun a => not_congr ((intersection_spec s t hs ht).2 ver a)

/-- iteration order: `iter_cidrs()` (hence `__iter__`, `repr`) ascends by address with IPv4
    before IPv6 (`lin` places the IPv6 space after the IPv4 space) -/
theorem iter_order (s : St) (hs : Inv s) :
    ((iterCidrs s).map lin).Pairwise (fun b c => b.base < c.base) := (canon_shown s hs).sorted

example : contains [⟨4, 0x0a000000, 24⟩] ⟨4, 0x0a000005, 32⟩ = true := by decide +kernel
example : contains [⟨4, 0x0a000000, 24⟩] ⟨4, 0x0a000005, 23⟩ = false := by decide +kernel

/-! ### queries: iter_ipranges / iscontiguous / iprange / size / len / < / > -/

/-- `iter_ipranges()` is, per family, the interval normal form of the set: every range is
    valid and of a real family, the list ascends with IPv4 before IPv6, any two ranges of one
    family are separated by a gap (so none can be merged), and the ranges cover exactly the
    denoted addresses -/
theorem iter_ipranges_spec (s : St) (hs : Inv s) :
    (∀ r ∈ iterIpranges s, (r.1 = 4 ∨ r.1 = 6) ∧ r.2.1 ≤ r.2.2) ∧
    (iterIpranges s).Pairwise (fun x y => x.1 < y.1 ∨ (x.1 = y.1 ∧ x.2.2 + 1 < y.2.1)) ∧
    (∀ ver a, (∃ r ∈ iterIpranges s, r.1 = ver ∧ r.2.1 ≤ a ∧ a ≤ r.2.2) ↔ denS s ver a) := by
  obtain ⟨i1, i2, i3, _⟩ := IPSet.iterIpranges_spec s hs
  exact ⟨fun r hr => ⟨iterIpranges_ver s hs r hr, i1 r hr⟩, i2, i3⟩

theorem iter_ipranges_unique (s t : St) (hs : Inv s) (ht : Inv t)
    (h : ∀ ver a, denS s ver a ↔ denS t ver a) : iterIpranges s = iterIpranges t := by
  unfold iterIpranges; rw [shown_unique s t hs ht h]

/-- `iscontiguous()` is True exactly when `iter_ipranges()` yields at most one range
    (no canonicity needed: this is a fact about the two loops) -/
theorem iscontiguous_iff_ranges (s : St) : iscontiguous s = true ↔ (iterIpranges s).length ≤ 1 := by
  rw [iscontiguous_eq]
  unfold iterIpranges
  cases iterCidrs s with
  | nil => simp [mergedRanges]
  | cons c rest =>
    show _ ↔ (mergedRangesAux (c.ver, c.first, c.last) (rest.map vrOf)).length ≤ 1
    rcases contig_cases rest c c.first with ⟨h1, h2⟩ | ⟨h1, r, r', t, h2⟩ <;> simp [h1, h2]

/-- `iscontiguous()`: the set is empty or exactly one interval of one family; in particular a
    set with addresses of both families is not contiguous -/
theorem iscontiguous_iff (s : St) (hs : Inv s) :
    iscontiguous s = true ↔
      (∀ ver a, ¬ denS s ver a) ∨
      ∃ v lo hi, lo ≤ hi ∧ ∀ u a, denS s u a ↔ u = v ∧ lo ≤ a ∧ a ≤ hi := by
  rw [iscontiguous_iff_ranges]
  constructor
  · intro h
    cases hl : iterIpranges s with
    | nil => exact Or.inl ((ranges_nil_iff s).1 hl)
    | cons r t =>
      cases t with
      | nil =>
        obtain ⟨v, lo, hi⟩ := r
        exact Or.inr ⟨v, lo, hi, (ranges_single_iff s hs v lo hi).1 hl⟩
      | cons r' t' => rw [hl] at h; simp at h
  · rintro (h | ⟨v, lo, hi, h⟩)
    · rw [(ranges_nil_iff s).2 h]; simp
    · rw [(ranges_single_iff s hs v lo hi).2 h]; simp

/-- the three outcomes of `iprange()`, read off `iter_ipranges()`: no range → None, one range →
    that range, two or more → ValueError -/
theorem iprange_by_ranges (s : St) :
    iprange s = match iterIpranges s with
      | [] => .ok none
      | [r] => .ok (some ⟨r.1, r.2.1, r.2.2⟩)
      | _ :: _ :: _ => .error .value := by
  unfold iprange iterIpranges
  rw [iscontiguous_eq]
  cases iterCidrs s with
  | nil => rfl
  | cons c rest =>
    show _ = match mergedRangesAux (c.ver, c.first, c.last) (rest.map vrOf) with
      | [] => _ | [r] => _ | _ :: _ :: _ => _
    rcases contig_cases rest c c.first with ⟨h1, h2⟩ | ⟨h1, r, r', t, h2⟩
    · simp only [h1, h2, if_true, List.getLast?_cons, Option.getD_some]
    · simp only [h1, h2, Bool.false_eq_true, if_false]

theorem iprange_none_iff (s : St) (hs : Inv s) : iprange s = .ok none ↔ ∀ ver a, ¬ denS s ver a := by
  rw [← ranges_nil_iff s, iprange_by_ranges]
  cases hl : iterIpranges s with
  | nil => simp
  | cons r t =>
    cases t with
    | nil => simp
    | cons r' t' => simp

theorem iprange_some_iff (s : St) (hs : Inv s) (r : Rng) :
    iprange s = .ok (some r) ↔
      r.lo ≤ r.hi ∧ ∀ u a, denS s u a ↔ u = r.ver ∧ r.lo ≤ a ∧ a ≤ r.hi := by
  rw [← ranges_single_iff s hs, iprange_by_ranges]
  cases hl : iterIpranges s with
  | nil => simp
  | cons x t =>
    cases t with
    | nil =>
      obtain ⟨v, lo, hi⟩ := x
      obtain ⟨rv, rlo, rhi⟩ := r
      simp only [Except.ok.injEq, Option.some.injEq, Rng.mk.injEq, List.cons.injEq, Prod.mk.injEq, and_true]
    | cons r' t' => simp

/-- `iprange()` raises exactly when the set is not contiguous, and then it is ValueError —
    never any other error (no IndexError at the top address, no error for mixed families) -/
theorem iprange_error_iff (s : St) (e : Err) :
    iprange s = .error e ↔ e = .value ∧ iscontiguous s = false := IPSet.iprange_error_iff s e

/-- `size` is the number of addresses: the sum of the lengths of the merged ranges -/
theorem size_eq_ranges (s : St) (hs : Inv s) :
    size s = ((iterIpranges s).map (fun r => r.2.2 - r.2.1 + 1)).sum := by
  rw [← (IPSet.iterIpranges_spec s hs).2.2.2, vrSum_eq_sum]

theorem size_unique (s t : St) (hs : Inv s) (ht : Inv t)
    (h : ∀ ver a, denS s ver a ↔ denS t ver a) : size s = size t :=
  ((perm_of_den s t hs ht h).map _).sum_nat

/-- `len()`: IndexError exactly above `sys.maxsize`, else the size; nothing else -/
theorem len_spec (maxint : Nat) (s : St) :
    (len maxint s = .error .index ↔ size s > maxint) ∧
    (¬ size s > maxint → len maxint s = .ok (size s)) ∧
    (len maxint s = .error .index ∨ len maxint s = .ok (size s)) := by
  unfold len
  by_cases h : size s > maxint
  · simp [h]
  · simp [h]

/-- inclusion bounds the sizes … -/
theorem size_mono (s t : St) (hs : Inv s) (ht : Inv t)
    (h : ∀ ver a, denS s ver a → denS t ver a) : size s ≤ size t := by
  have hws : ∀ n ∈ s, n.WF := hs.wf
  have hwt : ∀ n ∈ t, n.WF := ht.wf
  rw [size_eq_total s hws, size_eq_total t hwt]
  exact total_le_of_sub _ _ (lin_pairwise_disj s hs) (lin_pairwise_disj t ht) (sub_lin s t hws hwt h)

/-- … with equality exactly for equal sets -/
theorem size_eq_iff_of_sub (s t : St) (hs : Inv s) (ht : Inv t)
    (h : ∀ ver a, denS s ver a → denS t ver a) :
    size s = size t ↔ ∀ ver a, denS s ver a ↔ denS t ver a :=
  ⟨fun he ver a => ⟨h ver a, sup_of_sub_of_size_eq s t hs ht h he ver a⟩,
   fun hd => size_unique s t hs ht hd⟩

/-- `s < t`: strict inclusion of the address sets (`issubset` and a smaller `size`; under inclusion
    equal sizes force equal sets) -/
theorem lt_iff (s t : St) (hs : Inv s) (ht : Inv t) :
    lt s t = true ↔
      (∀ ver a, denS s ver a → denS t ver a) ∧ ¬ (∀ ver a, denS t ver a → denS s ver a) := by
  unfold lt
  simp only [Bool.and_eq_true, decide_eq_true_eq]
  rw [issubset_iff s t hs ht]
  constructor
  · rintro ⟨h1, h2⟩
    refine ⟨h2, fun h3 => ?_⟩
    have := size_mono t s ht hs h3
    omega
  · rintro ⟨h1, h2⟩
    refine ⟨?_, h1⟩
    have hle := size_mono s t hs ht h1
    rcases Nat.lt_or_ge (size s) (size t) with h | h
    · exact h
    · exact absurd (sup_of_sub_of_size_eq s t hs ht h1 (by omega)) h2

theorem gt_iff (s t : St) (hs : Inv s) (ht : Inv t) :
    gt s t = true ↔
      (∀ ver a, denS t ver a → denS s ver a) ∧ ¬ (∀ ver a, denS s ver a → denS t ver a) :=
  lt_iff t s ht hs

/-! ### concrete instances -/

/-- a canonical mixed-family state: two adjacent but not combinable IPv4 blocks
    (10.0.1.0/24, 10.0.2.0/24), a separate one (10.0.4.0/24) and ::1/128 -/
def exS : St := [⟨4, 0x0a000100, 24⟩, ⟨4, 0x0a000200, 24⟩, ⟨4, 0x0a000400, 24⟩, ⟨6, 1, 128⟩]

/-- it is reachable through `add` from the empty set, hence satisfies the hypotheses -/
theorem exS_inv : Inv exS := by
  have e : exS = [⟨4, 0x0a000100, 24⟩, ⟨4, 0x0a000200, 24⟩, ⟨4, 0x0a000400, 24⟩, ⟨6, 1, 128⟩].foldl addNet [] := by
    decide +kernel
  rw [e]
  refine (C06.add_history _ fun n hn => ?_).1
  simp only [List.mem_cons, List.not_mem_nil, or_false] at hn
  rcases hn with rfl | rfl | rfl | rfl <;> exact ⟨by decide, by decide, by decide⟩

example : iterIpranges exS = [(4, 0x0a000100, 0x0a0002ff), (4, 0x0a000400, 0x0a0004ff), (6, 1, 1)] := by
  rw [iterIpranges, iterCidrs_sorted _ (by decide +kernel)]; decide +kernel
example : iscontiguous exS = false := by
  rw [iscontiguous, iterCidrs_sorted _ (by decide +kernel)]; decide +kernel
example : iprange exS = .error .value := by
  rw [iprange, iscontiguous, iterCidrs_sorted _ (by decide +kernel)]; decide +kernel
example : iprange [⟨4, 0x0a000100, 24⟩, ⟨4, 0x0a000200, 24⟩] = .ok (some ⟨4, 0x0a000100, 0x0a0002ff⟩) := by
  rw [iprange, iscontiguous, iterCidrs_sorted _ (by decide +kernel)]; decide +kernel
/-- the top address: no IndexError -/
example : iprange [⟨4, 0xffffffff, 32⟩] = .ok (some ⟨4, 0xffffffff, 0xffffffff⟩) := by decide +kernel
/-- both families, numerically "adjacent" ends: not contiguous -/
example : iprange [⟨4, 0xffffffff, 32⟩, ⟨6, 0, 128⟩] = .error .value := by
  rw [iprange, iscontiguous, iterCidrs_sorted _ (by decide +kernel)]; decide +kernel
example : iprange [] = .ok none := by decide +kernel
example : size exS = 769 := by decide +kernel
example : len (2 ^ 63 - 1) [⟨6, 0, 64⟩] = .error .index := by decide +kernel
example : len (2 ^ 63 - 1) exS = .ok 769 := by decide +kernel
example : lt [⟨4, 0x0a000200, 24⟩] exS = true := by decide +kernel
example : lt exS exS = false := by decide +kernel
example : gt [⟨4, 0x0a000200, 23⟩] [⟨4, 0x0a000200, 24⟩] = true := by decide +kernel
/-- fewer addresses but not a subset: not `<` -/
example : lt [⟨4, 0x0a000200, 24⟩] [⟨4, 0x0a000400, 24⟩, ⟨6, 1, 128⟩] = false := by decide +kernel

end NV.C07
