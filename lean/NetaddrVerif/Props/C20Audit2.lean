/-
Props/C20Audit2.lean — property C20: the order of `available_subnets()` and the exact outcome
of every `extract_subnet` call.

Order: `available_subnets()` (contrib/subnet_splitter.py:40-42,
`sorted(self._subnets, key=lambda x: x.prefixlen, reverse=True)`) is in descending prefix order
(`available_sorted`, a `List.Pairwise` statement) and the sort is stable (`available_stable`:
blocks of one prefix length keep the set's iteration order).

Outcome: `extract_subnet(prefix, count)` (contrib/subnet_splitter.py:25-38
with `IPNetwork.subnet`, ip/__init__.py:1298-1337).  `Props/C20.lean` says what holds IF a call
returned blocks / `[]` / an error; here it is proved WHICH of the three happens and WHAT is
returned:

* the block that is split (`candidate`) is the first one in `available_subnets()` order whose
  prefix length is `≤ prefix`; in terms of the free set alone (`candidate_iff`): it fits, no
  fitting free block has a longer prefix (best fit), and it is the first block of its prefix
  length in the set's iteration order;
* no candidate (`candidate_none_iff`: every free block has a longer prefix) ⇒ `[]`, state untouched;
* a candidate `cidr` with `M = 2^(prefix - cidr.prefixlen)` aligned /prefix slots and
  `c = count` (or `M` when count is None): `1 ≤ c ≤ M` ⇒ exactly the first `c` aligned /prefix
  blocks of `cidr`, `[sub cidr prefix 0, …, sub cidr prefix (c-1)]`, in this order, and the new
  free set is `residue`; otherwise (`count < 1` or `count > M`) ⇒ ValueError — the loop does NOT
  go on to a larger free block that could have met the count;
* `extract_outcome_iff`: the three cases as equivalences; `extract_length`: how many blocks.

`history_outcomes` states it along every history of a fresh `SubnetSplitter(base)`.

All theorems are about `NV.Splitter.extractSubnet` / `step` / `availableSubnets`
(Model/Splitter.lean), the definitions the driver op `splitter` runs.  Prefixes beyond the
family width are outside the property's domain (README row 13): there the theorem only says
that the call raises (`extract_beyond_width`).
-/
import NetaddrVerif.Props.C20Full
namespace NV.C20A2
open NV NV.Splitter NV.C20L

/-! ### the order of `available_subnets()` -/

/-- the sort key of `available_subnets()` compares transitively and totally -/
theorem plenGe_trans (a b c : Net) : decide (a.plen ≥ b.plen) = true → decide (b.plen ≥ c.plen) = true →
    decide (a.plen ≥ c.plen) = true := by
  intro h1 h2; simp only [decide_eq_true_eq] at *; omega

theorem plenGe_total (a b : Net) : (decide (a.plen ≥ b.plen) || decide (b.plen ≥ a.plen)) = true := by
  simp only [Bool.or_eq_true, decide_eq_true_eq]; omega

/-- **`available_subnets()` is sorted by prefix length, descending**
    (contrib/subnet_splitter.py:42) -/
theorem available_sorted (s : List Net) :
    (availableSubnets s).Pairwise (fun a b => a.plen ≥ b.plen) := by
  have h := List.pairwise_mergeSort (le := fun (a b : Net) => decide (a.plen ≥ b.plen)) plenGe_trans plenGe_total s
  exact h.imp (by intro a b hab; simpa using hab)

/-- **the sort is stable** (Python's `sorted` is; so is `List.mergeSort`): the free blocks of one
    prefix length appear in `available_subnets()` in the set's iteration order -/
theorem available_stable (s : List Net) (p : Nat) :
    (availableSubnets s).filter (fun c => c.plen == p) = s.filter (fun c => c.plen == p) := by
  -- the blocks of prefix `p` in set order are a sublist of the sorted list (stable sort), and have the length of
  -- its blocks of prefix `p` (a permutation): a sublist of equal length is the list
  have hsub : (s.filter (fun c => c.plen == p)).Sublist (availableSubnets s) := by
    apply List.sublist_mergeSort (le := fun (a b : Net) => decide (a.plen ≥ b.plen)) plenGe_trans plenGe_total
    · rw [List.pairwise_filter]
      apply List.Pairwise.imp_of_mem (R := fun _ _ => True) _ (List.pairwise_of_forall (fun _ _ => trivial))
      intro a b ha' hb' _ ha hb
      simp only [beq_iff_eq] at ha hb
      simp only [decide_eq_true_eq]; omega
    · exact List.filter_sublist
  have hsub2 := hsub.filter (fun c => c.plen == p)
  rw [List.filter_filter] at hsub2
  simp only [Bool.and_self] at hsub2
  have hlen : ((availableSubnets s).filter (fun c => c.plen == p)).length =
      (s.filter (fun c => c.plen == p)).length :=
    ((C20.available_is_state s).filter _).length_eq
  exact (hsub2.eq_of_length hlen.symm).symm

/-! ### the block `extract_subnet` splits -/

/-- the free block `extract_subnet(prefix, …)` stops at: the first one in `available_subnets()`
    order whose prefix length is `≤ prefix` (the first `cidr` for which `cidr.subnet(prefix, …)`
    is not the empty generator, ip/__init__.py:1315-1317) -/
def candidate (s : List Net) (pfx : Int) : Option Net :=
  (availableSubnets s).find? (fun c => decide ((c.plen : Int) ≤ pfx))

/-- no candidate iff every free block is smaller than the request -/
theorem candidate_none_iff (s : List Net) (pfx : Int) :
    candidate s pfx = none ↔ ∀ c ∈ s, pfx < (c.plen : Int) := by
  simp only [candidate, List.find?_eq_none, decide_eq_true_eq, Int.not_le]
  constructor
  · intro h c hc; exact h c ((C20.available_is_state s).mem_iff.2 hc)
  · intro h c hc; exact h c ((C20.available_is_state s).mem_iff.1 hc)

/-- **the candidate is the best fit**: a free block that is large enough, no free block that is
    large enough has a longer prefix, and among the free blocks of its prefix length it is the
    first in the set's iteration order -/
theorem candidate_best_fit (s : List Net) (pfx : Int) (cidr : Net) (h : candidate s pfx = some cidr) :
    cidr ∈ s ∧ (cidr.plen : Int) ≤ pfx ∧ (∀ y ∈ s, (y.plen : Int) ≤ pfx → y.plen ≤ cidr.plen) ∧
    s.find? (fun y => y.plen == cidr.plen) = some cidr := by
  -- split the sorted list at the candidate: nothing before it fits, everything after it has a prefix no longer
  obtain ⟨hp, as, bs, hav, has⟩ := List.find?_eq_some_iff_append.1 h
  simp only [decide_eq_true_eq] at hp
  have hsorted := available_sorted s
  rw [hav, List.pairwise_append] at hsorted
  obtain ⟨_, hcb, _⟩ := hsorted
  have hcb' := (List.pairwise_cons.1 hcb).1
  have hmem : cidr ∈ s := (C20.available_is_state s).mem_iff.1 (by rw [hav]; simp)
  refine ⟨hmem, hp, ?_, ?_⟩
  · intro y hy hyp
    have hy' : y ∈ availableSubnets s := (C20.available_is_state s).mem_iff.2 hy
    rw [hav] at hy'
    rcases List.mem_append.1 hy' with hya | hyb
    · have := has y hya
      simp only [Bool.not_eq_true', decide_eq_false_iff_not] at this
      omega
    · rcases List.mem_cons.1 hyb with rfl | hyb'
      · exact Nat.le_refl _
      · exact hcb' y hyb'
  · rw [← List.head?_filter, ← available_stable, hav, List.filter_append]
    have hnone : as.filter (fun c => c.plen == cidr.plen) = [] := by
      rw [List.filter_eq_nil_iff]
      intro a ha
      have := has a ha
      simp only [Bool.not_eq_true', decide_eq_false_iff_not] at this
      simp only [beq_iff_eq]; omega
    rw [hnone, List.filter_cons_of_pos (by simp)]
    rfl

/-- the candidate in terms of the free set alone (no reference to the sort) -/
theorem candidate_iff (s : List Net) (pfx : Int) (cidr : Net) :
    candidate s pfx = some cidr ↔
      (cidr.plen : Int) ≤ pfx ∧ (∀ y ∈ s, (y.plen : Int) ≤ pfx → y.plen ≤ cidr.plen) ∧
      s.find? (fun y => y.plen == cidr.plen) = some cidr := by
  constructor
  · intro h
    obtain ⟨_, h2, h3, h4⟩ := candidate_best_fit s pfx cidr h
    exact ⟨h2, h3, h4⟩
  · rintro ⟨h2, h3, h4⟩
    have hmem : cidr ∈ s := List.mem_of_find?_eq_some h4
    cases hc : candidate s pfx with
    | none =>
      have := (candidate_none_iff s pfx).1 hc cidr hmem
      omega
    | some x =>
      obtain ⟨hx1, hx2, hx3, hx4⟩ := candidate_best_fit s pfx x hc
      have hle1 := h3 x hx1 hx2
      have hle2 := hx3 cidr hmem h2
      have heq : x.plen = cidr.plen := by omega
      rw [heq, h4] at hx4
      exact hx4.symm ▸ rfl

/-! ### the exact outcome of `extract_subnet` -/

/-- how many blocks the request asks for: `count`, or every /prefix slot of the candidate
    (`if count is None: count = max_subnets`, ip/__init__.py:1321-1324) -/
def wanted (cidr : Net) (pfx : Int) (count : Option Int) : Int :=
  count.getD ((2 ^ (pfx.toNat - cidr.plen) : Nat) : Int)

/-- the request can be met from `cidr`: `1 <= count <= max_subnets` (ip/__init__.py:1326) -/
def Fits (cidr : Net) (pfx : Int) (count : Option Int) : Prop :=
  1 ≤ wanted cidr pfx count ∧ wanted cidr pfx count ≤ ((2 ^ (pfx.toNat - cidr.plen) : Nat) : Int)

instance (cidr : Net) (pfx : Int) (count : Option Int) : Decidable (Fits cidr pfx count) := by
  unfold Fits; exact inferInstance

/-- the first `wanted` aligned /prefix blocks of `cidr`, in address order:
    `C11.sub cidr q i` = (family of `cidr`, `cidr.first + i * 2^(width - q)`, `/q`) -/
def firstBlocks (cidr : Net) (pfx : Int) (count : Option Int) : List Net :=
  (List.range (wanted cidr pfx count).toNat).map (C11.sub cidr pfx.toNat)

/-- the free set after `subs` were cut out of `cidr` (contrib/subnet_splitter.py:31-36):
    `cidr` removed, then what repeated `cidr_exclude` of the merged `subs` leaves of it added.
    `C20L.split_tiling` says what this is as a set of addresses. -/
def residue (s : List Net) (cidr : Net) (subs : List Net) : List Net :=
  unionSet (s.eraseP (keyEq cidr))
    ((subtractAll (width cidr.ver) ⟨cidr.val, cidr.plen⟩ (cidrMerge (toItems subs))).map
      (fun b => ⟨cidr.ver, b.val, b.plen⟩))

theorem firstBlocks_length (cidr : Net) (pfx : Int) (count : Option Int) :
    (firstBlocks cidr pfx count).length = (wanted cidr pfx count).toNat := by
  simp [firstBlocks]

theorem firstBlocks_ne_nil (cidr : Net) (pfx : Int) (count : Option Int) (h : Fits cidr pfx count) :
    firstBlocks cidr pfx count ≠ [] :=
  map_range_ne_nil _ _ (by have := h.1; omega)

theorem subnet_exact (cidr : Net) (hwf : cidr.WF) (pfx : Int) (count : Option Int)
    (hp : (cidr.plen : Int) ≤ pfx) (hw : pfx ≤ (width cidr.ver : Nat)) :
    (Fits cidr pfx count → Subnet.subnet cidr pfx count = .ok (firstBlocks cidr pfx count)) ∧
    (¬ Fits cidr pfx count → Subnet.subnet cidr pfx count = .error .value) := by
  have h := subnet_within cidr hwf pfx count hp hw _ rfl
  exact ⟨fun hf => h.trans (if_pos hf), fun hf => h.trans (if_neg hf)⟩

/-- with a candidate, the loop passes over everything before it: the call is the loop started
    at the candidate -/
theorem extract_at_candidate (s : List Net) (hs : ∀ c ∈ s, c.WF) (pfx : Int) (count : Option Int)
    (cidr : Net) (hc : candidate s pfx = some cidr) :
    cidr ∈ s ∧ (cidr.plen : Int) ≤ pfx ∧
    ∃ bs, extractSubnet s pfx count = extractLoop s pfx count (cidr :: bs) := by
  obtain ⟨hm, hp, hrun⟩ := (extractLoop_find s pfx count (availableSubnets s)
    fun c hc => hs c ((C20.available_is_state s).mem_iff.1 hc)).2 cidr hc
  exact ⟨(C20.available_is_state s).mem_iff.1 hm, hp, hrun⟩

/-- **the exact outcome of `extract_subnet`**, three ways, for any free set of well-formed
    networks (contrib/subnet_splitter.py:25-38):
    1. no free block with prefix `≤ prefix`: `[]`, the free set is untouched;
    2. otherwise, with `cidr` the candidate and `prefix` within the width: if
       `1 ≤ count ≤ 2^(prefix - cidr.prefixlen)` (count None = all of them) the call returns exactly
       the first `count` aligned /prefix blocks of `cidr` and the free set becomes `residue`;
    3. if not, it raises ValueError (and `C20.extract_step_partial`/`failed_request_unchanged` say the free
       set is unchanged) — in particular the loop does not try a larger free block. -/
theorem extract_outcome (s : List Net) (hs : ∀ c ∈ s, c.WF) (pfx : Int) (count : Option Int) :
    (candidate s pfx = none → extractSubnet s pfx count = .ok ([], s)) ∧
    (∀ cidr, candidate s pfx = some cidr → pfx ≤ (width cidr.ver : Nat) →
      (Fits cidr pfx count → extractSubnet s pfx count =
          .ok (firstBlocks cidr pfx count, residue s cidr (firstBlocks cidr pfx count))) ∧
      (¬ Fits cidr pfx count → extractSubnet s pfx count = .error .value)) := by
  constructor
  · exact (extractLoop_find s pfx count (availableSubnets s)
      fun c hc => hs c ((C20.available_is_state s).mem_iff.1 hc)).1
  · intro cidr hc hw
    obtain ⟨hcs, hp, bs, hrun⟩ := extract_at_candidate s hs pfx count cidr hc
    obtain ⟨hok, herr⟩ := subnet_exact cidr (hs cidr hcs) pfx count hp hw
    rw [hrun]
    exact ⟨fun hf => extractLoop_hit bs hcs (hok hf) (firstBlocks_ne_nil cidr pfx count hf),
      fun hf => extractLoop_error bs (herr hf)⟩

/-- beyond the family width (outside the property's domain, README row 13) a call that finds a
    candidate raises: `subnet()` fails on its count check (ValueError) or on building the first
    block `'%s/%d'` (AddrFormatError), ip/__init__.py:1326-1333 -/
theorem extract_beyond_width (s : List Net) (hs : ∀ c ∈ s, c.WF) (pfx : Int) (count : Option Int)
    (cidr : Net) (hc : candidate s pfx = some cidr) (hw : (width cidr.ver : Nat) < pfx) :
    ∃ e, extractSubnet s pfx count = .error e := by
  obtain ⟨hcs, hp, bs, hrun⟩ := extract_at_candidate s hs pfx count cidr hc
  rw [hrun]
  rcases subnet_cases cidr (hs cidr hcs) pfx count with ⟨h, _⟩ | ⟨_, h, _⟩ | ⟨_, h, _⟩ | ⟨_, e, he⟩
  · have := (hs cidr hcs).2.2; omega
  · omega
  · omega
  · exact ⟨e, extractLoop_error bs he⟩

/-- **`extract_outcome_iff`**: when each of the three answers is given, for a free set of
    well-formed networks and a prefix within the width of every free block's family.
    (a) `[]` iff every free block has a longer prefix than requested (and then nothing changes);
    (b) an error iff there is a candidate and `count` is not in `1 .. 2^(prefix - its prefix)`;
        the error is ValueError;
    (c) a non-empty answer is given iff there is a candidate that meets the count, and it is
        exactly `firstBlocks` of the candidate, leaving `residue`. -/
theorem extract_outcome_iff (s : List Net) (hs : ∀ c ∈ s, c.WF) (pfx : Int) (count : Option Int)
    (hw : ∀ c ∈ s, pfx ≤ (width c.ver : Nat)) :
    ((∃ s', extractSubnet s pfx count = .ok ([], s')) ↔ ∀ c ∈ s, pfx < (c.plen : Int)) ∧
    (∀ s', extractSubnet s pfx count = .ok ([], s') → s' = s) ∧
    ((∃ e, extractSubnet s pfx count = .error e) ↔
        ∃ cidr, candidate s pfx = some cidr ∧ ¬ Fits cidr pfx count) ∧
    (∀ e, extractSubnet s pfx count = .error e → e = .value) ∧
    (∀ subs s', subs ≠ [] → (extractSubnet s pfx count = .ok (subs, s') ↔
        ∃ cidr, candidate s pfx = some cidr ∧ Fits cidr pfx count ∧
          subs = firstBlocks cidr pfx count ∧ s' = residue s cidr subs)) := by
  obtain ⟨hnone, hsome⟩ := extract_outcome s hs pfx count
  cases hc : candidate s pfx with
  | none =>
    have hall := (candidate_none_iff s pfx).1 hc
    rw [hnone hc]
    simpa [eq_comm] using hall
  | some cidr =>
    obtain ⟨hcs, hp, _, _⟩ := candidate_best_fit s pfx cidr hc
    obtain ⟨hfit, hnofit⟩ := hsome cidr hc (hw cidr hcs)
    have hnotall : ¬ ∀ c ∈ s, pfx < (c.plen : Int) := fun h => by have := h cidr hcs; omega
    by_cases hf : Fits cidr pfx count
    · have hne := firstBlocks_ne_nil cidr pfx count hf
      rw [hfit hf]
      simp [hnotall, hf, hne]
      intro subs s' _
      constructor <;> (rintro ⟨rfl, rfl⟩; exact ⟨rfl, rfl⟩)
    · rw [hnofit hf]
      simp [hnotall, hf, eq_comm]

/-- **how many blocks are returned**: a non-empty answer to `extract_subnet(prefix, count=c)` has
    exactly `c` blocks; with `count=None` it has `2^(prefix - p)` blocks, `p` the prefix length of
    the candidate -/
theorem extract_length (s : List Net) (hs : ∀ c ∈ s, c.WF) (pfx : Int) (count : Option Int)
    (hw : ∀ c ∈ s, pfx ≤ (width c.ver : Nat)) (subs s' : List Net) (hne : subs ≠ [])
    (h : extractSubnet s pfx count = .ok (subs, s')) :
    (∀ c, count = some c → (subs.length : Int) = c) ∧
    (count = none → ∃ cidr, candidate s pfx = some cidr ∧ subs.length = 2 ^ (pfx.toNat - cidr.plen)) := by
  obtain ⟨cidr, hc, hf, hsubs, _⟩ := ((extract_outcome_iff s hs pfx count hw).2.2.2.2 subs s' hne).1 h
  have hl := firstBlocks_length cidr pfx count
  rw [← hsubs] at hl
  constructor
  · intro c hcount
    subst hcount
    simp only [Fits, wanted, Option.getD_some] at hf
    simp only [wanted, Option.getD_some] at hl
    omega
  · intro hcount
    subst hcount
    simp only [wanted, Option.getD_none, Int.toNat_natCast] at hl
    exact ⟨cidr, hc, hl⟩

/-! ### along a history -/

/-- the exact outcome of one call on the live object (the `hint` only names the iteration order
    of the Python set, see Model/Splitter.lean `moveToFront`) -/
def StepExact (b : Net) (s : List Net) : Op → Prop
  | .extract pfx count hint =>
    let s0 := reorder s hint
    (candidate s0 pfx = none → step s (.extract pfx count hint) = (s0, .ok [])) ∧
    (∀ cidr, candidate s0 pfx = some cidr →
      (pfx ≤ (width b.ver : Nat) → Fits cidr pfx count →
        step s (.extract pfx count hint) =
          (residue s0 cidr (firstBlocks cidr pfx count), .ok (firstBlocks cidr pfx count))) ∧
      (pfx ≤ (width b.ver : Nat) → ¬ Fits cidr pfx count →
        step s (.extract pfx count hint) = (s0, .error .value)) ∧
      ((width b.ver : Nat) < pfx → ∃ e, step s (.extract pfx count hint) = (s0, .error e)))
  | .remove _ => True

def AllExact (b : Net) : List Net → List Op → Prop
  | _, [] => True
  | s, op :: ops => StepExact b s op ∧ AllExact b (step s op).1 ops

/-- one call, from any state whose free blocks are networks of the base's family -/
theorem step_exact (b : Net) (hb : b.WF) (s : List Net) (hs : ∀ c ∈ s, NOk b.ver c) (op : Op) :
    StepExact b s op := by
  cases op with
  | remove x => trivial
  | extract pfx count hint =>
    have hs0 : ∀ c ∈ reorder s hint, NOk b.ver c :=
      fun c hc => hs c ((reorder_perm s hint).mem_iff.1 hc)
    have hwf : ∀ c ∈ reorder s hint, c.WF := fun c hc => nok_wf hb.1 (hs0 c hc)
    obtain ⟨hnone, hsome⟩ := extract_outcome (reorder s hint) hwf pfx count
    refine ⟨?_, ?_⟩
    · intro hc
      simp only [step, hnone hc]
    · intro cidr hc
      have hcs := (candidate_best_fit _ pfx cidr hc).1
      have hv : cidr.ver = b.ver := (hs0 cidr hcs).1
      refine ⟨?_, ?_, ?_⟩
      · intro hw hf
        simp only [step, (hsome cidr hc (by rw [hv]; exact hw)).1 hf]
      · intro hw hf
        simp only [step, (hsome cidr hc (by rw [hv]; exact hw)).2 hf]
      · intro hw
        obtain ⟨e, he⟩ := extract_beyond_width _ hwf pfx count cidr hc (by rw [hv]; exact hw)
        exact ⟨e, by simp only [step, he]⟩

/-- **C20, exact outcomes along every history**: on a fresh `SubnetSplitter(base)` and along every
    finite sequence of extract_subnet / remove_subnet calls, every extract_subnet call answers
    `[]` exactly when no free block is large enough, returns exactly the first `count` aligned
    blocks of the best-fitting free block when that block has room for them, and raises
    ValueError exactly when it has not. -/
theorem history_outcomes (b : Net) (hb : b.WF) (ops : List Op) :
    ∀ (s g : List Net), Tiling b s g → AllExact b s ops := by
  induction ops with
  | nil => intro _ _ _; trivial
  | cons op ops ih =>
    intro s g ht
    have hs : ∀ c ∈ s, NOk b.ver c := fun c hc => ht.ok_free hc
    exact ⟨step_exact b hb s hs op, ih _ _ (C20.step_tiling_partial C20.mergeExact b hb s g ht op).1⟩

/-- the property as stated: a fresh splitter -/
theorem splitter_outcomes (b : Net) (hb : b.WF) (ops : List Op) : AllExact b (init b) ops :=
  history_outcomes b hb ops _ _ (C20.init_tiling b hb)

/-! ### non-vacuity: `SubnetSplitter('10.0.0.0/24')` with one more free /26 -/

example : (⟨4, 0x0A000000, 24⟩ : Net).WF := ⟨Or.inl rfl, by decide, by decide⟩
/-- the best fit is chosen, not the first or the largest block -/
example : candidate [⟨4, 0x0A000000, 24⟩, ⟨4, 0x0B000000, 26⟩, ⟨4, 0x0C000000, 30⟩] 27 =
    some ⟨4, 0x0B000000, 26⟩ := (candidate_iff _ _ _).2 ⟨by decide, by decide, by decide⟩
example : candidate [⟨4, 0x0A000000, 24⟩] 23 = none := (candidate_none_iff _ _).2 (by decide)
example : Fits ⟨4, 0x0A000000, 24⟩ 26 (some 3) := by decide
example : ¬ Fits ⟨4, 0x0A000000, 24⟩ 26 (some 5) := by decide
example : Fits ⟨4, 0x0A000000, 24⟩ 26 none := by decide
example : firstBlocks ⟨4, 0x0A000000, 24⟩ 26 (some 3) =
    [⟨4, 0x0A000000, 26⟩, ⟨4, 0x0A000040, 26⟩, ⟨4, 0x0A000080, 26⟩] := by decide

/-- the three cases of `extract_outcome` on a concrete free set {10.0.0.0/24, 11.0.0.0/26}:
    hypotheses and case conditions are satisfiable, the conclusions are concrete answers -/
theorem demoWF : ∀ c ∈ [(⟨4, 0x0A000000, 24⟩ : Net), ⟨4, 0x0B000000, 26⟩], c.WF := by
  intro c hc
  simp only [List.mem_cons, List.not_mem_nil, or_false] at hc
  rcases hc with rfl | rfl <;> exact ⟨Or.inl rfl, by decide, by decide⟩
example : extractSubnet [⟨4, 0x0A000000, 24⟩, ⟨4, 0x0B000000, 26⟩] 23 none =
    .ok ([], [⟨4, 0x0A000000, 24⟩, ⟨4, 0x0B000000, 26⟩]) :=
  (extract_outcome _ demoWF 23 none).1 ((candidate_none_iff _ _).2 (by decide))
/-- /27 × 2 comes out of the /26 (best fit), not out of the /24 -/
example : ∃ s', extractSubnet [⟨4, 0x0A000000, 24⟩, ⟨4, 0x0B000000, 26⟩] 27 (some 2) =
    .ok ([⟨4, 0x0B000000, 27⟩, ⟨4, 0x0B000020, 27⟩], s') :=
  ⟨_, ((extract_outcome _ demoWF 27 (some 2)).2 ⟨4, 0x0B000000, 26⟩
    ((candidate_iff _ _ _).2 ⟨by decide, by decide, by decide⟩) (by decide)).1 (by decide)⟩
/-- /27 × 3 is refused although the /24 could serve it -/
example : extractSubnet [⟨4, 0x0A000000, 24⟩, ⟨4, 0x0B000000, 26⟩] 27 (some 3) = .error .value :=
  ((extract_outcome _ demoWF 27 (some 3)).2 ⟨4, 0x0B000000, 26⟩
    ((candidate_iff _ _ _).2 ⟨by decide, by decide, by decide⟩) (by decide)).2 (by decide)
example : AllExact ⟨4, 0x0A000000, 24⟩ (init ⟨4, 0x0A000000, 24⟩)
    [.extract 26 (some 1) none, .extract 27 (some 3) none, .remove ⟨4, 0x0A000080, 25⟩] :=
  splitter_outcomes _ ⟨Or.inl rfl, by decide, by decide⟩ _

end NV.C20A2
