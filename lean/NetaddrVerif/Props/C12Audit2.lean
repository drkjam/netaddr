/-
Props/C12Audit2.lean — property C12: `hash()` of every kind of object, and ranges with `lo ≤ hi`.

`roundtrip_observations_all` (Props/C12Pickle.lean) asserts `hash (eqFields y) = hash (eqFields x)`
with `hash` a TOTAL function for all eight kinds of object, but `hash()` raises TypeError for three of them:
`IPSet.__hash__` raises (netaddr/ip/sets.py:224-231) and `OUI` / `IAB` define `__eq__` without `__hash__`
(netaddr/eui/__init__.py:103, 272), so the hash conjunct says nothing about the code there.  Here `hash()`
is `Cmp.hashOfP : (PyVal → Int) → PObj → R Int` (Model/ComparePickle.lean), the hash conjunct is stated for
the hashable kinds only, and the TypeError is stated for the others — before and after the copy.

`PWF (.rng r)` does not ask for `r.lo ≤ r.hi`.  The round trip does not need it (neither
`IPRange.__setstate__`, netaddr/ip/__init__.py:1427-1435, nor `setstateRngV` re-check the bounds), but
`Rng.sortKey` computes `size = last - first + 1` in `Nat` (truncated), which is Python's `size` only when
`lo ≤ hi`: `PBuilt` adds the hypothesis every constructor guarantees, `rng_size_exact` says what it buys,
`roundtrip_all_built` that copies stay inside it.
-/
import NetaddrVerif.Props.C12Pickle
namespace NV.C12A2
open NV NV.Cmp NV.C12

/-- the kinds with a `__hash__`: IPAddress, IPNetwork, IPRange, IPGlob (`BaseIP.__hash__`) and EUI -/
def Hashable : PObj → Prop
  | .addr _ | .net _ | .rng _ | .glob _ | .eui _ => True
  | .set _ | .oui _ | .iab _ => False

instance : DecidablePred Hashable := fun x => by cases x <;> unfold Hashable <;> infer_instance

/-- **which objects hash**: `hash(x)` raises exactly for IPSet, OUI and IAB, the error is TypeError and
    nothing else; for the others it is the tuple hash of the very fields `==` compares (`C12.eqFields`),
    which is why equal objects hash equal -/
theorem hash_defined_iff (h : PyVal → Int) (x : PObj) :
    (Hashable x ↔ hashOfP h x = .ok (h (eqFields x))) ∧
    (¬ Hashable x ↔ hashOfP h x = .error .type_) ∧
    (∀ e, hashOfP h x = .error e → e = .type_) := by
  cases x <;> simp [Hashable, hashOfP, hashFieldsP, eqFields, Except.map]

/-- `hash()` of the three comparable IP kinds is `Cmp.hashOf` (the `cmp` op of the driver, `C12.hash_agrees`) -/
theorem hashOfP_obj (h : List Int → Int) (a : Addr) (n : Net) (r : Rng) :
    hashOfP (fun v => match v with | .tuple xs => h (xs.filterMap (fun | .int i => some i | _ => none)) | _ => 0)
      (.addr a) = .ok (hashOf h (.addr a)) ∧
    hashOfP (fun v => match v with | .tuple xs => h (xs.filterMap (fun | .int i => some i | _ => none)) | _ => 0)
      (.net n) = .ok (hashOf h (.net n)) ∧
    hashOfP (fun v => match v with | .tuple xs => h (xs.filterMap (fun | .int i => some i | _ => none)) | _ => 0)
      (.rng r) = .ok (hashOf h (.rng r)) := by
  simp [hashOfP, hashFieldsP, hashOf, Obj.key, Addr.key, Net.key, Rng.key, Except.map]

/-- **C12, copies of hashable objects** (the clause as written, on the kinds where it can hold): copy,
    deepcopy and pickle under every protocol of an IPAddress / IPNetwork / IPRange / IPGlob / EUI give an
    object with the same `str()`, that compares equal, not unequal, and `hash()` of both is DEFINED and the
    same number — whatever functions of the respective fields `str` / `==` are and whatever the tuple hash is. -/
theorem roundtrip_observations_hashable (how : How) (x : PObj) (hx : PWF x) (hh : Hashable x)
    (str : PyVal → String) (eqv : PyVal → PyVal → Bool) (h : PyVal → Int)
    (hrefl : ∀ v, eqv v v = true) :
    ∃ y, roundtripV how x = .ok y ∧ Hashable y ∧ str (strFields y) = str (strFields x) ∧
      eqv (eqFields y) (eqFields x) = true ∧ (!eqv (eqFields y) (eqFields x)) = false ∧
      ∃ v, hashOfP h x = .ok v ∧ hashOfP h y = .ok v :=
  ⟨x, roundtrip_all how x hx, hh, rfl, hrefl _, by simp [hrefl], h (eqFields x),
    ((hash_defined_iff h x).1.mp hh), ((hash_defined_iff h x).1.mp hh)⟩

/-- **C12, copies of unhashable objects**: for an IPSet, OUI or IAB the copy has the same `str()` and
    compares equal, and `hash()` raises TypeError on the original AND on the copy (the property's "hashes
    equal" cannot be asked of them; the harness prints `!type` for both). -/
theorem roundtrip_observations_unhashable (how : How) (x : PObj) (hx : PWF x) (hh : ¬ Hashable x)
    (str : PyVal → String) (eqv : PyVal → PyVal → Bool) (h : PyVal → Int)
    (hrefl : ∀ v, eqv v v = true) :
    ∃ y, roundtripV how x = .ok y ∧ ¬ Hashable y ∧ str (strFields y) = str (strFields x) ∧
      eqv (eqFields y) (eqFields x) = true ∧ (!eqv (eqFields y) (eqFields x)) = false ∧
      hashOfP h x = .error .type_ ∧ hashOfP h y = .error .type_ :=
  ⟨x, roundtrip_all how x hx, hh, rfl, hrefl _, by simp [hrefl],
    ((hash_defined_iff h x).2.1.mp hh), ((hash_defined_iff h x).2.1.mp hh)⟩

/-- every kind is one or the other, so the two theorems together cover `PObj` -/
theorem hashable_or_not (x : PObj) : Hashable x ∨ ¬ Hashable x := Decidable.em _

example : Hashable (.glob ⟨167772160, 167837695, "10.0.*.*".toList⟩) ∧ ¬ Hashable (.set [⟨4, 0, 8⟩]) ∧
    ¬ Hashable (.oui ⟨0x0050c2, .list []⟩) ∧ ¬ Hashable (.iab ⟨0x0050c2abc, .dict []⟩) := by
  simp [Hashable]
example : hashOfP (fun _ => 7) (.set [⟨4, 0, 8⟩]) = .error .type_ ∧
    hashOfP (fun _ => 7) (.eui ⟨48, 5, 0⟩) = .ok 7 := by decide
example : hashFieldsP (.rng ⟨4, 1, 2⟩) = .ok (.tuple [.int 4, .int 1, .int 2]) := rfl

/-- an object a constructor can have built: `PWF`, and for an IPRange additionally `start <= end`
    (`IPRange.__init__` raises AddrFormatError otherwise, netaddr/ip/__init__.py; an IPGlob gets it from
    its text, C17) -/
def PBuilt : PObj → Prop
  | .rng r => PWF (.rng r) ∧ r.lo ≤ r.hi
  | x => PWF x

theorem PBuilt.pwf {x : PObj} (h : PBuilt x) : PWF x := by
  cases x <;> first | exact h.1 | exact h

/-- copies of constructible objects are constructible (and identical): the round trip neither needs nor
    loses `start <= end` -/
theorem roundtrip_all_built (how : How) (x : PObj) (hx : PBuilt x) :
    ∃ y, roundtripV how x = .ok y ∧ y = x ∧ PBuilt y :=
  ⟨x, roundtrip_all how x hx.pwf, rfl, hx⟩

/-- what the hypothesis buys: the `size` inside `Rng.sortKey` (`Nat`, truncated subtraction) is Python's
    `int(self.last - self.first + 1)` exactly when `start <= end` … -/
theorem rng_size_exact (r : Rng) (h : r.lo ≤ r.hi) :
    ((r.hi - r.lo + 1 : Nat) : Int) = (r.hi : Int) - (r.lo : Int) + 1 := by omega

/-- … and only then: for `start > end` (which only a hand-made pickle state can produce) the model's size
    is 1 where Python's is ≤ 0, so `range_order` / `order_total_preorder` say nothing about such objects -/
theorem rng_size_truncated (r : Rng) (h : r.hi < r.lo) :
    ((r.hi - r.lo + 1 : Nat) : Int) = 1 ∧ (r.hi : Int) - (r.lo : Int) + 1 ≤ 0 := by omega

/-- with the hypothesis the third component of `sort_key()` is `width - bit_length(last - first + 1)` over
    the integers, as the code computes it (netaddr/ip/__init__.py:1478-1483) -/
theorem rng_sortKey_built (r : Rng) (h : r.lo ≤ r.hi) :
    r.sortKey = [(r.ver : Int), (r.lo : Int),
      (width r.ver : Int) - (numBits (((r.hi : Int) - (r.lo : Int) + 1).toNat) : Int)] := by
  have : ((r.hi : Int) - (r.lo : Int) + 1).toNat = r.hi - r.lo + 1 := by omega
  simp [Rng.sortKey, this]

example : PBuilt (.rng ⟨4, 1, 2⟩) := ⟨⟨Or.inl rfl, by decide, by decide⟩, by decide⟩
example : PWF (.rng ⟨4, 2, 1⟩) ∧ ¬ PBuilt (.rng ⟨4, 2, 1⟩) :=
  ⟨⟨Or.inl rfl, by decide, by decide⟩, fun h => absurd h.2 (by decide)⟩

end NV.C12A2
