/-
Props/C07b.lean — property C07, second part: iteration over addresses, `size` as a cardinal,
and the non-mutating operations as steps of a history (nothing changes, nothing fails except the
two documented errors).  The property theorems and the two definitions the history theorems are stated with
(`opsOf`, `runSteps`); lemmas in Lemmas/IPSetIterAddrs, IPSetStore.

Vocabulary: `iterAddrs s` is `IPSet.__iter__` (`itertools.chain(*sorted(self._cidrs))`, every
network counting from `first` to `last`) as a list of `(version, address)` pairs; `AddrLt` orders
such pairs by version first (4 before 6), then by address.  `Store` = the live sets of a history;
`QOp` = the non-mutating operations; `evalQ` their value or exception; `stepQ` / `stepAny` the
step they make on the store; `evalQFast` / `runQs` the spelling the driver runs.
-/
import NetaddrVerif.Props.C07
import NetaddrVerif.Props.C06
import NetaddrVerif.Lemmas.IPSetIterAddrs
import NetaddrVerif.Lemmas.IPSetStore
namespace NV.C07
open NV NV.IPSet NV.IPSet.Iter

/-! ### iteration over addresses -/

/-- **`iter(ipset)`**: for a canonical set the iteration is strictly ascending in
    (version, address) — IPv4 before IPv6 —, yields no address twice, yields exactly the denoted
    (version, address) pairs, and yields `size` of them -/
theorem iter_addrs_spec (s : St) (hs : Inv s) :
    (iterAddrs s).Pairwise AddrLt ∧ (iterAddrs s).Nodup ∧
    (∀ v a, (v, a) ∈ iterAddrs s ↔ denS s v a) ∧ (iterAddrs s).length = size s :=
  ⟨iterAddrs_sorted s hs, iterAddrs_nodup s hs, mem_iterAddrs s, length_iterAddrs s⟩

/-- membership and length hold for ANY state (no invariant): iteration never invents or loses an
    address of a stored block -/
theorem iter_addrs_mem (s : St) (v a : Nat) : (v, a) ∈ iterAddrs s ↔ denS s v a := mem_iterAddrs s v a
theorem iter_addrs_length (s : St) : (iterAddrs s).length = size s := length_iterAddrs s

/-- it is THE ascending enumeration of the denoted set: any strictly ascending list with exactly
    the denoted pairs is the iteration -/
theorem iter_addrs_unique (s : St) (hs : Inv s) (L : List (Nat × Nat)) (hL : L.Pairwise AddrLt)
    (hm : ∀ v a, (v, a) ∈ L ↔ denS s v a) : L = iterAddrs s :=
  List.Perm.eq_of_pairwise (fun a b _ _ h1 h2 => by unfold AddrLt at h1 h2; omega) hL (iterAddrs_sorted s hs)
    (perm_iterAddrs s hs (nodup_of_sorted hL) hm)

/-- two canonical sets with the same addresses iterate identically (`C06.iter_unique`) -/
theorem iter_addrs_ext (s t : St) (hs : Inv s) (ht : Inv t) (h : ∀ ver a, denS s ver a ↔ denS t ver a) :
    iterAddrs s = iterAddrs t := C06.iter_unique s t hs ht h

/-- **IPv4 before IPv6**, spelled out: the iteration is a run of IPv4 addresses followed by a run
    of IPv6 addresses (either may be empty), and nothing else -/
theorem iter_v4_then_v6 (s : St) (hs : Inv s) :
    ∃ l4 l6, iterAddrs s = l4 ++ l6 ∧ (∀ x ∈ l4, x.1 = 4) ∧ (∀ x ∈ l6, x.1 = 6) := by
  have hfam : ∀ x ∈ iterAddrs s, x.1 = 4 ∨ x.1 = 6 := by
    rintro ⟨v, a⟩ hx
    obtain ⟨n, hn, hv, _⟩ := (mem_iterAddrs s v a).1 hx
    exact hv ▸ (hs.wf n hn).1
  have hsorted := iterAddrs_sorted s hs
  generalize iterAddrs s = l at hfam hsorted
  induction l with
  | nil => exact ⟨[], [], rfl, by simp, by simp⟩
  | cons x l ih =>
    obtain ⟨hx, hl⟩ := List.pairwise_cons.1 hsorted
    rcases hfam x (List.mem_cons_self ..) with h4 | h6
    · obtain ⟨l4, l6, e, a4, a6⟩ := ih (fun y hy => hfam y (List.mem_cons_of_mem _ hy)) hl
      refine ⟨x :: l4, l6, by rw [e]; rfl, ?_, a6⟩
      intro y hy
      rcases List.mem_cons.1 hy with e' | e'
      · rw [e']; exact h4
      · exact a4 y e'
    · refine ⟨[], x :: l, rfl, by simp, ?_⟩
      intro y hy
      rcases List.mem_cons.1 hy with e' | e'
      · rw [e']; exact h6
      · have := hx y e'
        have hy' := hfam y (List.mem_cons_of_mem _ e')
        unfold AddrLt at this
        omega

/-! ### size is the number of addresses -/

/-- **`size` = cardinality of the denotation**: every duplicate-free list whose members are
    exactly the denoted (version, address) pairs has `size s` elements — and such a list exists
    (the iteration) -/
theorem size_card (s : St) (hs : Inv s) :
    (∀ L : List (Nat × Nat), L.Nodup → (∀ v a, (v, a) ∈ L ↔ denS s v a) → L.length = size s) ∧
    ((iterAddrs s).Nodup ∧ ∀ v a, (v, a) ∈ iterAddrs s ↔ denS s v a) :=
  ⟨card_eq_size s hs, iterAddrs_nodup s hs, mem_iterAddrs s⟩

/-- the hypotheses are satisfiable: the mixed-family example of Props/C07.lean, cut down to
    something small enough to enumerate — 10.0.1.0/30 and ::1 -/
def exT : St := [⟨4, 0x0a000100, 30⟩, ⟨6, 1, 128⟩]
theorem exT_inv : Inv exT := by
  have e : exT = [⟨4, 0x0a000100, 30⟩, ⟨6, 1, 128⟩].foldl addNet [] := by decide +kernel
  rw [e]
  refine (C06.add_history _ fun n hn => ?_).1
  simp only [List.mem_cons, List.not_mem_nil, or_false] at hn
  rcases hn with rfl | rfl <;> exact ⟨by decide, by decide, by decide⟩
example : iterAddrs exT = [(4, 0x0a000100), (4, 0x0a000101), (4, 0x0a000102), (4, 0x0a000103), (6, 1)] := by
  rw [iterAddrs, iterCidrs_sorted _ (by decide +kernel)]; decide +kernel
example : size exT = 5 := by decide +kernel
/-- the IPv6 block is stored first here, iteration still starts with IPv4 -/
example : iterAddrs [⟨6, 1, 128⟩, ⟨4, 0xfffffffe, 31⟩] = [(4, 0xfffffffe), (4, 0xffffffff), (6, 1)] := by
  have e : iterCidrs [⟨6, 1, 128⟩, ⟨4, 0xfffffffe, 31⟩] = iterCidrs [⟨4, 0xfffffffe, 31⟩, ⟨6, 1, 128⟩] :=
    NV.sortNets_perm_eq _ _ (List.Perm.swap ..)
  rw [iterAddrs, e, iterCidrs_sorted _ (by decide +kernel)]; decide +kernel

/-! ### non-mutating operations leave their operands unchanged -/

/-- **a query changes nothing**: the store after any query step is the store before it — every
    slot, operands included.  (`stepQ` is the step the model assigns to a query; this is true by
    the way it is built, and is stated so that the construction is visible.) -/
theorem query_pure (maxint : Nat) (sets : Store) (q : QOp) :
    (stepQ maxint sets q).1 = sets ∧ (stepAny maxint sets (.q q)).1 = sets ∧
    ∀ m, getSet (stepQ maxint sets q).1 m = getSet sets m := ⟨rfl, rfl, fun _ => rfl⟩

/-- the row of queries the driver evaluates per `q` line hands the store back unchanged, and
    each answer is `evalQ` on that same store (so no query sees an effect of an earlier one) -/
theorem queries_pure (maxint : Nat) (sets : Store) (qs : List QOp) :
    (runQs maxint sets qs).1 = sets ∧ (runQs maxint sets qs).2 = qs.map (evalQ maxint sets) :=
  ⟨congrArg Prod.fst (runQs_eq maxint sets qs), congrArg Prod.snd (runQs_eq maxint sets qs)⟩

/-- **a binary operator changes no operand**: `k := i <op> j` rebinds slot `k` and nothing else;
    with `k` different from `i` and `j` both operands are exactly as before, and the result is
    the operator applied to them.  (For `k = i`, as in `a = a | b`, the slot is rebound to the
    result by the assignment; the result is still computed from the old operands.) -/
theorem bin_pure (sets : Store) (k i j : Nat) (o : BinOp) :
    (∀ m, m ≠ k → getSet (stepOp sets (.bin k i j o)).1 m = getSet sets m) ∧
    (k ≠ i → k ≠ j → getSet (stepOp sets (.bin k i j o)).1 i = getSet sets i ∧
                      getSet (stepOp sets (.bin k i j o)).1 j = getSet sets j) ∧
    getSet (stepOp sets (.bin k i j o)).1 k = binOp o (getSet sets i) (getSet sets j) ∧
    (stepOp sets (.bin k i j o)).2.2 = none :=
  ⟨fun m hm => bin_other sets k i j o m hm,
   fun hi hj => ⟨bin_other sets k i j o i (fun e => hi e.symm), bin_other sets k i j o j (fun e => hj e.symm)⟩,
   bin_result sets k i j o, rfl⟩

-- the side conditions `k ≠ i`, `k ≠ j` of `bin_pure` are met at `k = 2`, `i = 0`, `j = 1`
example : (2 : Nat) ≠ 0 ∧ (2 : Nat) ≠ 1 := by decide

/-! ### queries anywhere in a history -/

/-- the constructions / mutations of a mixed history, queries dropped -/
def opsOf : List Step → List Op
  | [] => []
  | .op o :: r => o :: opsOf r
  | .q _ :: r => opsOf r

/-- a mixed history of operations and queries, run from no sets at all -/
def runSteps (maxint : Nat) (steps : List Step) : Store :=
  steps.foldl (fun st x => (stepAny maxint st x).1) []

/-- **queries can be erased from a history**: interleaving any queries at any points changes
    nothing for the operations that follow — the store reached is the one the operations alone
    reach -/
theorem queries_erasable (maxint : Nat) (steps : List Step) :
    runSteps maxint steps = runOps (opsOf steps) := by
  unfold runSteps runOps
  generalize ([] : Store) = st
  induction steps generalizing st with
  | nil => rfl
  | cons x r ih =>
    cases x with
    | op o => simp only [List.foldl_cons, opsOf]; exact ih _
    | q q => simp only [List.foldl_cons, opsOf]; exact ih _

/-- hence every set reached by a history with queries sprinkled in is canonical and denotes
    what plain set theory assigns to its operations (C06.reachable), and every query asked at the
    end is answered about exactly that set -/
theorem reachable_mixed (maxint : Nat) (steps : List Step) (hok : ∀ op ∈ opsOf steps, op.OK) (i : Nat) :
    Inv (getSet (runSteps maxint steps) i) ∧
    ∀ u a, denS (getSet (runSteps maxint steps) i) u a ↔ (runBoth (opsOf steps)).2 i u a := by
  rw [queries_erasable]; exact C06.reachable (opsOf steps) hok i

example : opsOf [.op (.newNet 0 ⟨4, 0x0a000005, 24⟩), .q (.len 0), .op (.add 0 (.net ⟨6, 1, 128⟩)), .q (.iter 0)] =
    [.newNet 0 ⟨4, 0x0a000005, 24⟩, .add 0 (.net ⟨6, 1, 128⟩)] := rfl

/-! ### none of the queries fails, except the two documented errors -/

/-- **totality**: a query raises in exactly two situations — `len()` raises IndexError iff
    `size > sys.maxsize`, `iprange()` raises ValueError iff the set is not contiguous — and never
    anything else: no other query raises, and these two raise no other error.  No invariant and
    no condition on the store is needed (top addresses, mixed families, unset slots included). -/
theorem query_total (maxint : Nat) (sets : Store) (q : QOp) (e : Err) :
    evalQ maxint sets q = .error e ↔
      (∃ i, q = .len i ∧ e = .index ∧ size (getSet sets i) > maxint) ∨
      (∃ i, q = .iprange i ∧ e = .value ∧ iscontiguous (getSet sets i) = false) :=
  evalQ_error_iff maxint sets q e

/-- the same, read positively: every other query, `len` up to `sys.maxsize` and `iprange` of a
    contiguous set return a value -/
theorem query_ok_iff (maxint : Nat) (sets : Store) (q : QOp) :
    (∃ v, evalQ maxint sets q = .ok v) ↔
      (∀ i, q = .len i → size (getSet sets i) ≤ maxint) ∧
      (∀ i, q = .iprange i → iscontiguous (getSet sets i) = true) := by
  constructor
  · rintro ⟨v, hv⟩
    constructor
    · intro i hq
      apply Nat.le_of_not_gt
      intro hgt
      have := (query_total maxint sets q .index).2 (Or.inl ⟨i, hq, rfl, hgt⟩)
      rw [hv] at this; cases this
    · intro i hq
      cases hc : iscontiguous (getSet sets i) with
      | true => rfl
      | false =>
        have := (query_total maxint sets q .value).2 (Or.inr ⟨i, hq, rfl, hc⟩)
        rw [hv] at this; cases this
  · rintro ⟨h1, h2⟩
    cases hq : evalQ maxint sets q with
    | ok v => exact ⟨v, rfl⟩
    | error e =>
      rcases (query_total maxint sets q e).1 hq with ⟨i, hqi, _, hgt⟩ | ⟨i, hqi, _, hc⟩
      · exact absurd (h1 i hqi) (Nat.not_le_of_gt hgt)
      · rw [h2 i hqi] at hc; cases hc

/-- the two errors do occur, and only there: 2^64 addresses against a 63-bit `sys.maxsize`; a
    set with a hole -/
example : evalQ (2 ^ 63 - 1) [[⟨6, 0, 64⟩]] (.len 0) = .error .index := by decide +kernel
example : evalQ (2 ^ 63 - 1) [[⟨6, 0, 64⟩]] (.size 0) = .ok (.nat (2 ^ 64)) := by decide +kernel
example : evalQ (2 ^ 63 - 1) [exS] (.iprange 0) = .error .value := by
  show (iprange exS).map QVal.rng = _
  rw [iprange, iscontiguous, iterCidrs_sorted _ (by decide +kernel)]; decide +kernel

/-- what the driver evaluates is `evalQ` (the dictionary keys of the right operand are computed
    once per query instead of once per lookup) -/
theorem driver_eval_eq (maxint : Nat) (sets : Store) (q : QOp) :
    evalQFast maxint sets q = evalQ maxint sets q := evalQFast_eq maxint sets q

/-- `<=` / `>=` are `issubset` / `issuperset`, `!=` is the negation of `==` -/
theorem le_ge_ne (s t : St) :
    IPSet.le s t = issubset s t ∧ IPSet.ge s t = issuperset s t ∧ IPSet.ne s t = !(IPSet.eq s t) := ⟨rfl, rfl, rfl⟩

end NV.C07
