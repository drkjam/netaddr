/-
Props/C15Deep.lean — property C15, second layer:

* the validity predicates as standalone iff statements (`validWords_iff`, `validBits_iff`,
  `validBin_iff`) and the decoders as total functions of them (`bitsToInt_total`, `binToInt_total`);
* signed arguments: the `…Z` functions of Model/Codec (what the driver runs) reject every
  negative int / every sequence with a negative word exactly where the Python code tests
  `0 <= x`, agree with the `Nat` functions on non-negative arguments (so every theorem of
  Props/C15 is a theorem about them), and `int_to_bin`, which has no sign test, is described too;
* `bits_roundtrip_anysep`: decoder ∘ encoder = id on bit strings for EVERY separator that is
  empty or contains at least one character other than '0' / '1'; for separators made of binary
  digits only the round trip fails (`bits_roundtrip_needs_nonbinary_sep`: an error, and a wrong value);
* `base85_roundtrip_text`: `base85_to_ipv6(ipv6_to_base85(v))` as TEXT, composed with the
  printer / parser that property C01 is about.
-/
import NetaddrVerif.Props.C15
import NetaddrVerif.Props.C01
namespace NV.C15
open NV NV.Codec NV.Py NV.PyL

/-- `valid_words`: exactly the sequences of `nw` words below 2^ws -/
theorem validWords_iff (words : List Nat) (ws nw : Nat) :
    validWords words ws nw = true ↔ words.length = nw ∧ ∀ x ∈ words, x < 2 ^ ws :=
  Codec.validWords_iff words ws nw

example : validWords [0x001b, 0x7749, 0x54fd] 16 3 = true := by decide +kernel
example : validWords [0x10000, 0, 0] 16 3 = false := by decide +kernel

/-- `valid_bits`: with the separator occurrences removed, exactly the strings of `width ≥ 1`
    binary digits (for `width = 0` nothing is valid: `int('', 2)` raises) -/
theorem validBits_iff (s : List Char) (width : Nat) (sep : List Char) :
    validBits s width sep = true ↔
      ((if sep ≠ [] then replaceDel sep s else s).length = width ∧
       (∀ c ∈ (if sep ≠ [] then replaceDel sep s else s), c = '0' ∨ c = '1') ∧ 1 ≤ width) := by
  rw [strip_eq]
  exact Codec.validBits_iff s width sep

example : validBits "00001010.00000000.00000000.00000001".toList 32 ['.'] = true := by
  decide_lit
example : validBits "00001010.00000000.00000000.00000002".toList 32 ['.'] = false := by
  decide_lit
example : validBits [] 0 [] = false := by decide +kernel

/-- `valid_bin`: exactly '0b' followed by 1 … width binary digits -/
theorem validBin_iff (s : List Char) (width : Nat) :
    validBin s width = true ↔
      ∃ t, s = '0' :: 'b' :: t ∧ t ≠ [] ∧ t.length ≤ width ∧ ∀ c ∈ t, c = '0' ∨ c = '1' :=
  Codec.validBin_iff s width

example : validBin "0b101".toList 32 = true := by
  decide_lit
example : validBin "0b".toList 32 = false := by
  decide_lit
example : validBin "0b1_1".toList 32 = false := by
  decide_lit

/-- `bits_to_int` is total in terms of `valid_bits`: the base-2 value of the stripped string when
    valid, ValueError otherwise (this includes `width = 0`) -/
theorem bitsToInt_total (s : List Char) (width : Nat) (sep : List Char) :
    (validBits s width sep = true →
      bitsToInt s width sep = .ok (Int.ofNat (digitsNat 2 (if sep ≠ [] then replaceDel sep s else s) 0))) ∧
    (validBits s width sep = false → bitsToInt s width sep = .error .value) := by
  rw [bitsToInt_eq, strip_eq]
  exact ⟨fun hv => if_pos hv, fun hv => if_neg (by rw [hv]; exact Bool.false_ne_true)⟩

theorem binToInt_total (s : List Char) (width : Nat) :
    (validBin s width = true → binToInt s width = .ok (Int.ofNat (digitsNat 2 (s.drop 2) 0))) ∧
    (validBin s width = false → binToInt s width = .error .value) := by
  rw [binToInt_eq]
  exact ⟨fun hv => if_pos hv, fun hv => if_neg (by rw [hv]; exact Bool.false_ne_true)⟩

private theorem toNat_words_lt {words : List Int} {k : Nat} (h : ∀ x ∈ words, 0 ≤ x ∧ x < (2 : Int) ^ k) :
    ∀ x ∈ words.map Int.toNat, x < 2 ^ k := by
  intro x hx
  obtain ⟨y, hy, rfl⟩ := List.mem_map.mp hx
  exact (Int.toNat_lt' (Nat.two_pow_pos k)).mpr (h y hy).2

/-- `valid_words` on arbitrary ints: exactly the sequences of `nw` words in `0 .. 2^ws - 1` -/
theorem validWordsZ_iff (words : List Int) (ws nw : Nat) :
    validWordsZ words ws nw = true ↔ words.length = nw ∧ ∀ x ∈ words, 0 ≤ x ∧ x < (2 : Int) ^ ws := by
  simp only [validWordsZ, Bool.and_eq_true, beq_iff_eq, List.all_eq_true, decide_eq_true_eq, Int.le_sub_one_iff]

example : validWordsZ [192, 0, 2, 1] 8 4 = true := by decide +kernel
example : validWordsZ [192, 0, -2, 1] 8 4 = false := by decide +kernel

theorem validWordsZ_natCast (words : List Nat) (ws nw : Nat) :
    validWordsZ (words.map Int.ofNat) ws nw = validWords words ws nw := by
  have hp := Nat.two_pow_pos ws
  have e : ((2 ^ ws : Nat) : Int) = (2 : Int) ^ ws := Int.natCast_pow 2 ws
  unfold validWordsZ validWords
  rw [List.length_map, List.all_map]
  congr 2
  funext i
  exact decide_eq_decide.mpr ⟨fun h => by have := h.2; simp only [Int.ofNat_eq_natCast] at this; omega,
    fun h => ⟨Int.natCast_nonneg i, by simp only [Int.ofNat_eq_natCast]; omega⟩⟩

/-- `words_to_int` on arbitrary ints: exactly the sequences of `nw` words in `0 .. 2^ws - 1` are
    accepted, with their big-endian value; a wrong count, a word ≥ 2^ws or a NEGATIVE word
    raises ValueError -/
theorem wordsToIntZ_spec (words : List Int) (ws nw : Nat) :
    (words.length = nw ∧ (∀ x ∈ words, 0 ≤ x ∧ x < (2 : Int) ^ ws) →
        wordsToIntZ words ws nw = .ok (beWordsValue ws (words.map Int.toNat))) ∧
    (¬ (words.length = nw ∧ ∀ x ∈ words, 0 ≤ x ∧ x < (2 : Int) ^ ws) →
        wordsToIntZ words ws nw = .error .value) := by
  constructor
  · intro h
    simp only [wordsToIntZ, (validWordsZ_iff words ws nw).mpr h, if_true]
    rw [orShift_reverse ws (toNat_words_lt h.2)]
  · intro h
    rw [wordsToIntZ, if_neg (mt (validWordsZ_iff words ws nw).mp h)]

example : wordsToIntZ [0x001b, 0x7749, 0x54fd] 16 3 = .ok 0x001b774954fd := by decide +kernel
example : wordsToIntZ [0x001b, -1, 0x54fd] 16 3 = .error .value := by decide +kernel

theorem wordsToIntZ_rejects_negative_word (words : List Int) (ws nw : Nat) (x : Int) (hx : x ∈ words) (hneg : x < 0) :
    wordsToIntZ words ws nw = .error .value ∧ validWordsZ words ws nw = false := by
  have hn : ¬ (words.length = nw ∧ ∀ x ∈ words, 0 ≤ x ∧ x < (2 : Int) ^ ws) :=
    fun h => by have := (h.2 x hx).1; omega
  exact ⟨(wordsToIntZ_spec words ws nw).2 hn, Bool.eq_false_iff.mpr (mt (validWordsZ_iff words ws nw).mp hn)⟩

/-- on non-negative words the signed decoder is the unsigned one (so `wordsToInt_spec`,
    `words_roundtrip` … speak about what the driver runs) -/
theorem wordsToIntZ_natCast (words : List Nat) (ws nw : Nat) :
    wordsToIntZ (words.map Int.ofNat) ws nw = wordsToInt words ws nw := by
  have e : (words.map Int.ofNat).map Int.toNat = words := by
    rw [List.map_map]; conv => rhs; rw [← List.map_id words]
    apply List.map_congr_left; intro a _; rfl
  simp only [wordsToIntZ, wordsToInt, validWordsZ_natCast, e]

/-- `ipv4.words_to_int` on arbitrary ints -/
theorem v4_wordsToIntZ_spec (words : List Int) :
    (words.length = 4 ∧ (∀ x ∈ words, 0 ≤ x ∧ x < (2 : Int) ^ 8) →
        V4.wordsToIntZ words = .ok (beWordsValue 8 (words.map Int.toNat))) ∧
    (¬ (words.length = 4 ∧ ∀ x ∈ words, 0 ≤ x ∧ x < (2 : Int) ^ 8) → V4.wordsToIntZ words = .error .value) := by
  constructor
  · intro h
    have hv : validWordsZ words Gen.ipv4WordSize Gen.ipv4NumWords = true := (validWordsZ_iff words 8 4).mpr h
    simp only [V4.wordsToIntZ, hv, Bool.not_true, Bool.false_eq_true, if_false]
    exact (v4_wordsToInt_spec _).1 ⟨by rw [List.length_map]; exact h.1, toNat_words_lt h.2⟩
  · intro h
    have : validWordsZ words Gen.ipv4WordSize Gen.ipv4NumWords ≠ true := mt (validWordsZ_iff words 8 4).mp h
    simp only [V4.wordsToIntZ, this, Bool.not_false, if_true]

example : V4.wordsToIntZ [192, 0, 2, 1] = .ok 0xC0000201 := by decide +kernel
example : V4.wordsToIntZ [192, 0, 2, -1] = .error .value := by decide +kernel

/-- `int_to_words` on an arbitrary int: `0 ≤ v < 2^(nw·ws)` gives the big-endian word tuple of
    value v, everything else (in particular every negative int) raises IndexError -/
theorem intToWordsZ_spec (v : Int) (ws nw : Nat) :
    (0 ≤ v ∧ v < (2 : Int) ^ (nw * ws) → ∃ words, intToWordsZ v ws nw = .ok words ∧ words.length = nw ∧
        (∀ x ∈ words, x < 2 ^ ws) ∧ ((beWordsValue ws words : Nat) : Int) = v) ∧
    (¬ (0 ≤ v ∧ v < (2 : Int) ^ (nw * ws)) → intToWordsZ v ws nw = .error .index) := by
  constructor
  · rintro ⟨h0, h1⟩
    obtain ⟨words, e1, e2, e3, e4⟩ := (intToWords_spec v.toNat ws nw).1 ((Int.toNat_lt' (Nat.two_pow_pos _)).mpr h1)
    refine ⟨words, ?_, e2, e3, ?_⟩
    · rw [intToWordsZ, if_neg (Int.not_lt.mpr h0)]
      exact e1
    · rw [e4]
      exact Int.toNat_of_nonneg h0
  · intro h
    rw [intToWordsZ]
    split
    · rfl
    · next hneg =>
      have h0 : 0 ≤ v := Int.not_lt.mp hneg
      exact (intToWords_spec v.toNat ws nw).2 (fun hlt => h ⟨h0, (Int.toNat_lt' (Nat.two_pow_pos _)).mp hlt⟩)

example : intToWordsZ 0x001b774954fd 16 3 = .ok [0x001b, 0x7749, 0x54fd] := by decide +kernel
example : intToWordsZ (-1) 16 3 = .error .index := by decide +kernel

private theorem shr_natCast (n k : Nat) : ((n : Int) >>> k) = ((n >>> k : Nat) : Int) := rfl

/-- on a non-negative int every signed encoder IS the unsigned one: all theorems of Props/C15
    about `intToWords`, `intToBits`, `intToBin`, `*.intToPacked`, `*.intToArpa` are theorems
    about the functions the driver runs -/
theorem encodersZ_natCast (n : Nat) (ws nw width : Nat) (sep : List Char) :
    intToWordsZ n ws nw = intToWords n ws nw ∧ intToBitsZ n ws nw sep = intToBits n ws nw sep ∧
    intToBinZ n width = intToBin n width ∧
    V4.intToWordsZ n = V4.intToWords n ∧ V4.intToPackedZ n = V4.intToPacked n ∧ V4.intToArpaZ n = V4.intToArpa n ∧
    V6.intToPackedZ n = V6.intToPacked n ∧ V6.intToArpaZ n = V6.intToArpa n ∧
    E48.intToPackedZ n = E48.intToPacked n ∧ E64.intToPackedZ n = E64.intToPacked n := by
  have hn : ¬ ((n : Int) < 0) := by omega
  refine ⟨?_, ?_, ?_, ?_, ?_, ?_, ?_, ?_, ?_, ?_⟩
  · simp [intToWordsZ, hn]
  · simp [intToBitsZ, hn]
  · simp [intToBinZ, intToBin, pyBinZ, hn]
  · simp [V4.intToWordsZ, hn]
  · simp [V4.intToPackedZ, V4.intToPacked, packFieldZ, hn]
  · simp [V4.intToArpaZ, hn]
  · simp [V6.intToPackedZ, hn]
  · simp [V6.intToArpaZ, hn]
  · have e1 := shr_natCast n 32
    have e2 : ((n : Int) % 4294967296) = ((n &&& 0xffffffff : Nat) : Int) := by
      have a : n &&& 0xffffffff = n % 4294967296 := Nat.and_two_pow_sub_one_eq_mod n 32
      rw [a]; omega
    have h1 : ¬ (((n >>> 32 : Nat) : Int) < 0) := by omega
    have h2 : ¬ (((n &&& 0xffffffff : Nat) : Int) < 0) := by omega
    simp only [E48.intToPackedZ, E48.intToPacked, e1, e2, packFieldZ, h1, h2, if_false, Int.toNat_natCast]
  · simp [E64.intToPackedZ, hn]

/-- every encoder that tests `0 <= int_val` (directly, through `int_to_words`, or through
    `struct.pack`) raises on every negative int -/
theorem encodersZ_reject_negative (v : Int) (hv : v < 0) (ws nw : Nat) (sep : List Char) :
    intToWordsZ v ws nw = .error .index ∧ intToBitsZ v ws nw sep = .error .index ∧
    V4.intToWordsZ v = .error .value ∧ V4.intToPackedZ v = .error .other ∧ V4.intToArpaZ v = .error .value ∧
    V6.intToPackedZ v = .error .index ∧ V6.intToArpaZ v = .error .value ∧
    E48.intToPackedZ v = .error .other ∧ E64.intToPackedZ v = .error .index := by
  refine ⟨?_, ?_, ?_, ?_, ?_, ?_, ?_, ?_, ?_⟩
  · simp [intToWordsZ, hv]
  · simp [intToBitsZ, hv]
  · simp [V4.intToWordsZ, hv]
  · simp [V4.intToPackedZ, packFieldZ, hv]
  · simp [V4.intToArpaZ, hv]
  · simp [V6.intToPackedZ, hv]
  · simp [V6.intToArpaZ, hv]
  · have : v >>> 32 < 0 := by
      match v, hv with
      | Int.negSucc m, _ => exact Int.negSucc_lt_zero _
    simp only [E48.intToPackedZ, packFieldZ, this, if_true]
    rfl
  · simp [E64.intToPackedZ, hv]

example : E48.intToPackedZ (-1) = .error .other := by decide +kernel
example : V4.intToArpaZ (-1) = .error .value := by decide +kernel

/-- `int_to_bin` has NO sign test.  A negative int v is returned as `'-0b' + digits(|v|)`
    whenever `digits + 1 ≤ width` (`bin_val[2:]` of `'-0b101'` is `'b101'`), and raises
    IndexError otherwise; the returned text is never a valid `0b` literal: `valid_bin` is
    False and `bin_to_int` raises on it for every width — the decoder does not turn it into
    another value. -/
theorem intToBinZ_negative (v : Int) (hv : v < 0) (width : Nat) :
    ((Nat.toDigits 2 (-v).toNat).length + 1 ≤ width →
        intToBinZ v width = .ok ('-' :: '0' :: 'b' :: Nat.toDigits 2 (-v).toNat)) ∧
    (width < (Nat.toDigits 2 (-v).toNat).length + 1 → intToBinZ v width = .error .index) ∧
    (∀ t w, intToBinZ v width = .ok t → validBin t w = false ∧ binToInt t w = .error .value) := by
  have hb : pyBinZ v = '-' :: '0' :: 'b' :: Nat.toDigits 2 (-v).toNat := by simp [pyBinZ, hv, pyBin]
  refine ⟨?_, ?_, ?_⟩
  · intro h
    simp only [intToBinZ, hb, List.drop_succ_cons, List.drop_zero, List.length_cons]
    rw [if_neg (by omega)]
  · intro h
    simp only [intToBinZ, hb, List.drop_succ_cons, List.drop_zero, List.length_cons]
    rw [if_pos (by omega)]
  · intro t w h
    simp only [intToBinZ, hb] at h
    split at h
    · cases h
    · injection h with h
      subst h
      have : validBin ('-' :: '0' :: 'b' :: Nat.toDigits 2 (-v).toNat) w = false := by
        simp [validBin, List.isPrefixOf]
      exact ⟨this, by simp [binToInt, this]⟩

example : intToBinZ (-5) 32 = .ok "-0b101".toList := by
  decide_lit
example : intToBinZ (-5) 3 = .error .index := by decide +kernel
example : binToInt "-0b101".toList 32 = .error .value := by
  decide_lit

/-- decoder ∘ encoder = id on bit strings, for every word size / word count and EVERY separator
    that is empty or contains at least one character other than '0' / '1' (any length) -/
theorem bits_roundtrip_anysep (v ws nw : Nat) (sep : List Char) (hv : v < 2 ^ (nw * ws)) (hw : 1 ≤ ws * nw)
    (hsep : sep = [] ∨ ∃ c ∈ sep, c ≠ '0' ∧ c ≠ '1') :
    ∃ s, intToBits v ws nw sep = .ok s ∧ bitsToInt s (ws * nw) sep = .ok (Int.ofNat v) :=
  bits_roundtrip_sep v ws nw sep hv hw hsep

example : ∃ s, intToBits 0xC0000201 8 4 "::".toList = .ok s ∧ bitsToInt s 32 "::".toList = .ok 0xC0000201 :=
  bits_roundtrip_anysep _ 8 4 _ (by decide) (by decide) (Or.inr ⟨':', by decide, by decide, by decide⟩)
example : ∃ s, intToBits 5 2 2 "0.1".toList = .ok s ∧ bitsToInt s 4 "0.1".toList = .ok 5 :=
  bits_roundtrip_anysep _ 2 2 _ (by decide) (by decide) (Or.inr ⟨'.', by decide, by decide, by decide⟩)

/-- the hypothesis on the separator is needed: with a separator made of binary digits only,
    `bits.replace(sep, '')` also eats digits of the words, and `bits_to_int` of an encoder
    output can raise ValueError or return ANOTHER value (such separators are not used by any
    built-in dialect) -/
theorem bits_roundtrip_needs_nonbinary_sep :
    (intToBits 2 1 2 "1".toList = .ok "110".toList ∧ bitsToInt "110".toList 2 "1".toList = .error .value) ∧
    (intToBits 4 2 2 "010".toList = .ok "0101000".toList ∧ bitsToInt "0101000".toList 4 "010".toList = .ok 8) := by
  decide_lit

open NV.AddrParse in
private theorem text_of_ok (be : AddrParse.Backend) {s : List Char} {r : Nat} (h : base85ToIpv6 s = .ok r) :
    base85ToIpv6Text be s = .ok (intToStr6 be .compact r) := by
  simp only [base85ToIpv6Text, h]; rfl

private theorem text_of_error (be : AddrParse.Backend) {s : List Char} {e : Err} (h : base85ToIpv6 s = .error e) :
    base85ToIpv6Text be s = .error e := by
  simp only [base85ToIpv6Text, h]; rfl

open NV.AddrParse in
/-- **`base85_to_ipv6(ipv6_to_base85(v))` as text.**  For every 128-bit value and either back
    end the decoder returns `str(IPAddress(v, 6))` — the compact text printed by the function
    property C01 is about —, which is an RFC 4291 text denoting v and which `IPAddress(text)`,
    `IPAddress(text, 6)` read back as (6, v) under every flags value. -/
theorem base85_roundtrip_text (be : AddrParse.Backend) (v : Nat) (hv : v < 2 ^ 128) :
    base85ToIpv6Text be (ipv6ToBase85 v) = .ok (intToStr be 6 v) ∧
    C01G.Rfc4291 (intToStr be 6 v) v ∧
    (∀ ver fl, ver = none ∨ ver = some 6 → ipAddress be (intToStr be 6 v) ver fl = .ok ⟨6, v⟩) :=
  ⟨text_of_ok be (base85_roundtrip v hv), C01.printed_is_rfc4291 be .compact v hv,
    fun ver fl hver => C01.roundtrip6 be .compact v hv ver hver fl⟩

example : base85ToIpv6Text .platform "4)+k&C#VzJ4br>0wv%Yp".toList = .ok "1080::8:800:200c:417a".toList := by
  decide_lit

open NV.AddrParse in
/-- `base85_to_ipv6` as text, all inputs: it raises exactly when the integer stage raises (wrong
    length, foreign character, numeral ≥ 2^128 — `base85_reject`), with the same error; and
    whatever text it returns is the compact RFC 4291 text of the numeral's positional value
    r < 2^128, read back by `IPAddress` as (6, r): never the text of another value. -/
theorem base85_text_spec (be : AddrParse.Backend) (s : List Char) :
    (∀ e, base85ToIpv6 s = .error e → base85ToIpv6Text be s = .error e) ∧
    (∀ t, base85ToIpv6Text be s = .ok t → ∃ r, s.length = 20 ∧ b85Sum s.reverse 0 0 = .ok r ∧ r < 2 ^ 128 ∧
        t = intToStr be 6 r ∧ C01G.Rfc4291 t r ∧
        (∀ ver fl, ver = none ∨ ver = some 6 → ipAddress be t ver fl = .ok ⟨6, r⟩)) := by
  refine ⟨fun e h => text_of_error be h, fun t h => ?_⟩
  cases hr : base85ToIpv6 s with
  | error e => rw [text_of_error be hr] at h; cases h
  | ok r =>
    rw [text_of_ok be hr] at h
    injection h with ht
    subst ht
    obtain ⟨h1, h2, h3⟩ := (base85_reject s).2.2.2 r hr
    exact ⟨r, h1, h2, h3, rfl, C01.printed_is_rfc4291 be .compact r h3,
      fun ver fl hver => C01.roundtrip6 be .compact r h3 ver hver fl⟩

/-- the back end (platform `inet_ntop` or `netaddr.fbsocket`) does not change the text -/
theorem base85_text_backend (s : List Char) :
    base85ToIpv6Text .fallback s = base85ToIpv6Text .platform s := by
  cases hr : base85ToIpv6 s with
  | error e => rw [text_of_error .fallback hr, text_of_error .platform hr]
  | ok r =>
    rw [text_of_ok .fallback hr, text_of_ok .platform hr,
      C01.backend_irrelevant.2.1 .compact r ((base85_reject s).2.2.2 r hr).2.2]

end NV.C15
