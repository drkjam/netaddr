/-
Props/C08.lean — property C08: EUI text round-trips in every dialect; derived identifiers
follow the standards.  Property theorems and the facts evaluated on the generated tables; helper
lemmas are in Lemmas/C08L*.lean, except a few that rest on a table fact evaluated here.

Cross-reading of properties.jsonl: "eui64() inserts FF-FE after the first three octets" =
`eui64_spec`; "modified_eui64() additionally inverts the universal/local bit" =
`modified_flips_bit57`; "ipv6(prefix) / ipv6_link_local() place that interface identifier under
the prefix" = `ipv6_spec`, `link_local`; "oui / ei / is_iab / iab split the value at the
standard bit positions" = `oui_ei_split`, `iab_split`, `splitIabMac_spec`; "EUIs compare and
hash by (version, value) regardless of dialect" = `eq_hash_by_value`; "word indexing /
assignment under the object's own dialect … never fail because of the dialect chosen" =
`getIdx_spec`, `setItem_spec`, `setItem_reject`; the text round trip and the accepted
spellings are further down (`roundtrip_*`, `spellings48`, `spellings64`).  Second part in Props/C08Ext.lean:
exception classes of the constructor the driver runs (`ofAnyF`), decimal-string fallback, final
newline, slicing, `format(dialect)`, `is_iab` / `iab` on EUI-64 receivers.
-/
import NetaddrVerif.Lemmas.C08L
import NetaddrVerif.Lemmas.C08LCtor
import NetaddrVerif.Lemmas.TupleOrder
import NetaddrVerif.Lemmas.StrLit
import NetaddrVerif.Props.C15
namespace NV.C08
open NV NV.Eui NV.Codec NV.Gen

/-- `eui64()`: an EUI-48 gets FF-FE inserted after its first three octets (the OUI moves up by
    16 bits, the low three octets stay); an EUI-64 is returned unchanged; always version 64 -/
theorem eui64_spec (v : Nat) :
    (v < 2 ^ 48 → eui64 48 v = .ok (64, (v / 2 ^ 24) * 2 ^ 40 + 0xFFFE * 2 ^ 24 + v % 2 ^ 24)) ∧
    (v < 2 ^ 64 → eui64 64 v = .ok (64, v)) := by
  have key : ∀ n : Nat, n ≤ 2 ^ 64 - 1 → ofAny (.int (n : Int)) (some 64) = .ok (64, n) := by
    intro n h
    rw [ofAny_some64, setExplicit64_int, if_pos (by omega), Int.toNat_natCast]
  constructor
  · intro hv
    unfold eui64
    rw [key _ (by rw [eui64Value_48]; omega), eui64Value_48]
  · intro hv
    have e : eui64Value 64 v = v := by simp [eui64Value]
    unfold eui64
    rw [e, key v (by omega)]

example : eui64 48 0x001b774954fd = .ok (64, 0x001b77fffe4954fd) := by decide +kernel

theorem eui64_inv {ver v w e : Nat} (h : eui64 ver v = .ok (w, e)) : w = 64 ∧ eui64Value ver v = e ∧ e < 2 ^ 64 := by
  rw [eui64, ofAny_some64, setExplicit64_int] at h
  split at h
  · injection h with h
    injection h with hw he
    omega
  · cases h

/-- `modified_eui64()`: the EUI-64 with bit 57 (the universal/local bit, 0x02 of the first
    octet) inverted and every other bit unchanged -/
theorem modified_flips_bit57 (ver v e : Nat) (h : eui64 ver v = .ok (64, e)) :
    modifiedEui64 ver v = .ok (64, e ^^^ 2 ^ 57) ∧
    ∀ i, (e ^^^ 2 ^ 57).testBit i = (if i = 57 then !e.testBit i else e.testBit i) := by
  constructor
  · simp only [modifiedEui64, h]; rfl
  · intro i
    rw [Nat.testBit_xor, Nat.testBit_two_pow]
    by_cases hi : i = 57
    · subst hi; simp
    · have : ¬ (57 = i) := fun e => hi e.symm
      simp [hi, this]

example : modifiedEui64 48 0x001b774954fd = .ok (64, 0x021b77fffe4954fd) := by decide +kernel

/-- `ipv6(prefix)`: prefix + interface identifier (an AddrFormatError when that leaves the
    128-bit space); for a prefix whose low 64 bits are zero this is `prefix | iid` -/
theorem ipv6_spec (ver v m pfx : Nat) (h : modifiedEui64 ver v = .ok (64, m)) :
    (pfx + m < 2 ^ 128 → ipv6 ver v pfx = .ok (pfx + m)) ∧
    (¬ pfx + m < 2 ^ 128 → ipv6 ver v pfx = .error .addrFormat) ∧
    (m < 2 ^ 64 → pfx % 2 ^ 64 = 0 → pfx < 2 ^ 128 → ipv6 ver v pfx = .ok (pfx ||| m)) := by
  have hu : ipv6 ver v pfx = if pfx + m ≤ 2 ^ 128 - 1 then .ok (pfx + m) else .error .addrFormat := by
    simp only [ipv6, h]; rfl
  refine ⟨fun hs => by rw [hu, if_pos (by omega)], fun hs => by rw [hu, if_neg (by omega)], ?_⟩
  intro hm hp hlt
  have e : pfx = (pfx / 2 ^ 64) <<< 64 := by
    rw [Nat.shiftLeft_eq]; have := Nat.div_add_mod pfx (2 ^ 64); omega
  have hor : pfx ||| m = pfx + m := by
    conv => lhs; rw [e]
    rw [← Nat.shiftLeft_add_eq_or_of_lt hm, ← e]
  have : pfx + m ≤ 2 ^ 128 - 1 := by
    have := Nat.div_add_mod pfx (2 ^ 64)
    have hq : pfx / 2 ^ 64 < 2 ^ 64 := by omega
    omega
  rw [hu, if_pos this, hor]

theorem modified_lt (ver v m : Nat) (hv : v < 2 ^ (if ver = 48 then 48 else 64))
    (h : modifiedEui64 ver v = .ok (64, m)) (hver : ver = 48 ∨ ver = 64) : m < 2 ^ 64 := by
  cases he : eui64 ver v with
  | error x => simp only [modifiedEui64, he] at h; cases h
  | ok p =>
    obtain ⟨w, e⟩ := p
    obtain ⟨rfl, _, hlt⟩ := eui64_inv he
    rw [(modified_flips_bit57 ver v e he).1] at h
    injection h with h
    injection h with _ hm
    exact hm ▸ Nat.xor_lt_two_pow hlt (by decide)

/-- `ipv6_link_local()` = the interface identifier under fe80::/64 -/
theorem link_local (ver v m : Nat) (h : modifiedEui64 ver v = .ok (64, m)) (hm : m < 2 ^ 64) :
    Eui.ipv6LinkLocal ver v = .ok (0xfe80 * 2 ^ 112 + m) := by
  have := (ipv6_spec ver v m 0xfe800000000000000000000000000000 h).1 (by omega)
  simpa [Eui.ipv6LinkLocal] using this

example : Eui.ipv6LinkLocal 48 0x001b774954fd = .ok 0xfe80000000000000021b77fffe4954fd := by decide +kernel
example : ipv6 48 0x001b774954fd (2 ^ 128 - 1) = .error .addrFormat := by decide +kernel

/-- `oui` is the top 24 bits, `ei` the remaining octets (three for EUI-48, five for EUI-64)
    printed `%02X` and joined by '-' -/
theorem oui_ei_split (v : Nat) :
    (v < 2 ^ 48 → oui 48 v = .ok (v / 2 ^ 24) ∧
      ei 48 v = .ok (['-'].intercalate ([v / 2 ^ 16 % 256, v / 2 ^ 8 % 256, v % 256].map (fmtHex 2 true)))) ∧
    (v < 2 ^ 64 → oui 64 v = .ok (v / 2 ^ 40) ∧
      ei 64 v = .ok (['-'].intercalate
        ([v / 2 ^ 32 % 256, v / 2 ^ 24 % 256, v / 2 ^ 16 % 256, v / 2 ^ 8 % 256, v % 256].map (fmtHex 2 true)))) := by
  -- the words under the default dialect are `wordAt` at 0 … 5 / 0 … 7; the rest is evaluation
  have hw : ∀ ver, v < 2 ^ ((defaultDialect ver).numWords * (defaultDialect ver).wordSize) →
      words ver v = .ok ((List.range (defaultDialect ver).numWords).map (wordAt v (defaultDialect ver))) :=
    fun ver h => by rw [← words_eq_map]; exact intToWords_ok h
  have low : ∀ d : Dialect, d.wordSize = 8 → wordAt v d (d.numWords - 1) = v % 256 := fun d h => by
    simp only [wordAt, h, Nat.sub_self, Nat.mul_zero, Nat.pow_zero, Nat.div_one]
  constructor
  · intro hv
    refine ⟨?_, by unfold ei; rw [hw 48 hv, ← low macDefault rfl]; rfl⟩
    simp only [oui, if_true, Nat.shiftRight_eq_div_pow]
    rw [if_pos (by omega)]
  · intro hv
    refine ⟨?_, by unfold ei; rw [hw 64 hv, ← low eui64Default rfl]; rfl⟩
    simp only [oui, show ¬ (64 = 48) by decide, if_false, Nat.shiftRight_eq_div_pow]
    rw [if_pos (by omega)]

example : ei 48 0x001b774954fd = .ok "49-54-FD".toList := by
  decide_lit
example : oui 48 0x001b774954fd = .ok 0x001b77 := by decide +kernel

/-- the IAB base OUIs of the generated table are the two IEEE ones -/
theorem iab_values : iabEuiValues = [0x0050c2, 0x40d855] := by decide

theorem iab_contains_iff (x : Nat) : iabEuiValues.contains x = true ↔ (x = 0x0050c2 ∨ x = 0x40d855) := by
  rw [iab_values]
  simp

theorem splitIabMac_iab {e : Nat} (h : iabEuiValues.contains (e >>> 12) = true) (strict : Bool) :
    splitIabMac e strict = .ok (e, 0) := by
  simp only [splitIabMac, h, if_true]

/-- `is_iab()` tests the top 24 bits of an EUI-48 against the IAB base OUIs; `iab` is then
    the top 36 bits (the value the IAB object is built from), otherwise None -/
theorem iab_split (v : Nat) :
    (isIab v = true ↔ (v / 2 ^ 24 = 0x0050c2 ∨ v / 2 ^ 24 = 0x40d855)) ∧
    (isIab v = true → iab v = .ok (some (v / 2 ^ 12))) ∧
    (isIab v = false → iab v = .ok none) := by
  refine ⟨?_, ?_, ?_⟩
  · rw [← Nat.shiftRight_eq_div_pow]
    exact iab_contains_iff _
  · intro h
    have h' : iabEuiValues.contains (v >>> 12 >>> 12) = true := by rwa [← Nat.shiftRight_add]
    rw [iab, if_pos h, splitIabMac_iab h', Nat.shiftRight_eq_div_pow]
    rfl
  · intro h
    simp only [iab, h]
    rfl

/-- `IAB.split_iab_mac`: a 36-bit IAB value is returned as is; a 48-bit MAC under an IAB base
    OUI splits into (top 36 bits, low 12 bits) — rejected in strict mode when the low bits are
    not zero; everything else is rejected -/
theorem splitIabMac_spec (e : Nat) (strict : Bool) (he : e < 2 ^ 48) :
    (iabEuiValues.contains (e / 2 ^ 12) = true → splitIabMac e strict = .ok (e, 0)) ∧
    (iabEuiValues.contains (e / 2 ^ 12) = false → iabEuiValues.contains (e / 2 ^ 24) = true →
      (strict = false ∨ e % 2 ^ 12 = 0) → splitIabMac e strict = .ok (e / 2 ^ 12, e % 2 ^ 12)) ∧
    (iabEuiValues.contains (e / 2 ^ 12) = false → iabEuiValues.contains (e / 2 ^ 24) = true →
      strict = true → e % 2 ^ 12 ≠ 0 → splitIabMac e strict = .error .value) ∧
    (iabEuiValues.contains (e / 2 ^ 12) = false → iabEuiValues.contains (e / 2 ^ 24) = false →
      splitIabMac e strict = .error .value) := by
  -- the mask is 2^48 - 2^12: OR-ing it in fills bits 12 … 47 and keeps the low 12 bits
  have hub : (e ||| (2 ^ 48 - 1) ^^^ (2 ^ 12 - 1)) - ((2 ^ 48 - 1) ^^^ (2 ^ 12 - 1)) = e % 2 ^ 12 := by
    rw [show ((2 : Nat) ^ 48 - 1) ^^^ (2 ^ 12 - 1) = 2 ^ 12 * (2 ^ 36 - 1) by decide]
    have h1 : (e ||| 2 ^ 12 * (2 ^ 36 - 1)) % 2 ^ 12 = e % 2 ^ 12 := by
      rw [Nat.or_mod_two_pow, Nat.mul_mod_right, Nat.or_zero]
    have h2 : 2 ^ 12 * (2 ^ 36 - 1) ≤ e ||| 2 ^ 12 * (2 ^ 36 - 1) := Nat.right_le_or
    have h3 : e ||| 2 ^ 12 * (2 ^ 36 - 1) < 2 ^ 48 := Nat.or_lt_two_pow he (by decide)
    omega
  have hrest : iabEuiValues.contains (e / 2 ^ 12) = false → splitIabMac e strict =
      if iabEuiValues.contains (e / 2 ^ 24) = true then
        if (strict && e % 2 ^ 12 != 0) = true then .error .value else .ok (e / 2 ^ 12, e % 2 ^ 12)
      else .error .value := by
    intro h1
    simp only [splitIabMac, Nat.shiftRight_eq_div_pow, h1, Bool.false_eq_true, if_false, Nat.div_div_eq_div_mul, hub]
  refine ⟨?_, ?_, ?_, ?_⟩
  · intro h
    exact splitIabMac_iab (by rwa [Nat.shiftRight_eq_div_pow]) strict
  · intro h1 h2 h3
    rw [hrest h1, if_pos h2, if_neg]
    rcases h3 with h3 | h3 <;> simp [h3]
  · intro h1 h2 h3 h4
    rw [hrest h1, if_pos h2, if_pos]
    simp [h3, h4]
  · intro h1 h2
    rw [hrest h1, if_neg (by rw [h2]; decide)]

example : splitIabMac 0x0050c2000123 false = .ok (0x0050c2000, 0x123) := by decide +kernel
example : splitIabMac 0x0050c2000123 true = .error .value := by decide +kernel
example : isIab 0x0050c2000123 = true := by decide +kernel

/-- the comparison / hash key is (version, value) — the dialect is not part of it — and the six
    comparison operators are the lexicographic order on that pair -/
theorem eq_hash_by_value (ver1 v1 ver2 v2 : Nat) :
    (key ver1 v1 = key ver2 v2 ↔ ver1 = ver2 ∧ v1 = v2) ∧
    (tupleCmp (key ver1 v1) (key ver2 v2) = .eq ↔ ver1 = ver2 ∧ v1 = v2) ∧
    (tupleCmp (key ver1 v1) (key ver2 v2) = .lt ↔ ver1 < ver2 ∨ (ver1 = ver2 ∧ v1 < v2)) ∧
    (tupleCmp (key ver1 v1) (key ver2 v2) = .gt ↔ ver2 < ver1 ∨ (ver1 = ver2 ∧ v2 < v1)) := by
  have hk : key ver1 v1 = key ver2 v2 ↔ ver1 = ver2 ∧ v1 = v2 := by
    simp only [key, List.cons.injEq, and_true]; omega
  -- `<` on keys is "not `≥`" in the lexicographic reading of tuple comparison; `>` is `<` swapped
  have lt : ∀ a x b y : Nat, tupleCmp (key a x) (key b y) = .lt ↔ a < b ∨ (a = b ∧ x < y) := fun a x b y =>
    (tupleCmp_lt_iff _ _).trans (by simp only [key, LexLe, and_true]; omega)
  refine ⟨hk, (tupleCmp_eq_iff _ _).trans hk, lt .., ?_⟩
  rw [tupleCmp_swap (key ver2 v2), Ordering.swap_eq_gt]
  exact (lt ..).trans (by omega)

example : tupleCmp (key 48 5) (key 64 4) = .lt := by decide +kernel

/-- `e[i]` for `0 ≤ i < num_words` is digit `num_words-1-i` of the value in base 2^word_size,
    a negative index counts from the end, anything else is an IndexError — for every dialect
    (every word size / word count), never a failure caused by the dialect -/
theorem getIdx_spec (v : Nat) (d : Dialect) (hv : v < 2 ^ (d.numWords * d.wordSize)) (idx : Int) :
    (∀ i : Nat, idx = i → i < d.numWords →
        getIdx v d idx = .ok (v / 2 ^ (d.wordSize * (d.numWords - 1 - i)) % 2 ^ d.wordSize)) ∧
    (∀ i : Nat, idx = (i : Int) - d.numWords → i < d.numWords →
        getIdx v d idx = .ok (v / 2 ^ (d.wordSize * (d.numWords - 1 - i)) % 2 ^ d.wordSize)) ∧
    (idx < -(d.numWords : Int) ∨ (d.numWords : Int) ≤ idx → getIdx v d idx = .error .index) := by
  refine ⟨fun i hi hlt => hi ▸ getIdx_nat hv hlt, fun i hi hlt => hi ▸ getIdx_neg hv hlt, ?_⟩
  intro h
  unfold getIdx
  rw [if_pos (by omega)]

example : getIdx 0x001b774954fd ⟨"mac_cisco", 16, 3, ['.'], 4, false⟩ 1 = .ok 0x7749 := by decide +kernel
example : getIdx 0x001b774954fd ⟨"mac_cisco", 16, 3, ['.'], 4, false⟩ (-1) = .ok 0x54fd := by decide +kernel
example : getIdx 0x001b774954fd ⟨"mac_cisco", 16, 3, ['.'], 4, false⟩ 3 = .error .index := by decide +kernel

/-- `e[i] = x` succeeds for every index `0 ≤ i < num_words` and every `0 ≤ x < 2^word_size` of
    the object's own dialect; afterwards word i reads x, every other word is unchanged, and the
    value is still in range -/
theorem setItem_spec (v : Nat) (d : Dialect) (hv : v < 2 ^ (d.numWords * d.wordSize)) (i x : Nat)
    (hi : i < d.numWords) (hx : x < 2 ^ d.wordSize) :
    ∃ r, setItem v d i x = .ok r ∧ r < 2 ^ (d.numWords * d.wordSize) ∧ getIdx r d i = .ok x ∧
      ∀ j : Nat, j < d.numWords → j ≠ i → getIdx r d j = getIdx v d j := by
  let W' := (beWords d.wordSize d.numWords v).set i x
  have hlen : W'.length = d.numWords := by simp [W', beWords_length]
  have hlt : ∀ a ∈ W', a < 2 ^ d.wordSize := by
    intro a ha
    rcases List.mem_or_eq_of_mem_set ha with h | h
    · exact beWords_lt _ _ _ a h
    · exact h ▸ hx
  let r := beWordsValue d.wordSize W'
  have hr : r < 2 ^ (d.numWords * d.wordSize) := by
    have := beWordsValue_lt hlt
    rwa [hlen, Nat.mul_comm] at this
  have hset : setItem v d i x = .ok r := by
    have hx' : (x : Int) < (2 : Int) ^ d.wordSize := by exact_mod_cast hx
    unfold setItem
    rw [if_neg (by omega), if_neg (by omega), intToWords_ok hv]
    exact (C15.wordsToInt_spec _ _ _).1 ⟨hlen, hlt⟩
  -- the words of r are W', so word j of r is W'[j]
  have hback : ∀ j, j < d.numWords → W'[j]? = some (wordAt r d j) := by
    intro j hj
    have := words_beWordsValue hlt
    rw [hlen] at this
    rw [← words_get r hj, this]
  refine ⟨r, hset, hr, ?_, ?_⟩
  · have := hback i hi
    rw [List.getElem?_set_self (by rw [beWords_length]; exact hi)] at this
    rw [getIdx_nat hr hi, ← Option.some.inj this]
  · intro j hj hne
    have := hback j hj
    rw [List.getElem?_set_ne (Ne.symm hne), words_get v hj] at this
    rw [getIdx_nat hr hj, getIdx_nat hv hj, Option.some.inj this]

/-- assignment with an index outside `0 .. num_words-1` or a value outside `0 .. 2^word_size-1`
    is rejected (IndexError); `setItem_spec` is the other half -/
theorem setItem_reject (v : Nat) (d : Dialect) (idx value : Int)
    (h : idx < 0 ∨ (d.numWords : Int) ≤ idx ∨ value < 0 ∨ (2 : Int) ^ d.wordSize ≤ value) :
    setItem v d idx value = .error .index := by
  by_cases g1 : (0 : Int) ≤ idx ∧ idx ≤ (d.numWords : Int) - 1
  · have g2 : ¬ ((0 : Int) ≤ value ∧ value ≤ (2 : Int) ^ d.wordSize - 1) := by omega
    simp only [setItem, g1, not_true_eq_false, if_false, g2, not_false_eq_true, if_true, and_self]
  · simp only [setItem, g1, not_false_eq_true, if_true]

example : setItem 0x001b774954fd ⟨"mac_cisco", 16, 3, ['.'], 4, false⟩ 0 0xffff = .ok 0xffff774954fd := by decide +kernel
example : setItem 0x001b774954fd ⟨"mac_cisco", 16, 3, ['.'], 4, false⟩ 0 0x10000 = .error .index := by decide +kernel

private theorem formats_lengths_disjoint : ∀ g ∈ macFormats, ∀ f ∈ eui64Formats, g.groups = f.groups → g.hi < f.lo ∨ f.hi < g.lo := by
  decide

theorem eui64_spelling_not_mac {f : MacFmt} (hf : f ∈ eui64Formats) {c : Char} {toks : List (List Char)}
    (h : Spelling c toks) (hg : f.groups = toks.length) (hl : ∀ t ∈ toks, f.lo ≤ t.length ∧ t.length ≤ f.hi) :
    strToInt48 ([c].intercalate toks) = .error .addrFormat :=
  strToIntOf_foreign rowOk48 h f hg hl (fun g hgm => formats_lengths_disjoint g hgm f hf)

theorem mac_spelling_not_eui64 {f : MacFmt} (hf : f ∈ macFormats) {c : Char} {toks : List (List Char)}
    (h : Spelling c toks) (hg : f.groups = toks.length) (hl : ∀ t ∈ toks, f.lo ≤ t.length ∧ t.length ≤ f.hi) :
    strToInt64 ([c].intercalate toks) = .error .addrFormat :=
  strToIntOf_foreign rowOk64 h f hg hl (fun g hgm e => (formats_lengths_disjoint f hf g hgm e.symm).symm)

/-- **every accepted EUI-48 spelling**: hex tokens joined by one separator (or one bare token)
    that fit a row of `RE_MAC_FORMATS` — 6 groups of 1-2 digits with ':' or '-', 3 groups of
    1-4 digits with ':', '-' or '.', 2 groups of 5-6 digits, 12 or 11 bare digits, any letter
    case — denote the big-endian value of the tokens read as words of 48/groups bits, with
    implicit and with explicit version -/
theorem spellings48 (f : MacFmt) (hf : f ∈ macFormats) (c : Char) (toks : List (List Char))
    (h : Spelling c toks) (hsep : f.sep = [c] ∨ (f.sep = [] ∧ toks.length = 1)) (hg : f.groups = toks.length)
    (hl : ∀ t ∈ toks, f.lo ≤ t.length ∧ t.length ≤ f.hi) :
    ∃ p, pad48 f.groups = some p ∧ 4 * p * f.groups = 48 ∧
      strToInt48 ([c].intercalate toks) = .ok (beWordsValue (4 * p) (toks.map tokVal)) ∧
      ofAny (.str ([c].intercalate toks)) none = .ok (48, beWordsValue (4 * p) (toks.map tokVal)) ∧
      ofAny (.str ([c].intercalate toks)) (some 48) = .ok (48, beWordsValue (4 * p) (toks.map tokVal)) := by
  obtain ⟨p, hp, hw, hs⟩ := strToIntOf_spelling rowOk48 hf h ⟨hsep, hg, hl⟩
  exact ⟨p, hp, hw, hs, ofAny_of_str48 hs⟩

/-- **every accepted EUI-64 spelling** (8 groups of 1-2 digits with ':' or '-', 4 groups of 1-4
    digits with ':', '-' or '.', 16 bare digits) denotes the value of its tokens; with implicit
    version it is recognised as version 64 because no EUI-48 pattern captures it -/
theorem spellings64 (f : MacFmt) (hf : f ∈ eui64Formats) (c : Char) (toks : List (List Char))
    (h : Spelling c toks) (hsep : f.sep = [c] ∨ (f.sep = [] ∧ toks.length = 1)) (hg : f.groups = toks.length)
    (hl : ∀ t ∈ toks, f.lo ≤ t.length ∧ t.length ≤ f.hi) :
    ∃ p, pad64 f.groups = some p ∧ 4 * p * f.groups = 64 ∧
      strToInt64 ([c].intercalate toks) = .ok (beWordsValue (4 * p) (toks.map tokVal)) ∧
      strToInt48 ([c].intercalate toks) = .error .addrFormat ∧
      ofAny (.str ([c].intercalate toks)) none = .ok (64, beWordsValue (4 * p) (toks.map tokVal)) ∧
      ofAny (.str ([c].intercalate toks)) (some 64) = .ok (64, beWordsValue (4 * p) (toks.map tokVal)) := by
  obtain ⟨p, hp, hw, hs⟩ := strToIntOf_spelling rowOk64 hf h ⟨hsep, hg, hl⟩
  have hno := eui64_spelling_not_mac hf h hg hl
  exact ⟨p, hp, hw, hs, hno, ofAny_of_str64 hno hs⟩

example : strToInt48 "00-1B-77-49-54-FD".toList = .ok 0x001b774954fd := by
  decide_lit
example : strToInt48 "1b.7749.54fd".toList = .ok 0x001b774954fd := by
  decide_lit
example : strToInt48 "001b77:4954fd".toList = .ok 0x001b774954fd := by
  decide_lit
example : strToInt48 "001B774954FD".toList = .ok 0x001b774954fd := by
  decide_lit
example : ofAny (.str "0000000041000000".toList) none = .ok (64, 0x41000000) := by
  decide_lit
example : ofAny (.str "00-1B-77-49-54-FD".toList) (some 64) = .error .addrFormat := by
  decide_lit

/-- **round trip, general form** (covers user subclasses): a dialect whose attributes fit a row
    of `RE_MAC_FORMATS` prints every EUI-48 value as a text that parses back to (48, value),
    with implicit and with explicit version -/
theorem roundtrip_fit48 (d : Dialect) (f : MacFmt) (p : Nat) (hf : f ∈ macFormats)
    (hfit : fits d f p 48 = true) (v : Nat) (hv : v < 2 ^ 48) :
    ∃ s, intToStr d v = .ok s ∧ strToInt48 s = .ok v ∧ ofAny (.str s) none = .ok (48, v) ∧
      ofAny (.str s) (some 48) = .ok (48, v) := by
  obtain ⟨_, h1, _, _, hs⟩ := print_parse rowOk48 hf hfit hv
  exact ⟨_, h1, hs, ofAny_of_str48 hs⟩

theorem roundtrip_fit64 (d : Dialect) (f : MacFmt) (p : Nat) (hf : f ∈ eui64Formats)
    (hfit : fits d f p 64 = true) (v : Nat) (hv : v < 2 ^ 64) :
    ∃ s, intToStr d v = .ok s ∧ strToInt64 s = .ok v ∧ ofAny (.str s) none = .ok (64, v) ∧
      ofAny (.str s) (some 64) = .ok (64, v) := by
  obtain ⟨toks, h1, hsp, ht, hs⟩ := print_parse rowOk64 hf hfit hv
  have hno := eui64_spelling_not_mac hf hsp ht.groups ht.len
  exact ⟨_, h1, hs, ofAny_of_str64 hno hs⟩

private def fitsSome (fmts : List MacFmt) (padOf : Nat → Option Nat) (width : Nat) (d : Dialect) : Bool :=
  fmts.any (fun f => match padOf f.groups with
    | some p => fits d f p width
    | none => false)

private theorem builtin48_fit : ∀ d ∈ macDialects, fitsSome macFormats pad48 48 d = true := by decide
private theorem builtin64_fit : ∀ d ∈ eui64Dialects, fitsSome eui64Formats pad64 64 d = true := by decide

private theorem fitsSome_elim {fmts padOf width d} (h : fitsSome fmts padOf width d = true) :
    ∃ f ∈ fmts, ∃ p, fits d f p width = true := by
  unfold fitsSome at h
  rw [List.any_eq_true] at h
  obtain ⟨f, hf, hm⟩ := h
  cases hp : padOf f.groups with
  | none => rw [hp] at hm; cases hm
  | some p => rw [hp] at hm; exact ⟨f, hf, p, hm⟩

theorem builtin48_fits (d : Dialect) (hd : d ∈ macDialects) : ∃ f ∈ macFormats, ∃ p, fits d f p 48 = true :=
  fitsSome_elim (builtin48_fit d hd)

theorem builtin64_fits (d : Dialect) (hd : d ∈ eui64Dialects) : ∃ f ∈ eui64Formats, ∃ p, fits d f p 64 = true :=
  fitsSome_elim (builtin64_fit d hd)

/-- **round trip for every built-in EUI-48 dialect** (mac_eui48, mac_unix, mac_unix_expanded,
    mac_cisco, mac_bare, mac_pgsql — as generated from the source): the printed text of every
    value parses back, with implicit or explicit version, to the same value and version 48 -/
theorem roundtrip48 (d : Dialect) (hd : d ∈ macDialects) (v : Nat) (hv : v < 2 ^ 48) :
    ∃ s, intToStr d v = .ok s ∧ ofAny (.str s) none = .ok (48, v) ∧ ofAny (.str s) (some 48) = .ok (48, v) := by
  obtain ⟨f, hf, p, hfit⟩ := builtin48_fits d hd
  obtain ⟨s, a, _, b, c⟩ := roundtrip_fit48 d f p hf hfit v hv
  exact ⟨s, a, b, c⟩

/-- **round trip for every built-in EUI-64 dialect** (eui64_base, eui64_unix,
    eui64_unix_expanded, eui64_cisco, eui64_bare) -/
theorem roundtrip64 (d : Dialect) (hd : d ∈ eui64Dialects) (v : Nat) (hv : v < 2 ^ 64) :
    ∃ s, intToStr d v = .ok s ∧ ofAny (.str s) none = .ok (64, v) ∧ ofAny (.str s) (some 64) = .ok (64, v) := by
  obtain ⟨f, hf, p, hfit⟩ := builtin64_fits d hd
  obtain ⟨s, a, _, b, c⟩ := roundtrip_fit64 d f p hf hfit v hv
  exact ⟨s, a, b, c⟩

example : intToStr ⟨"mac_pgsql", 24, 2, [':'], 6, false⟩ 0x001b774954fd = .ok "001b77:4954fd".toList := by
  decide_lit
example : (⟨"mac_pgsql", 24, 2, [':'], 6, false⟩ : Dialect) ∈ macDialects := by decide

/-- integers: implicit version 48 up to 2^48-1, 64 up to 2^64-1, otherwise rejected; explicit
    version: exactly the range of that version -/
theorem ofAny_int (n : Nat) :
    (n < 2 ^ 48 → ofAny (.int n) none = .ok (48, n)) ∧
    (2 ^ 48 ≤ n → n < 2 ^ 64 → ofAny (.int n) none = .ok (64, n)) ∧
    (2 ^ 64 ≤ n → ofAny (.int n) none = .error .type_) ∧
    (n < 2 ^ 48 → ofAny (.int n) (some 48) = .ok (48, n)) ∧
    (2 ^ 48 ≤ n → ofAny (.int n) (some 48) = .error .addrFormat) ∧
    (n < 2 ^ 64 → ofAny (.int n) (some 64) = .ok (64, n)) ∧
    (2 ^ 64 ≤ n → ofAny (.int n) (some 64) = .error .addrFormat) := by
  refine ⟨?_, ?_, ?_, ?_, ?_, ?_, ?_⟩
  · intro h
    rw [ofAny_int_none, if_pos (by omega), setExplicit48_int, if_pos (by omega), Int.toNat_natCast]
  · intro h1 h2
    rw [ofAny_int_none, if_neg (by omega), if_pos (by omega), setExplicit64_int, if_pos (by omega),
      Int.toNat_natCast]
  · intro h
    rw [ofAny_int_none, if_neg (by omega), if_neg (by omega)]
  · intro h
    rw [ofAny_some48, setExplicit48_int, if_pos (by omega), Int.toNat_natCast]
  · intro h
    rw [ofAny_some48, setExplicit48_int, if_neg (by omega)]
  · intro h
    rw [ofAny_some64, setExplicit64_int, if_pos (by omega), Int.toNat_natCast]
  · intro h
    rw [ofAny_some64, setExplicit64_int, if_neg (by omega)]

/-- `words`, `packed`, `bits()`, `bits(sep)` of an EUI do not involve the object's dialect at
    all (the model functions have no dialect argument; the harness varies the dialect on the
    implementation side): they are the C15 codecs with octet words — `words` the big-endian
    octets, `packed` the big-endian bytes, `bits(sep)` the zero-padded octets joined by any
    separator string, `bits()` joined by '-'. (`ei` is in `oui_ei_split`.) -/
theorem accessors_dialect_free (v : Nat) :
    (Eui.words 48 v = intToWords v 8 6 ∧ Eui.words 64 v = intToWords v 8 8) ∧
    (v < 2 ^ 48 → Eui.packed 48 v = .ok (beBytes 6 v)) ∧ (v < 2 ^ 64 → Eui.packed 64 v = .ok (beBytes 8 v)) ∧
    (∀ sep, Eui.bits 48 v (some sep) = intToBits v 8 6 sep ∧ Eui.bits 64 v (some sep) = intToBits v 8 8 sep) ∧
    (Eui.bits 48 v none = intToBits v 8 6 ['-'] ∧ Eui.bits 64 v none = intToBits v 8 8 ['-']) := by
  refine ⟨⟨rfl, rfl⟩, ?_, ?_, fun sep => ⟨rfl, rfl⟩, ⟨rfl, rfl⟩⟩
  · intro h; exact (C15.e48_intToPacked_spec v).1 h
  · intro h; exact (C15.e64_intToPacked_spec v).1 h

/-- with an explicit version, a spelling of the other family is rejected (AddrFormatError) -/
theorem spellings_other_version (c : Char) (toks : List (List Char)) (h : Spelling c toks) :
    (∀ f ∈ eui64Formats, (f.sep = [c] ∨ (f.sep = [] ∧ toks.length = 1)) → f.groups = toks.length →
      (∀ t ∈ toks, f.lo ≤ t.length ∧ t.length ≤ f.hi) →
      ofAny (.str ([c].intercalate toks)) (some 48) = .error .addrFormat) ∧
    (∀ f ∈ macFormats, (f.sep = [c] ∨ (f.sep = [] ∧ toks.length = 1)) → f.groups = toks.length →
      (∀ t ∈ toks, f.lo ≤ t.length ∧ t.length ≤ f.hi) →
      ofAny (.str ([c].intercalate toks)) (some 64) = .error .addrFormat) := by
  constructor
  · intro f hf _ hg hl
    exact ofAny_str48 (eui64_spelling_not_mac hf h hg hl)
  · intro f hf _ hg hl
    exact ofAny_str64 (mac_spelling_not_eui64 hf h hg hl)

end NV.C08
