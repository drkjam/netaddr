/-
Props/C14.lean — property C14 "Address arithmetic and bitwise operators are exact and
range-checked".  The lemmas these rest on are in Lemmas/C14L.

Statement (properties.jsonl): for every address a and integer n, a+n, n+a, a-n, n-a, a+=n,
a-=n, a|n, a&n, a^n, a<<n, a>>n (n an int or another address for the bitwise forms) return an
address of the same version whose value is exactly the mathematical result whenever that
result lies in 0..2^width-1, and otherwise raise (IndexError for + and -, AddrFormatError for
the bitwise forms) without changing the operands.  Constructing an address from an integer
yields exactly that value — IPv4 when it fits in 32 bits unless version 6 is requested, IPv6
above that — and an integer outside the requested or any family's range is rejected with
AddrFormatError; no operation ever yields an out-of-range value, a different version, or a
silently wrapped result, and bool(a) is value != 0 while int()/index/hex() return the value.

How it is stated here.  `checked ver x e` is the specification: the exact (unbounded,
`Int`) result `x` as an address of version `ver` if `0 ≤ x < 2^width`, otherwise the error
`e`.  Every operator of the model (Model/Address.lean — the definitions the driver
executes) is proved equal to `checked` of its exact mathematical result, for all addresses
(both versions), all `n : Int`, all shift counts.  `checked_ok`/`checked_err` spell out what
that means (same version, exact value, in range / rejected exactly outside the range).
For `|`, `&`, `^` with a negative right operand the "mathematical result" is the infinite
two's-complement one; `ibit` is that reading of an `Int` and `pyOr_bit/pyAnd_bit/pyXor_bit`
prove the model's closed forms bit for bit.

Props/C14Deep.lean goes on: shifts for every right operand (negative counts, addresses
as counts, reflected `n << a`; `operators_exact_all`), `a += n`/`a -= n` statement by statement
with an event log (`iadd_program`, `inplace_write_after_checks`), and the exact `hex()` string
(`hex_exact`, `hex_unique`).

Some of the model functions have a twin translated from netaddr's source text (Gen/Trans.lean); Props/Tie*.lean
prove the two equal (DESIGN.md 4.5; the `tie_theorems` of obligations/C14.json).
-/
import NetaddrVerif.Lemmas.C14L
import NetaddrVerif.Lemmas.Digits
import NetaddrVerif.Model.Network   -- `DecidableEq (Except ..)`, for the examples
namespace NV.C14
open NV NV.Address

/-! ### what "exact and range-checked" means -/

/-- `checked` accepts exactly `0 ≤ x < 2^width`, with the exact value and the same version … -/
theorem checked_ok (ver : Nat) (x : Int) (e : Err) (r : Addr) (h : checked ver x e = .ok r) :
    r.ver = ver ∧ (r.val : Int) = x ∧ r.val < 2 ^ width ver := by
  unfold checked at h
  split at h
  · rename_i hr
    cases h
    exact ⟨rfl, Int.toNat_of_nonneg hr.1, (Int.toNat_lt hr.1).mpr hr.2⟩
  · cases h

/-- … and rejects, with the named error, exactly the results outside the range. -/
theorem checked_err (ver : Nat) (x : Int) (e e' : Err) (h : checked ver x e = .error e') :
    e' = e ∧ (x < 0 ∨ ((2 ^ width ver : Nat) : Int) ≤ x) := by
  unfold checked at h
  split at h
  · cases h
  · rename_i hr
    cases h
    exact ⟨rfl, (Int.lt_or_le x 0).imp_right fun h0 => Int.not_lt.mp fun h1 => hr ⟨h0, h1⟩⟩

theorem checked_wf (ver : Nat) (x : Int) (e : Err) (r : Addr) (hv : ver = 4 ∨ ver = 6)
    (h : checked ver x e = .ok r) : r.WF ∧ r.ver = ver ∧ (r.val : Int) = x :=
  let ⟨h1, h2, h3⟩ := checked_ok ver x e r h
  ⟨⟨h1 ▸ hv, h1 ▸ h3⟩, h1, h2⟩

/-! ### `+` and `-` in all six forms: exact, else IndexError -/

theorem add_exact (a : Addr) (n : Int) (h : a.WF) :
    add a n = checked a.ver ((a.val : Int) + n) .index := guardNew_eq a _ h

theorem radd_exact (a : Addr) (n : Int) (h : a.WF) :
    radd a n = checked a.ver (n + (a.val : Int)) .index := by
  rw [Int.add_comm]; exact guardNew_eq a _ h

theorem sub_exact (a : Addr) (n : Int) (h : a.WF) :
    sub a n = checked a.ver ((a.val : Int) - n) .index := guardNew_eq a _ h

theorem rsub_exact (a : Addr) (n : Int) (h : a.WF) :
    rsub a n = checked a.ver (n - (a.val : Int)) .index := guardNew_eq a _ h

/-- `a += n` : the new state of the object (no well-formedness needed: the constructor is
    not involved) -/
theorem iadd_exact (a : Addr) (n : Int) :
    iadd a n = checked a.ver ((a.val : Int) + n) .index := guardInplace_eq a _

theorem isub_exact (a : Addr) (n : Int) :
    isub a n = checked a.ver ((a.val : Int) - n) .index := guardInplace_eq a _

/-- in-place forms are atomic: after a failing `a += n` / `a -= n` the object is what it was,
    after a successful one it is the result -/
theorem inplace_atomic (a : Addr) (r : R Addr) :
    (∀ e, r = .error e → stepInplace a r = (a, some e)) ∧
    (∀ a', r = .ok a' → stepInplace a r = (a', none)) := by
  constructor
  · intro e h; subst h; rfl
  · intro a' h; subst h; rfl

/-- `a += n` on a live object: in range, the object now holds exactly `a + n` (same version);
    out of range, IndexError and the object is untouched -/
theorem iadd_step (a : Addr) (n : Int) :
    stepInplace a (iadd a n) =
      if 0 ≤ (a.val : Int) + n ∧ (a.val : Int) + n < ((2 ^ width a.ver : Nat) : Int)
      then (⟨a.ver, ((a.val : Int) + n).toNat⟩, none) else (a, some .index) := by
  rw [iadd_exact]; exact stepInplace_checked a _ .index

theorem isub_step (a : Addr) (n : Int) :
    stepInplace a (isub a n) =
      if 0 ≤ (a.val : Int) - n ∧ (a.val : Int) - n < ((2 ^ width a.ver : Nat) : Int)
      then (⟨a.ver, ((a.val : Int) - n).toNat⟩, none) else (a, some .index) := by
  rw [isub_exact]; exact stepInplace_checked a _ .index

/-- non-vacuity: the top IPv4 address, `+ 1` overflows, `- 1` and `+= -1` do not;
    `2^32 - a` is the reflected form -/
example : add ⟨4, 4294967295⟩ 1 = .error .index ∧ sub ⟨4, 4294967295⟩ 1 = .ok ⟨4, 4294967294⟩ ∧
    rsub ⟨4, 4294967295⟩ 4294967296 = .ok ⟨4, 1⟩ ∧ radd ⟨6, 0⟩ (-1) = .error .index ∧
    stepInplace ⟨4, 0⟩ (isub ⟨4, 0⟩ 1) = (⟨4, 0⟩, some .index) ∧
    stepInplace ⟨6, 5⟩ (iadd ⟨6, 5⟩ (2 ^ 128 - 6)) = (⟨6, 2 ^ 128 - 1⟩, none) := by decide +kernel

/-! ### `|`, `&`, `^` : exact (two's complement for a negative operand), else AddrFormatError -/

/-- `a | x`, x an int or an address of any version -/
theorem or_exact (a : Addr) (x : Operand) (h : a.WF) :
    or_ a x = checked a.ver (pyOr a.val x.toInt) .addrFormat := ctor_some _ _ h.1

theorem and_exact (a : Addr) (x : Operand) (h : a.WF) :
    and_ a x = checked a.ver (pyAnd a.val x.toInt) .addrFormat := ctor_some _ _ h.1

theorem xor_exact (a : Addr) (x : Operand) (h : a.WF) :
    xor_ a x = checked a.ver (pyXor a.val x.toInt) .addrFormat := ctor_some _ _ h.1

/-- `pyOr`, `pyAnd`, `pyXor` are bitwise OR, AND, XOR of the infinite two's-complement expansions -/
theorem pyOr_bit (a : Nat) (n : Int) (i : Nat) : ibit (pyOr a n) i = (a.testBit i || ibit n i) := by
  cases n with
  | ofNat n => exact Nat.testBit_or a n i
  | negSucc m =>
    simp only [pyOr, ibit, Nat.testBit_xor, Nat.testBit_and]
    cases m.testBit i <;> cases a.testBit i <;> rfl

theorem pyAnd_bit (a : Nat) (n : Int) (i : Nat) : ibit (pyAnd a n) i = (a.testBit i && ibit n i) := by
  cases n with
  | ofNat n => exact Nat.testBit_and a n i
  | negSucc m =>
    simp only [pyAnd, ibit, Nat.testBit_xor, Nat.testBit_and]
    cases m.testBit i <;> cases a.testBit i <;> rfl

theorem pyXor_bit (a : Nat) (n : Int) (i : Nat) : ibit (pyXor a n) i = (a.testBit i ^^ ibit n i) := by
  cases n with
  | ofNat n => exact Nat.testBit_xor a n i
  | negSucc m =>
    simp only [pyXor, ibit, Nat.testBit_xor]
    cases m.testBit i <;> cases a.testBit i <;> rfl

/-- the two's-complement reading determines the integer: `ibit` is injective -/
theorem ibit_ext (x y : Int) (h : ∀ i, ibit x i = ibit y i) : x = y := by
  cases x with
  | ofNat n =>
    cases y with
    | ofNat k => exact congrArg Int.ofNat (Nat.eq_of_testBit_eq h)
    | negSucc k => exact absurd (h _) (ibit_ofNat_ne_negSucc n k)
  | negSucc m =>
    cases y with
    | ofNat k => exact absurd (h _).symm (ibit_ofNat_ne_negSucc k m)
    | negSucc k => exact congrArg Int.negSucc (Nat.eq_of_testBit_eq fun i => Bool.not_inj (h i))

/-- for a non-negative operand (in particular another address) these are the `Nat` operators -/
theorem bitops_nonneg (a n : Nat) :
    pyOr a (n : Int) = ((a ||| n : Nat) : Int) ∧ pyAnd a (n : Int) = ((a &&& n : Nat) : Int) ∧
    pyXor a (n : Int) = ((a ^^^ n : Nat) : Int) := ⟨rfl, rfl, rfl⟩

/-- `|` and `^` with a negative int always raise AddrFormatError (the exact result is
    negative); `&` never raises, whatever the operand (the result is a sub-mask of `a`) -/
theorem bitops_sign (a : Addr) (h : a.WF) :
    (∀ n : Int, n < 0 → or_ a (.int n) = .error .addrFormat ∧ xor_ a (.int n) = .error .addrFormat) ∧
    (∀ x : Operand, ∃ r, and_ a x = .ok r ∧ r.ver = a.ver ∧ r.val ≤ a.val) := by
  constructor
  · intro n hn
    obtain ⟨m, rfl⟩ := Int.eq_negSucc_of_lt_zero hn
    exact ⟨(or_exact a _ h).trans (checked_out _ _ _ (Or.inl (Int.negSucc_lt_zero _))),
      (xor_exact a _ h).trans (checked_out _ _ _ (Or.inl (Int.negSucc_lt_zero _)))⟩
  · intro x
    obtain ⟨k, hk, hle⟩ := pyAnd_le a.val x.toInt
    rw [and_exact a x h, hk, checked_nat _ _ _ (Nat.lt_of_le_of_lt hle h.2)]
    exact ⟨_, rfl, rfl, hle⟩

example : or_ ⟨4, 5⟩ (.int 2) = .ok ⟨4, 7⟩ ∧ or_ ⟨4, 5⟩ (.int (-1)) = .error .addrFormat ∧
    and_ ⟨4, 5⟩ (.int (-2)) = .ok ⟨4, 4⟩ ∧ xor_ ⟨4, 5⟩ (.addr ⟨6, 2 ^ 127⟩) = .error .addrFormat ∧
    xor_ ⟨6, 5⟩ (.addr ⟨4, 4⟩) = .ok ⟨6, 1⟩ ∧ or_ ⟨4, 0⟩ (.int (2 ^ 32)) = .error .addrFormat := by decide +kernel

/-! ### shifts -/

/-- `a << n` is `a · 2^n`, exact, else AddrFormatError — never wrapped -/
theorem shl_exact (a : Addr) (n : Nat) (h : a.WF) :
    shl a n = checked a.ver (((a.val * 2 ^ n : Nat)) : Int) .addrFormat := shl_eq a n h

/-- `a >> n` is `⌊a / 2^n⌋` and never fails -/
theorem shr_exact (a : Addr) (n : Nat) (h : a.WF) :
    shr a n = .ok ⟨a.ver, a.val / 2 ^ n⟩ :=
  (shr_eq a n h).trans (checked_nat _ _ _ (Nat.lt_of_le_of_lt (Nat.div_le_self _ _) h.2))

example : shl ⟨4, 1⟩ 31 = .ok ⟨4, 2 ^ 31⟩ ∧ shl ⟨4, 1⟩ 32 = .error .addrFormat ∧
    shl ⟨6, 3⟩ 127 = .error .addrFormat ∧ shr ⟨6, 2 ^ 128 - 1⟩ 127 = .ok ⟨6, 1⟩ ∧
    shr ⟨4, 7⟩ 200 = .ok ⟨4, 0⟩ := by decide +kernel

/-! ### closure: never out of range, never another version, never another error -/

/-- the nine operators and the two in-place forms as one family -/
inductive Op where
  | add (n : Int) | radd (n : Int) | sub (n : Int) | rsub (n : Int) | iadd (n : Int) | isub (n : Int)
  | or_ (x : Operand) | and_ (x : Operand) | xor_ (x : Operand) | shl (n : Nat) | shr (n : Nat)

def Op.run (a : Addr) : Op → R Addr
  | .add n => Address.add a n | .radd n => Address.radd a n | .sub n => Address.sub a n
  | .rsub n => Address.rsub a n | .iadd n => Address.iadd a n | .isub n => Address.isub a n
  | .or_ x => Address.or_ a x | .and_ x => Address.and_ a x | .xor_ x => Address.xor_ a x
  | .shl n => Address.shl a n | .shr n => Address.shr a n

def Op.exact (a : Addr) : Op → Int
  | .add n => a.val + n | .radd n => n + a.val | .sub n => a.val - n
  | .rsub n => n - a.val | .iadd n => a.val + n | .isub n => a.val - n
  | .or_ x => pyOr a.val x.toInt | .and_ x => pyAnd a.val x.toInt | .xor_ x => pyXor a.val x.toInt
  | .shl n => ((a.val * 2 ^ n : Nat) : Int) | .shr n => ((a.val / 2 ^ n : Nat) : Int)

def Op.err : Op → Err
  | .add _ | .radd _ | .sub _ | .rsub _ | .iadd _ | .isub _ => .index
  | _ => .addrFormat

/-- C14, operators.  Every operator on every well-formed address returns exactly
    `checked` of its mathematical result: an address of the same version with exactly that
    value when it lies in `0 .. 2^width-1`, and otherwise the error the property names. -/
theorem operators_exact (a : Addr) (op : Op) (h : a.WF) :
    op.run a = checked a.ver (op.exact a) op.err := by
  cases op with
  | add n => exact add_exact a n h
  | radd n => exact radd_exact a n h
  | sub n => exact sub_exact a n h
  | rsub n => exact rsub_exact a n h
  | iadd n => exact iadd_exact a n
  | isub n => exact isub_exact a n
  | or_ x => exact or_exact a x h
  | and_ x => exact and_exact a x h
  | xor_ x => exact xor_exact a x h
  | shl n => exact shl_exact a n h
  | shr n => exact shr_eq a n h

/-- no operation ever yields an out-of-range value, a different version or a wrapped
    result; and a failure is exactly the named error, exactly when the exact result is
    outside `0 .. 2^width-1` -/
theorem operators_closed (a : Addr) (op : Op) (h : a.WF) :
    (∀ r, op.run a = .ok r → r.WF ∧ r.ver = a.ver ∧ (r.val : Int) = op.exact a) ∧
    (∀ e, op.run a = .error e → e = op.err ∧
      (op.exact a < 0 ∨ ((2 ^ width a.ver : Nat) : Int) ≤ op.exact a)) := by
  rw [operators_exact a op h]
  constructor
  · exact fun r hr => checked_wf _ _ _ r h.1 hr
  · exact fun e he => checked_err _ _ _ _ he

/-- non-vacuity of `operators_exact` / `operators_closed`: a success, both kinds of failure, and
    the exact results they are compared with -/
example : (Op.add 1).run ⟨4, 4294967295⟩ = .error .index ∧ (Op.add 1).exact ⟨4, 4294967295⟩ = 4294967296 ∧
    (Op.rsub 3).run ⟨6, 4⟩ = .error .index ∧ (Op.rsub 3).exact ⟨6, 4⟩ = -1 ∧
    (Op.shl 4).run ⟨4, 3⟩ = .ok ⟨4, 48⟩ ∧ (Op.shl 4).exact ⟨4, 3⟩ = 48 ∧
    (Op.and_ (.int (-2))).run ⟨6, 7⟩ = .ok ⟨6, 6⟩ ∧ (Op.xor_ (.int (-2))).run ⟨6, 7⟩ = .error .addrFormat ∧
    (Op.xor_ (.int (-2))).exact ⟨6, 7⟩ = -7 := by decide +kernel

/-! ### the integer branch of the constructor -/

/-- explicit version 4 or 6: exactly `0 .. 2^width-1` is accepted, with exactly that value and
    the requested version; everything else is AddrFormatError -/
theorem ctor_explicit (x : Int) (v : Nat) (hv : v = 4 ∨ v = 6) :
    ctor x (some v) = checked v x .addrFormat := ctor_some x v hv

/-- no version given: IPv4 when it fits in 32 bits, IPv6 above that up to 2^128-1, otherwise
    (negative, or ≥ 2^128) AddrFormatError -/
theorem ctor_auto (x : Int) :
    ctor x none =
      if 0 ≤ x ∧ x < 2 ^ 32 then .ok ⟨4, x.toNat⟩
      else if 2 ^ 32 ≤ x ∧ x < 2 ^ 128 then .ok ⟨6, x.toNat⟩
      else .error .addrFormat := by
  simp only [ctor, le_maxInt_iff, maxInt_lt_iff]
  rfl

theorem ctor_none (x : Int) : ctor x none = ctor x (some (if x < 2 ^ 32 then 4 else 6)) := by
  rw [ctor_auto]
  by_cases c : x < 2 ^ 32
  · rw [if_pos c, ctor_some x 4 (Or.inl rfl), if_neg fun h : 2 ^ 32 ≤ x ∧ x < 2 ^ 128 => Int.not_le.mpr c h.1]
    rfl
  · have c6 : 2 ^ 32 ≤ x ∧ x < 2 ^ 128 ↔ 0 ≤ x ∧ x < 2 ^ 128 :=
      and_congr_left' ⟨Int.le_trans (by decide), fun _ => Int.not_lt.mp c⟩
    rw [if_neg c, ctor_some x 6 (Or.inr rfl), if_neg fun h : 0 ≤ x ∧ x < 2 ^ 32 => c h.2]
    exact ite_congr (propext c6) (fun _ => rfl) (fun _ => rfl)

/-- whatever the constructor accepts is well formed and has exactly the offered value -/
theorem ctor_sound (x : Int) (ver : Option Nat) (r : Addr) (h : ctor x ver = .ok r) :
    r.WF ∧ (r.val : Int) = x ∧ (∀ v, ver = some v → r.ver = v) ∧
    (ver = none → (r.ver = 4 ↔ x < 2 ^ 32)) := by
  have explicit : ∀ v, ctor x (some v) = .ok r → r.WF ∧ r.ver = v ∧ (r.val : Int) = x := by
    intro v h
    by_cases hv : v = 4 ∨ v = 6
    · exact checked_wf v x _ r hv ((ctor_some x v hv).symm.trans h)
    · rw [ctor, if_neg hv] at h
      cases h
  cases ver with
  | some v =>
    obtain ⟨hwf, hver, hval⟩ := explicit v h
    exact ⟨hwf, hval, fun v' hv' => hver.trans (Option.some.inj hv'), nofun⟩
  | none =>
    obtain ⟨hwf, hver, hval⟩ := explicit _ ((ctor_none x).symm.trans h)
    refine ⟨hwf, hval, nofun, fun _ => ?_⟩
    rw [hver]
    split
    · exact iff_of_true rfl ‹_›
    · exact iff_of_false (by decide) ‹_›

/-- the constructor's only error on the integer branch (version 4, 6 or absent) is AddrFormatError,
    raised exactly outside the range -/
theorem ctor_rejects (x : Int) (ver : Option Nat) (e : Err) (hver : ver = none ∨ ver = some 4 ∨ ver = some 6)
    (h : ctor x ver = .error e) :
    e = .addrFormat ∧ (x < 0 ∨ (ver = some 4 ∧ 2 ^ 32 ≤ x) ∨ 2 ^ 128 ≤ x) := by
  have v4 : ctor x (some 4) = .error e → e = .addrFormat ∧ (x < 0 ∨ 2 ^ 32 ≤ x) :=
    fun h => checked_err 4 x _ e ((ctor_some x 4 (Or.inl rfl)).symm.trans h)
  have v6 : ctor x (some 6) = .error e → e = .addrFormat ∧ (x < 0 ∨ 2 ^ 128 ≤ x) :=
    fun h => checked_err 6 x _ e ((ctor_some x 6 (Or.inr rfl)).symm.trans h)
  rcases hver with rfl | rfl | rfl
  · rw [ctor_none] at h
    split at h
    · exact (v4 h).imp_right fun hx => Or.inl (hx.resolve_right (Int.not_le.mpr ‹_›))
    · exact (v6 h).imp_right (Or.imp_right Or.inr)
  · exact (v4 h).imp_right (Or.imp_right fun hx => Or.inl ⟨rfl, hx⟩)
  · exact (v6 h).imp_right (Or.imp_right Or.inr)

example : ctor 4294967295 none = .ok ⟨4, 4294967295⟩ ∧ ctor 4294967296 none = .ok ⟨6, 4294967296⟩ ∧
    ctor 5 (some 6) = .ok ⟨6, 5⟩ ∧ ctor 4294967296 (some 4) = .error .addrFormat ∧
    ctor (-1) none = .error .addrFormat ∧ ctor (2 ^ 128) none = .error .addrFormat ∧
    ctor (2 ^ 128 - 1) (some 6) = .ok ⟨6, 2 ^ 128 - 1⟩ := by decide +kernel

/-! ### observers -/

/-- `bool(a)` is `value != 0`; `int(a)` and `a.__index__()` are the value; `hex(a)` is `0x`
    followed by a hexadecimal numeral that reads back as the value -/
theorem observers (a : Addr) :
    (nonzero a = true ↔ a.val ≠ 0) ∧ toInt a = a.val ∧ index a = a.val ∧
    (hex a).take 2 = ['0', 'x'] ∧ ofHex ((hex a).drop 2) = some a.val := by
  refine ⟨by simp [nonzero], rfl, rfl, rfl, ?_⟩
  show ofHex (Nat.toDigits 16 a.val) = some a.val
  exact ofHex_toHex a.val

example : hex ⟨4, 255⟩ = "0xff".toList ∧ nonzero ⟨6, 0⟩ = false ∧ nonzero ⟨4, 1⟩ = true := by decide +kernel

end NV.C14
