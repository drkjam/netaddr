/-
Props/C15.lean — property C15: binary, bit, word, DNS and base-85 encodings are faithful and
invertible.  The property theorems, and with them `beBytes_shape` and `padBits_shape` (length,
digits and value of a byte string / bit string of an in-range number); the other helper lemmas are
in Lemmas/C15L*.lean.

Cross-reading of properties.jsonl: "packed / bytes() is the big-endian byte string of the
family's width" = `*_intToPacked_spec`, `toBytes_spec` (+ `beBytes_shape`);
"bits() and bin are the zero-padded and 0b binary spellings" = `intToBits_spec`, `intToBin_spec`;
"words is the big-endian word tuple" = `intToWords_spec`; "reverse_dns …" = `arpa4_spec`,
`arpa6_spec`; "base-85 is the 20-character base-85 numeral" = `base85_spec`; "decoders return
the original value for every encoder output" = `*_roundtrip`; "and raise on input of the wrong
length, with a word or value out of range, or with a digit outside the numeral's base" =
`wordsToInt_spec`, `*_packedToInt_spec`, `bitsToInt_spec`, `binToInt_spec`, `base85_reject`.

Second layer in Props/C15Deep.lean: signed arguments (`…Z` functions, what the driver runs),
`validWords_iff` / `validBits_iff` / `validBin_iff`, `bits_roundtrip_anysep` (every separator),
`base85_roundtrip_text` (the text `base85_to_ipv6` returns, through C01).
-/
import NetaddrVerif.Lemmas.C15LBytes
import NetaddrVerif.Lemmas.C15LBits
import NetaddrVerif.Lemmas.C15LB85
import NetaddrVerif.Lemmas.C15LArpa
import NetaddrVerif.Lemmas.C15LSep
import NetaddrVerif.Model.Network
import NetaddrVerif.Lemmas.StrLit
namespace NV.C15
open NV NV.Codec NV.Py NV.PyL

/-- `int_to_words`: in range, the tuple has `nw` words below 2^ws whose big-endian value is v;
    out of range it raises IndexError. -/
theorem intToWords_spec (v ws nw : Nat) :
    (v < 2 ^ (nw * ws) → ∃ words, intToWords v ws nw = .ok words ∧ words.length = nw ∧
        (∀ x ∈ words, x < 2 ^ ws) ∧ beWordsValue ws words = v) ∧
    (¬ v < 2 ^ (nw * ws) → intToWords v ws nw = .error .index) := by
  constructor
  · intro hv
    refine ⟨_, intToWords_ok hv, beWords_length ws nw v, ?_, ?_⟩
    · exact beWords_lt ws nw v
    · exact beWordsValue_words hv
  · exact intToWords_error

example : intToWords 0x001b774954fd 16 3 = .ok [0x001b, 0x7749, 0x54fd] := by decide +kernel
example : intToWords (2 ^ 48) 16 3 = .error .index := by decide +kernel

/-- `words_to_int`: exactly the sequences of `nw` words below 2^ws are accepted, with their
    big-endian value; every other sequence (wrong count, a word ≥ 2^ws) raises ValueError. -/
theorem wordsToInt_spec (words : List Nat) (ws nw : Nat) :
    (words.length = nw ∧ (∀ x ∈ words, x < 2 ^ ws) → wordsToInt words ws nw = .ok (beWordsValue ws words)) ∧
    (¬ (words.length = nw ∧ ∀ x ∈ words, x < 2 ^ ws) → wordsToInt words ws nw = .error .value) := by
  constructor
  · intro h
    simp only [wordsToInt, (validWords_iff words ws nw).mpr h, if_true]
    rw [orShift_reverse ws h.2]
  · intro h
    rw [wordsToInt, if_neg (mt (validWords_iff words ws nw).mp h)]

example : wordsToInt [0x001b, 0x7749, 0x54fd] 16 3 = .ok 0x001b774954fd := by decide +kernel
example : wordsToInt [0x10000, 0, 0] 16 3 = .error .value := by decide +kernel
example : wordsToInt [0, 0] 16 3 = .error .value := by decide +kernel

theorem words_roundtrip (v ws nw : Nat) (hv : v < 2 ^ (nw * ws)) :
    ∃ words, intToWords v ws nw = .ok words ∧ wordsToInt words ws nw = .ok v := by
  obtain ⟨words, h1, h2, h3, h4⟩ := (intToWords_spec v ws nw).1 hv
  exact ⟨words, h1, by rw [((wordsToInt_spec words ws nw).1 ⟨h2, h3⟩), h4]⟩

theorem wordsToInt_rejects_big_word (words : List Nat) (ws nw x : Nat) (hx : x ∈ words) (hbig : 2 ^ ws ≤ x) :
    wordsToInt words ws nw = .error .value :=
  (wordsToInt_spec words ws nw).2 (fun h => by have := h.2 x hx; omega)

private theorem and255 (x : Nat) : x &&& 0xff = x % 256 := Nat.and_two_pow_sub_one_eq_mod x 8

/-- `ipv4.int_to_words` (its own spelling) is the generic codec with 4 words of 8 bits; out of
    range it raises (ValueError instead of IndexError) -/
theorem v4_intToWords_eq (v : Nat) :
    (v < 2 ^ 32 → V4.intToWords v = intToWords v 8 4) ∧ (¬ v < 2 ^ 32 → V4.intToWords v = .error .value) := by
  constructor
  · intro hv
    have h3 : v / 16777216 % 256 = v / 16777216 := Nat.mod_eq_of_lt (Nat.div_lt_of_lt_mul hv)
    rw [intToWords_ok (ws := 8) (nw := 4) hv, V4.intToWords, if_pos (Nat.le_sub_one_of_lt hv)]
    simp only [beWords, wordsLoop, List.reverse_cons, List.reverse_nil, List.nil_append, List.cons_append, and255,
      Nat.shiftRight_eq_div_pow, Nat.and_two_pow_sub_one_eq_mod, Nat.div_div_eq_div_mul]
    simp only [Nat.reducePow, Nat.reduceMul, h3]
  · intro hv
    rw [V4.intToWords, if_neg (fun h => hv (Nat.lt_of_le_sub_one (Nat.pow_pos (by decide)) h))]

/-- `ipv4.words_to_int` (through struct.pack('4B') / unpack('>I')): same acceptance and value
    as the generic codec -/
theorem v4_wordsToInt_spec (words : List Nat) :
    (words.length = 4 ∧ (∀ x ∈ words, x < 2 ^ 8) → V4.wordsToInt words = .ok (beWordsValue 8 words)) ∧
    (¬ (words.length = 4 ∧ ∀ x ∈ words, x < 2 ^ 8) → V4.wordsToInt words = .error .value) := by
  constructor
  · rintro ⟨hl, hx⟩
    have hv : validWords words Gen.ipv4WordSize Gen.ipv4NumWords = true :=
      (validWords_iff words 8 4).mpr ⟨hl, hx⟩
    obtain ⟨fl, fv⟩ := flatten_beBytes 1 words hx
    simp only [V4.wordsToInt, hv, Bool.not_true, Bool.false_eq_true, if_false, packFields_ok 1 words hx]
    show (unpackFields 4 1 _ >>= fun ws => pure (ws.headD 0)) = _
    rw [unpackFields_one, if_pos (by rw [fl, hl]), fv]
    rfl
  · intro h
    have : validWords words Gen.ipv4WordSize Gen.ipv4NumWords ≠ true := mt (validWords_iff words 8 4).mp h
    simp only [V4.wordsToInt, this, Bool.not_false, if_true]

example : V4.wordsToInt [192, 0, 2, 1] = .ok 0xC0000201 := by decide +kernel
example : V4.wordsToInt [256, 0, 2, 1] = .error .value := by decide +kernel

theorem beBytes_shape (n v : Nat) (hv : v < 2 ^ (8 * n)) :
    (beBytes n v).length = n ∧ (∀ b ∈ beBytes n v, b < 256) ∧ beValue (beBytes n v) = v :=
  ⟨beBytes_length n v, beBytes_lt n v, by rw [beValue_beBytes, Nat.mod_eq_of_lt hv]⟩

/-- `IPAddress.__bytes__`: `int.to_bytes(width // 8, 'big')` -/
theorem toBytes_spec (n v : Nat) :
    (v < 2 ^ (8 * n) → toBytes n v = .ok (beBytes n v)) ∧ (¬ v < 2 ^ (8 * n) → toBytes n v = .error .other) :=
  have h : toBytes n v = _ := packField_eq n v
  ⟨fun hv => h.trans (if_pos hv), fun hv => h.trans (if_neg hv)⟩

theorem v4_intToPacked_spec (v : Nat) :
    (v < 2 ^ 32 → V4.intToPacked v = .ok (beBytes 4 v)) ∧ (¬ v < 2 ^ 32 → ∃ e, V4.intToPacked v = .error e) :=
  have h : V4.intToPacked v = _ := packField_eq 4 v
  ⟨fun hv => h.trans (if_pos hv), fun hv => ⟨_, h.trans (if_neg hv)⟩⟩

theorem v6_intToPacked_spec (v : Nat) :
    (v < 2 ^ 128 → V6.intToPacked v = .ok (beBytes 16 v)) ∧ (¬ v < 2 ^ 128 → ∃ e, V6.intToPacked v = .error e) :=
  have h : V6.intToPacked v = _ := intToWords_packFields 4 4 v
  ⟨fun hv => h.trans (if_pos hv), fun hv => ⟨_, h.trans (if_neg hv)⟩⟩

theorem e48_intToPacked_spec (v : Nat) :
    (v < 2 ^ 48 → E48.intToPacked v = .ok (beBytes 6 v)) ∧ (¬ v < 2 ^ 48 → ∃ e, E48.intToPacked v = .error e) :=
  have h : E48.intToPacked v = _ := packField_hi_lo 2 4 v
  ⟨fun hv => h.trans (if_pos hv), fun hv => ⟨_, h.trans (if_neg hv)⟩⟩

theorem e64_intToPacked_spec (v : Nat) :
    (v < 2 ^ 64 → E64.intToPacked v = .ok (beBytes 8 v)) ∧ (¬ v < 2 ^ 64 → ∃ e, E64.intToPacked v = .error e) :=
  have h : E64.intToPacked v = _ := intToWords_packFields 1 8 v
  ⟨fun hv => h.trans (if_pos hv), fun hv => ⟨_, h.trans (if_neg hv)⟩⟩

example : E48.intToPacked 0x001b774954fd = .ok [0x00, 0x1b, 0x77, 0x49, 0x54, 0xfd] := by decide +kernel

/-- `packed_to_int`, IPv4 (the other three families follow, for bytes `< 256`): exactly the byte
    strings of the family's byte count are accepted, with their big-endian value; any other length
    raises (struct.error). -/
theorem v4_packedToInt_spec (bs : List Nat) :
    (bs.length = 4 → V4.packedToInt bs = .ok (beValue bs)) ∧ (bs.length ≠ 4 → V4.packedToInt bs = .error .other) := by
  rw [V4.packedToInt, unpackFields_one]
  constructor <;> intro h
  · rw [if_pos h]; rfl
  · rw [if_neg h]; rfl

theorem v6_packedToInt_spec (bs : List Nat) (hb : ∀ b ∈ bs, b < 256) :
    (bs.length = 16 → V6.packedToInt bs = .ok (beValue bs)) ∧ (bs.length ≠ 16 → V6.packedToInt bs = .error .other) := by
  have h := unpack_orShift_eq 4 4 bs hb
  exact ⟨fun hl => h.trans (if_pos hl), fun hl => h.trans (if_neg hl)⟩

theorem e48_packedToInt_spec (bs : List Nat) (hb : ∀ b ∈ bs, b < 256) :
    (bs.length = 6 → E48.packedToInt bs = .ok (beValue bs)) ∧ (bs.length ≠ 6 → E48.packedToInt bs = .error .other) := by
  have h := unpack_orShift_eq 1 6 bs hb
  exact ⟨fun hl => h.trans (if_pos hl), fun hl => h.trans (if_neg hl)⟩

theorem e64_packedToInt_spec (bs : List Nat) (hb : ∀ b ∈ bs, b < 256) :
    (bs.length = 8 → E64.packedToInt bs = .ok (beValue bs)) ∧ (bs.length ≠ 8 → E64.packedToInt bs = .error .other) := by
  have h := unpack_orShift_eq 1 8 bs hb
  exact ⟨fun hl => h.trans (if_pos hl), fun hl => h.trans (if_neg hl)⟩

example : E48.packedToInt [0x00, 0x1b, 0x77, 0x49, 0x54, 0xfd] = .ok 0x001b774954fd := by decide +kernel
example : E48.packedToInt [0x00, 0x1b, 0x77, 0x49, 0x54] = .error .other := by decide +kernel

theorem packed_roundtrip (v : Nat) :
    (v < 2 ^ 32 → ∃ p, V4.intToPacked v = .ok p ∧ V4.packedToInt p = .ok v) ∧
    (v < 2 ^ 128 → ∃ p, V6.intToPacked v = .ok p ∧ V6.packedToInt p = .ok v) ∧
    (v < 2 ^ 48 → ∃ p, E48.intToPacked v = .ok p ∧ E48.packedToInt p = .ok v) ∧
    (v < 2 ^ 64 → ∃ p, E64.intToPacked v = .ok p ∧ E64.packedToInt p = .ok v) := by
  refine ⟨fun h => ⟨_, (v4_intToPacked_spec v).1 h, ?_⟩, fun h => ⟨_, (v6_intToPacked_spec v).1 h, ?_⟩,
    fun h => ⟨_, (e48_intToPacked_spec v).1 h, ?_⟩, fun h => ⟨_, (e64_intToPacked_spec v).1 h, ?_⟩⟩
  · rw [(v4_packedToInt_spec _).1 (beBytes_length 4 v), (beBytes_shape 4 v h).2.2]
  · rw [(v6_packedToInt_spec _ (beBytes_lt 16 v)).1 (beBytes_length 16 v), (beBytes_shape 16 v h).2.2]
  · rw [(e48_packedToInt_spec _ (beBytes_lt 6 v)).1 (beBytes_length 6 v), (beBytes_shape 6 v h).2.2]
  · rw [(e64_packedToInt_spec _ (beBytes_lt 8 v)).1 (beBytes_length 8 v), (beBytes_shape 8 v h).2.2]

theorem padBits_shape (n v : Nat) (hv : v < 2 ^ n) :
    (padBits n v).length = n ∧ (∀ c ∈ padBits n v, c = '0' ∨ c = '1') ∧ digitsNat 2 (padBits n v) 0 = v := by
  refine ⟨padBits_length n v, fun c hc => (is01_iff c).mp (padBits_01 n v c hc), ?_⟩
  rw [digitsNat_padBits, Nat.mod_eq_of_lt hv, Nat.zero_mul, Nat.zero_add]

/-- `int_to_bits`: every word of the big-endian word tuple spelled with exactly `ws` binary
    digits (zero padded), joined by the separator; IndexError out of range -/
theorem intToBits_spec (v ws nw : Nat) (sep : List Char) :
    (v < 2 ^ (nw * ws) → ∃ words, intToWords v ws nw = .ok words ∧
        intToBits v ws nw sep = .ok (sep.intercalate (words.map (padBits ws)))) ∧
    (¬ v < 2 ^ (nw * ws) → intToBits v ws nw sep = .error .index) :=
  ⟨fun hv => ⟨_, intToWords_ok hv, intToBits_ok sep hv⟩, intToBits_error sep⟩

example : intToBits 0x0a000001 8 4 ['.'] = .ok "00001010.00000000.00000000.00000001".toList := by
  decide_lit
example : intToBits 0x001b774954fd 16 3 ['.'] = .ok "0000000000011011.0111011101001001.0101010011111101".toList := by
  decide_lit

/-- `bits_to_int`: with the separator occurrences removed, exactly the strings of `width`
    binary digits (`1 ≤ width`) are accepted, with their base-2 value; wrong length or any other
    character (a digit ≥ 2, sign, space, underscore …) raises ValueError -/
theorem bitsToInt_spec (s : List Char) (width : Nat) (sep : List Char) :
    let t := if sep ≠ [] then replaceDel sep s else s
    (t.length = width ∧ (∀ c ∈ t, c = '0' ∨ c = '1') ∧ 1 ≤ width →
        bitsToInt s width sep = .ok (Int.ofNat (digitsNat 2 t 0))) ∧
    (¬ (t.length = width ∧ ∀ c ∈ t, c = '0' ∨ c = '1') → bitsToInt s width sep = .error .value) := by
  intro t
  rw [show t = replaceDel sep s from strip_eq sep s, bitsToInt_eq]
  constructor
  · intro h
    rw [if_pos ((Codec.validBits_iff s width sep).mpr h)]
  · intro h
    rw [if_neg]
    intro hv
    have := (Codec.validBits_iff s width sep).mp hv
    exact h ⟨this.1, this.2.1⟩

example : bitsToInt "00001010.00000000.00000000.00000001".toList 32 ['.'] = .ok 0x0a000001 := by
  decide_lit
example : bitsToInt "00001010.00000000.00000000.00000002".toList 32 ['.'] = .error .value := by
  decide_lit
example : bitsToInt "00001010.00000000.00000000.0000001".toList 32 ['.'] = .error .value := by
  decide_lit
example : bitsToInt " 0001010.00000000.00000000.00000001".toList 32 ['.'] = .error .value := by
  decide_lit

/-- decoder ∘ encoder = id on bit strings, for every word size / word count and every
    separator that is empty or a single character other than a binary digit (all built-in
    dialects: '', '.', ':', '-') -/
theorem bits_roundtrip (v ws nw : Nat) (sep : List Char) (hv : v < 2 ^ (nw * ws)) (hw : 1 ≤ ws * nw)
    (hsep : sep = [] ∨ ∃ c, sep = [c] ∧ c ≠ '0' ∧ c ≠ '1') :
    ∃ s, intToBits v ws nw sep = .ok s ∧ bitsToInt s (ws * nw) sep = .ok (Int.ofNat v) :=
  bits_roundtrip_sep v ws nw sep hv hw
    (hsep.imp_right fun ⟨c, hc, h⟩ => ⟨c, hc ▸ List.mem_singleton_self c, h⟩)

/-- `int_to_bin`: Python's `bin(v)` (no leading zeros, '0b0' for 0); IndexError when it needs
    more than `width` digits, i.e. exactly when v ≥ 2^width -/
theorem intToBin_spec (v width : Nat) (hw : 1 ≤ width) :
    (v < 2 ^ width → intToBin v width = .ok ('0' :: 'b' :: Nat.toDigits 2 v)) ∧
    (¬ v < 2 ^ width → intToBin v width = .error .index) := by
  have h3 := Nat.length_toDigits_le_iff (b := 2) (n := v) (by decide) hw
  simp only [intToBin, pyBin, List.drop_succ_cons, List.drop_zero]
  constructor <;> intro h
  · rw [if_neg (Nat.not_lt.mpr (h3.mpr h))]
  · rw [if_pos (Nat.lt_of_not_le (mt h3.mp h))]

example : intToBin 5 32 = .ok "0b101".toList := by
  decide_lit
example : intToBin (2 ^ 32) 32 = .error .index := by decide +kernel

/-- `bin_to_int`: exactly '0b' followed by 1 … width binary digits is accepted, with its
    base-2 value; a missing prefix, too many digits, no digit, or any other character raises -/
theorem binToInt_spec (s : List Char) (width : Nat) :
    (∀ t, s = '0' :: 'b' :: t → t ≠ [] → t.length ≤ width → (∀ c ∈ t, c = '0' ∨ c = '1') →
        binToInt s width = .ok (Int.ofNat (digitsNat 2 t 0))) ∧
    (¬ (∃ t, s = '0' :: 'b' :: t ∧ t ≠ [] ∧ t.length ≤ width ∧ ∀ c ∈ t, c = '0' ∨ c = '1') →
        binToInt s width = .error .value) := by
  constructor
  · intro t hs hne hl h01
    rw [binToInt_eq, if_pos ((Codec.validBin_iff s width).mpr ⟨t, hs, hne, hl, h01⟩), hs]
    rfl
  · intro h
    rw [binToInt_eq, if_neg (fun hv => h ((Codec.validBin_iff s width).mp hv))]

example : binToInt "0b101".toList 32 = .ok 5 := by
  decide_lit
example : binToInt "0b10b1".toList 32 = .error .value := by
  decide_lit
example : binToInt "0b1_1".toList 32 = .error .value := by
  decide_lit
example : binToInt ('0' :: 'b' :: List.replicate 33 '1') 32 = .error .value := by decide +kernel
example : binToInt "0b".toList 32 = .error .value := by
  decide_lit

theorem bin_roundtrip (v width : Nat) (hw : 1 ≤ width) (hv : v < 2 ^ width) :
    ∃ s, intToBin v width = .ok s ∧ binToInt s width = .ok (Int.ofNat v) := by
  refine ⟨_, (intToBin_spec v width hw).1 hv, ?_⟩
  rw [(binToInt_spec _ width).1 (Nat.toDigits 2 v) rfl Nat.toDigits_ne_nil
    ((Nat.length_toDigits_le_iff (by decide) hw).mpr hv) (toDigits2_01 v), digitsNat_toDigits2]

theorem encoders_reject_two_pow (ws nw : Nat) (sep : List Char) (hw : 1 ≤ nw * ws) :
    intToWords (2 ^ (nw * ws)) ws nw = .error .index ∧ intToBits (2 ^ (nw * ws)) ws nw sep = .error .index ∧
    intToBin (2 ^ (nw * ws)) (nw * ws) = .error .index :=
  ⟨(intToWords_spec _ ws nw).2 (Nat.lt_irrefl _), (intToBits_spec _ ws nw sep).2 (Nat.lt_irrefl _),
   (intToBin_spec _ _ hw).2 (Nat.lt_irrefl _)⟩

/-- the generated alphabet is the one of RFC 1924 section 4.2 -/
theorem base85_alphabet :
    Gen.base85 = "0123456789ABCDEFGHIJKLMNOPQRSTUVWXYZabcdefghijklmnopqrstuvwxyz!#$%&()*+-;<=>?@^_`{|}~".toList :=
  -- literal ≡ `String.ofList chars` is checked without decoding the string
  (String.toList_ofList (l := Gen.base85)).symm.trans (congrArg String.toList (rfl : String.ofList Gen.base85 = _))

/-- `ipv6_to_base85`: 20 characters of the alphabet whose positional value
    `Σ digit(cᵢ)·85^i` (least significant character last) is v -/
theorem base85_spec (v : Nat) (hv : v < 2 ^ 128) :
    (ipv6ToBase85 v).length = 20 ∧ (∀ c ∈ ipv6ToBase85 v, c ∈ Gen.base85) ∧
    b85Sum (ipv6ToBase85 v).reverse 0 0 = .ok v := by
  have hlen : (b85Loop v v).length ≤ 20 :=
    b85Loop_len v v (Nat.le_refl _) 20 (Nat.lt_trans hv (by decide))
  rw [ipv6ToBase85_eq]
  refine ⟨?_, ?_, ?_⟩
  · rw [List.length_append, List.length_replicate, List.length_map, List.length_reverse]
    omega
  · intro c hc
    rcases List.mem_append.mp hc with hc | hc
    · rw [List.eq_of_mem_replicate hc]
      exact b85Char_mem 0 (by decide)
    · obtain ⟨d, hd, rfl⟩ := List.mem_map.mp hc
      exact b85Char_mem d (b85Loop_lt v v (Nat.le_refl _) d (List.mem_reverse.mp hd))
  · -- reversed: the loop's digits, least significant first, then the padding zeros
    rw [List.reverse_append, ← List.map_reverse, List.reverse_reverse, List.reverse_replicate,
      b85Sum_loop v v (Nat.le_refl _), b85Sum_zeros, Nat.pow_zero, Nat.one_mul, Nat.zero_add]

example : ipv6ToBase85 0x108000000000000000080800200c417a = "4)+k&C#VzJ4br>0wv%Yp".toList := by
  decide_lit

theorem base85_roundtrip (v : Nat) (hv : v < 2 ^ 128) : base85ToIpv6 (ipv6ToBase85 v) = .ok v := by
  obtain ⟨h1, _, h3⟩ := base85_spec v hv
  rw [base85ToIpv6_of_sum h1, h3]
  exact if_pos hv

/-- `base85_to_ipv6` rejects a wrong length (AddrFormatError), a character outside the alphabet
    (KeyError) and a numeral ≥ 2^128 (AddrFormatError); whatever it accepts is a 20-character
    numeral whose positional value is the result -/
theorem base85_reject (s : List Char) :
    (s.length ≠ 20 → base85ToIpv6 s = .error .addrFormat) ∧
    (s.length = 20 → (∃ c ∈ s, Gen.base85Dict.lookup c.toNat = none) → base85ToIpv6 s = .error .key) ∧
    (∀ n, s.length = 20 → b85Sum s.reverse 0 0 = .ok n → 2 ^ 128 ≤ n → base85ToIpv6 s = .error .addrFormat) ∧
    (∀ r, base85ToIpv6 s = .ok r → s.length = 20 ∧ b85Sum s.reverse 0 0 = .ok r ∧ r < 2 ^ 128) := by
  refine ⟨fun h => by rw [base85ToIpv6, if_pos h], fun h hc => ?_, fun n h hs hn => ?_, fun r h => ?_⟩
  · obtain ⟨c, hc, hn⟩ := hc
    rw [base85ToIpv6_of_sum h, b85Sum_bad s.reverse ⟨c, List.mem_reverse.mpr hc, hn⟩]
  · rw [base85ToIpv6_of_sum h, hs]
    exact if_neg (Nat.not_lt.mpr hn)
  · by_cases hl : s.length = 20
    · rw [base85ToIpv6_of_sum hl] at h
      split at h
      · next n hs =>
        split at h
        · next hn =>
          cases h
          exact ⟨hl, hs, hn⟩
        · cases h
      · cases h
    · rw [base85ToIpv6, if_pos hl] at h
      cases h

example : base85ToIpv6 "4)+k&C#VzJ4br>0wv%Yp".toList = .ok 0x108000000000000000080800200c417a := by
  decide_lit
example : base85ToIpv6 (List.replicate 20 '~') = .error .addrFormat := by decide +kernel
example : base85ToIpv6 (List.replicate 19 '0') = .error .addrFormat := by decide +kernel
example : base85ToIpv6 (List.replicate 19 '0' ++ [' ']) = .error .key := by decide +kernel

/-- `ipv4.int_to_arpa`: the four octets, least significant first, in decimal, then
    `in-addr.arpa.` -/
theorem arpa4_spec (v : Nat) (hv : v < 2 ^ 32) :
    V4.intToArpa v = .ok (['.'].intercalate [Nat.toDigits 10 (v % 256), Nat.toDigits 10 (v / 2 ^ 8 % 256),
      Nat.toDigits 10 (v / 2 ^ 16 % 256), Nat.toDigits 10 (v / 2 ^ 24), "in-addr".toList, "arpa".toList, []]) := by
  have h1 : v ≤ 2 ^ 32 - 1 := by omega
  simp only [V4.intToArpa, V4.intToWords, if_pos h1, and255, Nat.shiftRight_eq_div_pow]
  rfl

example : V4.intToArpa 0xC0000201 = .ok "1.2.0.192.in-addr.arpa.".toList := by
  decide_lit
set_option maxRecDepth 8000 in
example : V6.intToArpa 1 = .ok "1.0.0.0.0.0.0.0.0.0.0.0.0.0.0.0.0.0.0.0.0.0.0.0.0.0.0.0.0.0.0.0.ip6.arpa.".toList := by
  decide_lit

/-- `ipv6.int_to_arpa`: the 32 nibbles of the address, least significant first, as lower-case
    hex digits, then `ip6.arpa.` -/
theorem arpa6_spec (v : Nat) (hv : v < 2 ^ 128) :
    V6.intToArpa v = .ok (['.'].intercalate
      ((List.range 32).map (fun i => [Nat.digitChar (v / 2 ^ (4 * i) % 2 ^ 4)]) ++
        ["ip6".toList, "arpa".toList, []])) := by
  have h4 : replaceDel [':'] ([':'].intercalate ((beWords 16 8 v).map (fmtHex 4 false))) =
      (beWords 4 32 v).map Nat.digitChar := strip_hex_words 4 8 v (by decide)
  simp only [V6.intToArpa, V6.intToStrVerbose_eq v hv, bind, Except.bind, h4, pure, Except.pure]
  -- reversed, the nibbles come least significant first: nibble i is `v / 16^i % 16`
  rw [← List.map_reverse, beWords, List.reverse_reverse, wordsLoop_range, List.map_map, List.map_map]
  rfl

theorem intToWords_get (v ws nw i : Nat) (hv : v < 2 ^ (nw * ws)) (hi : i < nw) :
    ∃ words, intToWords v ws nw = .ok words ∧ words[i]? = some (v / 2 ^ (ws * (nw - 1 - i)) % 2 ^ ws) :=
  ⟨_, intToWords_ok hv, beWords_get ws nw v i hi⟩

private theorem dialect_seps_ok :
    ∀ d ∈ Gen.macDialects ++ Gen.eui64Dialects, d.sep = [] ∨ ∃ c ∈ d.sep, c ≠ '0' ∧ c ≠ '1' := by decide

/-- decoder ∘ encoder = id on bit strings for the word size / separator of **every built-in
    dialect** and of the two IP families -/
theorem bits_roundtrip_builtin (v : Nat) :
    (∀ d ∈ Gen.macDialects ++ Gen.eui64Dialects, v < 2 ^ (d.numWords * d.wordSize) → 1 ≤ d.wordSize * d.numWords →
      ∃ s, intToBits v d.wordSize d.numWords d.sep = .ok s ∧
        bitsToInt s (d.wordSize * d.numWords) d.sep = .ok (Int.ofNat v)) ∧
    (v < 2 ^ 32 → ∃ s, V4.intToBits v none = .ok s ∧ V4.bitsToInt s = .ok (Int.ofNat v)) ∧
    (v < 2 ^ 128 → ∃ s, V6.intToBits v none = .ok s ∧ V6.bitsToInt s = .ok (Int.ofNat v)) :=
  ⟨fun d hd hv hw => bits_roundtrip_sep v d.wordSize d.numWords d.sep hv hw (dialect_seps_ok d hd),
    fun hv => bits_roundtrip v 8 4 ['.'] hv (by decide) (Or.inr ⟨'.', rfl, by decide, by decide⟩),
    fun hv => bits_roundtrip v 16 8 [':'] hv (by decide) (Or.inr ⟨':', rfl, by decide, by decide⟩)⟩

end NV.C15
