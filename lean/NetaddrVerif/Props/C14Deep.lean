/-
Props/C14Deep.lean — property C14: three things Props/C14.lean leaves open.

1. Shifts for EVERY right operand.  `Props/C14.lean` states `a << n`, `a >> n` for `n : Nat`.
   Here the count is any `Int` (negative: Python's `ValueError: negative shift count`, raised by
   `int.__lshift__` before the constructor is reached) or an IPAddress (`TypeError`: `int` does not
   accept it and `IPAddress` has no reflected shift), and the reflected spellings `n << a`,
   `n >> a` are covered (always `TypeError`).  `operators_exact_all` is `operators_exact`
   over that full family.
2. `a += n` / `a -= n` as the statements the Python writes (Model/Address.lean,
   `Address.Inplace`): compute, test `0 <=`, test `<= max_int`, assign, return / raise — with an
   event log in which an early assignment would show.  The run is proved equal to the
   functional model (`stepInplace`/`iadd`/`isub`) and the receiver is proved to be written only
   after both tests passed, exactly once, with the exact value; never on a failing path.
3. `hex(a)` is exactly `"0x"` + the lowercase hexadecimal digits of the value without leading
   zeros (`"0x0"` for zero) — as an equation with an independently written digit function,
   plus the characterisation that makes that function unambiguous (alphabet, no leading zero,
   length, value, uniqueness).
-/
import NetaddrVerif.Props.C14
import NetaddrVerif.Lemmas.C14LInplace
import NetaddrVerif.Lemmas.C14LHex
import NetaddrVerif.Lemmas.StrLit
namespace NV.C14
open NV NV.Address

/-! ### 1. shifts with any operand -/

/-- `a << x` for every operand: an address as the count is TypeError, a negative count is
    ValueError, otherwise `a · 2^n` exact or AddrFormatError — never wrapped -/
theorem lshift_exact (a : Addr) (x : Operand) (h : a.WF) :
    lshift a x =
      match x with
      | .addr _ => .error .type_
      | .int n =>
        if n < 0 then .error .value
        else checked a.ver (((a.val * 2 ^ n.toNat : Nat)) : Int) .addrFormat := by
  cases x with
  | addr b => rfl
  | int n => rw [lshift_int, shl_exact a _ h]

/-- `a >> x` for every operand: TypeError / ValueError as for `<<`, otherwise `⌊a / 2^n⌋`,
    which always fits -/
theorem rshift_exact (a : Addr) (x : Operand) (h : a.WF) :
    rshift a x =
      match x with
      | .addr _ => .error .type_
      | .int n =>
        if n < 0 then .error .value else .ok ⟨a.ver, a.val / 2 ^ n.toNat⟩ := by
  cases x with
  | addr b => rfl
  | int n => rw [rshift_int, shr_exact a _ h]

/-- the `n ≥ 0` operators of `Props/C14.lean` are the int case of these (so `shl_exact`,
    `shr_exact`, `operators_exact` speak about what the driver runs) -/
theorem shift_nat (a : Addr) (n : Nat) :
    lshift a (.int (n : Int)) = shl a n ∧ rshift a (.int (n : Int)) = shr a n :=
  have hn : ¬ (n : Int) < 0 := Int.not_lt.mpr (Int.natCast_nonneg n)
  ⟨(lshift_int a n).trans (if_neg hn), (rshift_int a n).trans (if_neg hn)⟩

/-- a left shift by `width` or more: zero stays zero, everything else is AddrFormatError -/
theorem lshift_wide (a : Addr) (n : Int) (h : a.WF) (hn : (width a.ver : Int) ≤ n) :
    lshift a (.int n) = if a.val = 0 then .ok ⟨a.ver, 0⟩ else .error .addrFormat :=
  C14L.Shift.lshift_wide a n h hn

/-- `n << a`, `n >> a` (the address on the right of an int): always TypeError -/
theorem reflected_shift (a : Addr) (n : Int) :
    rlshift a n = .error .type_ ∧ rrshift a n = .error .type_ := ⟨rfl, rfl⟩

example : lshift ⟨4, 5⟩ (.int (-1)) = .error .value ∧ rshift ⟨6, 5⟩ (.int (-1)) = .error .value ∧
    lshift ⟨4, 5⟩ (.addr ⟨4, 2⟩) = .error .type_ ∧ rshift ⟨4, 5⟩ (.addr ⟨6, 0⟩) = .error .type_ ∧
    lshift ⟨4, 0⟩ (.int (-1)) = .error .value ∧
    lshift ⟨4, 5⟩ (.int 1) = .ok ⟨4, 10⟩ ∧ lshift ⟨4, 5⟩ (.int 30) = .error .addrFormat ∧
    rshift ⟨4, 5⟩ (.int 1) = .ok ⟨4, 2⟩ ∧ lshift ⟨6, 0⟩ (.int 1000) = .ok ⟨6, 0⟩ := by decide

/-- the full operator family: the eleven forms of `Op` (counts `≥ 0`), the two shifts with an
    arbitrary right operand, and the two reflected shifts -/
inductive OpZ where
  | base (op : Op)
  | lshift (x : Operand) | rshift (x : Operand)
  | rlshift (n : Int) | rrshift (n : Int)

def OpZ.run (a : Addr) : OpZ → R Addr
  | .base op => op.run a
  | .lshift x => Address.lshift a x | .rshift x => Address.rshift a x
  | .rlshift n => Address.rlshift a n | .rrshift n => Address.rrshift a n

/-- the mathematical result, or the reason there is none: a negative shift count (ValueError),
    an address where a shift count / an int to be shifted is needed (TypeError) -/
def OpZ.denote (a : Addr) : OpZ → Except Err Int
  | .base op => .ok (op.exact a)
  | .lshift (.int n) => if n < 0 then .error .value else .ok ((a.val * 2 ^ n.toNat : Nat) : Int)
  | .rshift (.int n) => if n < 0 then .error .value else .ok ((a.val / 2 ^ n.toNat : Nat) : Int)
  | .lshift (.addr _) | .rshift (.addr _) | .rlshift _ | .rrshift _ => .error .type_

/-- the range error of each form -/
def OpZ.err : OpZ → Err
  | .base op => op.err
  | _ => .addrFormat

/-- C14, operators, all integer shift counts and all operand kinds.  Every form on every
    well-formed address: the operand-kind / sign error where there is no mathematical result,
    otherwise exactly `checked` of the mathematical result. -/
theorem operators_exact_all (a : Addr) (op : OpZ) (h : a.WF) :
    op.run a =
      match op.denote a with
      | .error e => .error e
      | .ok x => checked a.ver x op.err := by
  cases op with
  | base op => exact operators_exact a op h
  | lshift x =>
    cases x with
    | addr b => rfl
    | int n =>
      rw [OpZ.run, lshift_int, shl_eq a _ h, OpZ.denote]
      split <;> rfl
  | rshift x =>
    cases x with
    | addr b => rfl
    | int n =>
      rw [OpZ.run, rshift_int, shr_eq a _ h, OpZ.denote]
      split <;> rfl
  | rlshift n => rfl
  | rrshift n => rfl

/-- closure over the full family: a result is well formed, of the same version and exactly the
    mathematical result; a failure is either the operand error (no mathematical result) or the
    named range error, raised exactly when the result is outside `0 .. 2^width-1` -/
theorem operators_closed_all (a : Addr) (op : OpZ) (h : a.WF) :
    (∀ r, op.run a = .ok r → r.WF ∧ r.ver = a.ver ∧ op.denote a = .ok (r.val : Int)) ∧
    (∀ e, op.run a = .error e →
      op.denote a = .error e ∨
      ∃ x, op.denote a = .ok x ∧ e = op.err ∧ (x < 0 ∨ ((2 ^ width a.ver : Nat) : Int) ≤ x)) := by
  rw [operators_exact_all a op h]
  cases hd : op.denote a with
  | error e0 =>
    constructor
    · intro r hr; cases hr
    · intro e he; injection he with he; left; rw [he]
  | ok x =>
    constructor
    · intro r hr
      obtain ⟨hwf, hver, hval⟩ := checked_wf _ _ _ r h.1 hr
      exact ⟨hwf, hver, congrArg Except.ok hval.symm⟩
    · intro e he
      obtain ⟨h1, h2⟩ := checked_err _ _ _ _ he
      exact Or.inr ⟨x, rfl, h1, h2⟩

/-- when exactly the two operand errors occur -/
theorem operand_errors (a : Addr) (op : OpZ) :
    (op.denote a = .error .value ↔
      ∃ n : Int, n < 0 ∧ (op = .lshift (.int n) ∨ op = .rshift (.int n))) ∧
    (op.denote a = .error .type_ ↔
      (∃ b, op = .lshift (.addr b) ∨ op = .rshift (.addr b)) ∨ (∃ n, op = .rlshift n ∨ op = .rrshift n)) := by
  cases op with
  | base op => simp [OpZ.denote]
  | lshift x =>
    cases x with
    | int n => by_cases hn : n < 0 <;> simp [OpZ.denote, hn]
    | addr b => simp [OpZ.denote]
  | rshift x =>
    cases x with
    | int n => by_cases hn : n < 0 <;> simp [OpZ.denote, hn]
    | addr b => simp [OpZ.denote]
  | rlshift n => simp [OpZ.denote]
  | rrshift n => simp [OpZ.denote]

example : (OpZ.lshift (.int (-3))).run ⟨4, 1⟩ = .error .value ∧
    (OpZ.lshift (.int (-3))).denote ⟨4, 1⟩ = .error .value ∧
    (OpZ.rshift (.addr ⟨4, 1⟩)).run ⟨6, 9⟩ = .error .type_ ∧
    (OpZ.rlshift 1).run ⟨4, 3⟩ = .error .type_ ∧
    (OpZ.lshift (.int 31)).run ⟨4, 1⟩ = .ok ⟨4, 2147483648⟩ ∧
    (OpZ.lshift (.int 31)).denote ⟨4, 1⟩ = .ok 2147483648 ∧
    (OpZ.lshift (.int 32)).run ⟨4, 1⟩ = .error .addrFormat ∧
    (OpZ.base (.add 1)).run ⟨4, 4294967295⟩ = .error .index := by decide

/-! ### 2. `a += n`, `a -= n` statement by statement -/

open Address.Inplace in
/-- the statement-level run of `__iadd__` ends with the receiver and the exception of the
    functional model `stepInplace a (iadd a n)` -/
theorem iadd_program (a : Addr) (n : Int) :
    (iaddRun a n).result = stepInplace a (iadd a n) :=
  C14L.Inplace.result_body false a n

open Address.Inplace in
theorem isub_program (a : Addr) (n : Int) :
    (isubRun a n).result = stepInplace a (isub a n) :=
  C14L.Inplace.result_body true a n

open Address.Inplace in
/-- the complete event log of `a += n`: one of three runs, decided by the exact sum `x = a + n`.
    In range: read, both tests pass, one write of `x`, return.  `x > max_int`: read, first test
    passes, second fails, raise — no write.  `x < 0`: read, first test fails (the second is not
    even evaluated), raise — no write. -/
theorem iadd_trace (a : Addr) (n : Int) :
    (iaddRun a n).log =
      if 0 ≤ (a.val : Int) + n then
        if (a.val : Int) + n ≤ (maxInt a.ver : Int) then
          [.readValue a.val, .cmpLo true, .readModule, .cmpHi true, .writeValue ((a.val : Int) + n), .ret]
        else [.readValue a.val, .cmpLo true, .readModule, .cmpHi false, .raise .index]
      else [.readValue a.val, .cmpLo false, .raise .index] :=
  C14L.Inplace.log_body false a n

open Address.Inplace in
theorem isub_trace (a : Addr) (n : Int) :
    (isubRun a n).log =
      if 0 ≤ (a.val : Int) - n then
        if (a.val : Int) - n ≤ (maxInt a.ver : Int) then
          [.readValue a.val, .cmpLo true, .readModule, .cmpHi true, .writeValue ((a.val : Int) - n), .ret]
        else [.readValue a.val, .cmpLo true, .readModule, .cmpHi false, .raise .index]
      else [.readValue a.val, .cmpLo false, .raise .index] :=
  C14L.Inplace.log_body true a n

open Address.Inplace C14L.Inplace in
/-- the receiver is written only after both range tests passed.  For both in-place
    operators, every receiver, every `n`: the log is `Guarded` (each `writeValue` is preceded by
    a passed `0 <=` test and a passed `<= max_int` test); there is exactly one write, of the
    exact new value, when that value is in range and none otherwise; and a raised exception
    (always IndexError) leaves the receiver equal to the object the statement started with. -/
theorem inplace_write_after_checks (minus : Bool) (a : Addr) (n : Int) :
    let st := run (body minus n) a
    Guarded st.log ∧
    writes st.log = (if 0 ≤ newValue minus a n ∧ newValue minus a n ≤ (maxInt a.ver : Int)
                     then [newValue minus a n] else []) ∧
    (∀ e, st.out = some (some e) → writes st.log = [] ∧ st.self = a ∧ e = .index) :=
  ⟨guarded_body minus a n, writes_body minus a n, fun e he => raise_untouched minus a n e he⟩

open Address.Inplace in
/-- non-vacuity: a success, a failure above, a failure below — with their logs; and the same
    three through the functional model -/
example :
    (iaddRun ⟨4, 5⟩ 3).log = [.readValue 5, .cmpLo true, .readModule, .cmpHi true, .writeValue 8, .ret] ∧
    (iaddRun ⟨4, 5⟩ 3).result = (⟨4, 8⟩, none) ∧
    (iaddRun ⟨4, 4294967295⟩ 1).log = [.readValue 4294967295, .cmpLo true, .readModule, .cmpHi false, .raise .index] ∧
    (iaddRun ⟨4, 4294967295⟩ 1).result = (⟨4, 4294967295⟩, some .index) ∧
    (isubRun ⟨6, 0⟩ 1).log = [.readValue 0, .cmpLo false, .raise .index] ∧
    (isubRun ⟨6, 0⟩ 1).result = (⟨6, 0⟩, some .index) ∧
    stepInplace ⟨6, 0⟩ (isub ⟨6, 0⟩ 1) = (⟨6, 0⟩, some .index) := by decide +kernel

/-! ### 3. `hex(a)`, the exact string -/

open C14L.Hex in
/-- `hex(a)` is `"0x"` followed by `hexDigits value`: lowercase digits, most significant
    first, no leading zeros, `"0"` for zero (Model/Address.lean, written without `Nat.toDigits`) -/
theorem hex_exact (a : Addr) : hex a = '0' :: 'x' :: hexDigits a.val := by
  unfold hex; rw [hexDigits_eq_toDigits]

theorem hex_zero (ver : Nat) : hex ⟨ver, 0⟩ = ['0', 'x', '0'] := by
  rw [hex_exact]
  show '0' :: 'x' :: hexDigits 0 = _
  rw [C14L.Hex.hexDigits_zero]

open C14L.Hex in
/-- the shape of the digit string: only `0-9a-f`; for a non-zero value the first digit is not
    `'0'` and the number of digits `L` satisfies `16^(L-1) ≤ value < 16^L`; it reads back as the
    value -/
theorem hex_shape (a : Addr) :
    (∀ c ∈ (hex a).drop 2, c ∈ lowerHexChars) ∧
    (a.val ≠ 0 → ((hex a).drop 2).head? ≠ some '0' ∧
      16 ^ (((hex a).drop 2).length - 1) ≤ a.val ∧ a.val < 16 ^ ((hex a).drop 2).length) ∧
    ofHex ((hex a).drop 2) = some a.val := by
  rw [hex_exact]
  simp only [List.drop_succ_cons, List.drop_zero]
  refine ⟨hexDigits_chars a.val, ?_⟩
  rw [hexDigits_eq_toDigits]
  exact ⟨fun hn => ⟨toDigits_head (by decide) _ hn, toDigits_length (by decide) _ hn⟩, ofHex_toHex _⟩

open C14L.Hex in
/-- any lowercase hexadecimal numeral without leading zeros (`Canonical`) that
    reads back as the value is the digit string of `hex(a)` — so the shape above pins the
    string down completely -/
theorem hex_unique (a : Addr) (s : List Char) (hc : Canonical s) (hv : ofHex s = some a.val) :
    hex a = '0' :: 'x' :: s := by
  rw [hex_exact, hexDigits_unique s a.val hc hv]

open C14L.Hex in
example : hex ⟨4, 0⟩ = "0x0".toList ∧ hex ⟨4, 4294967295⟩ = "0xffffffff".toList ∧
    hex ⟨6, 0x1000⟩ = "0x1000".toList ∧ hex ⟨6, 0xabcdef0123456789⟩ = "0xabcdef0123456789".toList := by
  decide_lit

open C14L.Hex in
example : hexDigits 0xbeef = ['b', 'e', 'e', 'f'] ∧ hexDigits 0 = ['0'] ∧ hexDigits 16 = ['1', '0'] := by
  simp only [hexDigits_eq_toDigits]; decide +kernel

open C14L.Hex in
/-- the hypotheses of `hex_unique` are satisfiable by a non-trivial numeral -/
example : Canonical "c0a80001".toList ∧ ofHex "c0a80001".toList = some 3232235521 := by
  refine ⟨⟨?_, Or.inr ⟨?_, ?_⟩⟩, ?_⟩ <;> decide_lit

end NV.C14
