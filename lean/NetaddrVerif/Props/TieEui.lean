/-
Props/TieEui.lean — translation tie, EUI group (C08), from the current source text.  `EUI.is_iab`
and `IAB.split_iab_mac` are proved equal to `isIabOf` and `splitIabMac`.  `EUI.eui64`,
`modified_eui64`, `ipv6` and `ipv6_link_local` end in a constructor call: the tuple of its arguments
is proved to be `eui64Value` of the model, with the xor and the sum of the text written out; the
model's `eui64`, `modifiedEui64`, `ipv6`, `ipv6LinkLocal`, which also run the constructor, are
not on the right-hand sides.
-/
import NetaddrVerif.Gen.Trans
import NetaddrVerif.Lemmas.TieL
import NetaddrVerif.Model.Eui
namespace NV.Tie
open NV NV.Trans NV.Eui NV.Gen

/-- `hv`: the two versions an EUI object can have -/
theorem eui_is_iab (ver v : Nat) (hv : ver = 48 ∨ ver = 64) : EUI_is_iab ver (v : Int) = isIabOf ver v := by
  have e24 : Py.shr (v : Int) 24 = ((v >>> 24 : Nat) : Int) := Py.shr_natCast v 24
  have e40 : Py.shr (v : Int) 40 = ((v >>> 40 : Nat) : Int) := Py.shr_natCast v 40
  simp only [tie_unfold, isIabOf, isIab, e24, e40, Py.dec_inNat]
  exact Py.ite_eq (·) (·) Iff.rfl (fun _ => rfl) fun h => if_pos (hv.resolve_left h)

theorem eui_eui64 (ver v : Nat) : EUI_eui64 ver (v : Int) = (((eui64Value ver v : Nat) : Int), 64) := by
  simp only [tie_unfold, eui64Value, Py.lit, Py.shr_natCast, Py.shl_natCast, Py.iand_ofNat, Py.ior_ofNat]
  exact Py.ite_eq (·) (fun n : Nat => ((n : Int), ((64 : Nat) : Int))) Int.natCast_inj (fun _ => rfl) fun _ => rfl

theorem iab_split (e : Nat) (strict : Bool) :
    IAB_split_iab_mac (e : Int) strict =
      match splitIabMac e strict with
      | .ok (a, b) => .ok ((a : Int), (b : Int))
      | .error err => .error err := by
  -- the reading of the model's result: the `match` of the statement
  let G : R (Nat × Nat) → R (Int × Int) := fun r => match r with
    | .ok (a, b) => .ok ((a : Int), (b : Int))
    | .error err => .error err
  have e12 : Py.shr (e : Int) 12 = ((e >>> 12 : Nat) : Int) := Py.shr_natCast e 12
  have e12' : Py.shr (((e >>> 12 : Nat) : Int)) 12 = (((e >>> 12) >>> 12 : Nat) : Int) := Py.shr_natCast _ 12
  have p12 : Py.pow 2 12 - 1 = ((2 ^ 12 - 1 : Nat) : Int) := Py.pow_sub_one 12
  have p48 : Py.pow 2 48 - 1 = ((2 ^ 48 - 1 : Nat) : Int) := Py.pow_sub_one 48
  simp only [tie_unfold, splitIabMac, p12, p48, e12, e12', Py.ixor_ofNat, Py.ior_ofNat, Py.natCast_sub Nat.right_le_or]
  refine Py.ite_eq (·) G (Py.inNat_cast _ _) (fun _ => rfl) fun _ => ?_
  refine Py.ite_eq (·) G (Py.inNat_cast _ _) (fun _ => ?_) fun _ => rfl
  refine Py.ite_eq (·) G ?_ (fun _ => rfl) fun _ => rfl
  rw [Bool.and_eq_true, bne_iff_ne, ne_eq, ne_eq, Int.natCast_eq_zero]

/-- `0x0200000000000000` is bit 57 -/
theorem eui_modified_eui64 (ver v : Nat) :
    EUI_modified_eui64 ver (v : Int) = (((eui64Value ver v ^^^ 0x0200000000000000 : Nat) : Int), 64) := by
  unfold EUI_modified_eui64
  rw [eui_eui64]
  simp only [Py.lit, Py.ixor_ofNat]

theorem eui_ipv6 (ver v pfx : Nat) :
    EUI_ipv6 ver (v : Int) (pfx : Int) = (((pfx + (eui64Value ver v ^^^ 0x0200000000000000) : Nat) : Int), 6) := by
  unfold EUI_ipv6
  rw [eui_modified_eui64]
  simp only []
  congr 1

theorem eui_ipv6_link_local (ver v : Nat) :
    EUI_ipv6_link_local ver (v : Int) =
      (((0xfe800000000000000000000000000000 + (eui64Value ver v ^^^ 0x0200000000000000) : Nat) : Int), 6) := by
  unfold EUI_ipv6_link_local
  exact eui_ipv6 ver v 0xfe800000000000000000000000000000

example : EUI_is_iab 48 0x0050C2000123 = true ∧ EUI_is_iab 64 0x0050C2000123 = false ∧
    EUI_eui64 48 0x001B774954FD = (0x001B77FFFE4954FD, 64) ∧
    EUI_ipv6_link_local 48 0x001B774954FD = (0xfe80000000000000021B77FFFE4954FD, 6) := by decide

end NV.Tie
