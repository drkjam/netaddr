/-
Props/C01Audit2.lean — C01 continued: the class of the exception raised, the separately
transcribed `valid_str`, the two back-end switches, `format`, and independent readings of the
printed IPv4 text and of C literals.

* the CLASS of the exception a rejected address string raises.  `ipAddressRaw`
  (Model/AddrRaw.lean) lets the platform / runtime calls fail with their own exception classes and
  spells out the `try` / `except` clauses of the Python; `ipAddress_raw` proves that the
  `Err`-level `AddrParse.ipAddress` IS that model for every string, version, flags and every sane
  platform; `reject_class_raw` then is a statement that could fail (and does for the shape
  `str_to_int` had before commit 9ff219d: `prefix_shape_leaks`).
* `valid_str` transcribed on its own (`validStr4Raw`, `validStr6Raw`, run by the driver ops
  `valid4` / `valid6`) equals `validStr4/6` (`valid_raw`); `valid_iff_raw` carries `valid_iff` over.
* two independent back-end switches: `backend_irrelevant2`.
* `IPAddress.format(dialect)`: `format_spec`, `format_roundtrip`.
* the printed IPv4 text under the declarative dotted-quad grammar: `printed_is_quad`,
  `isQuad_functional`.
* C literals with the independent evaluator `C01G.numVal`: `isCLit_iff_numVal`,
  `aton_shorthand_numVal`, `shorthand_api_numVal`.
-/
import NetaddrVerif.Props.C01b
import NetaddrVerif.Lemmas.C01LRaw
namespace NV.C01A2
open NV NV.Text4 NV.AddrParse NV.AddrRaw NV.C01L NV.C01L.Raw

attribute [local instance] C01b.decEqExcept

/-- **`str_to_int` of both modules**: on every platform whose calls succeed exactly where the
    `Option` models succeed and otherwise raise SOME `Exception` (OSError, ValueError,
    struct.error, TypeError, …), `except Exception: raise AddrFormatError` leaves exactly
    "the value or AddrFormatError". -/
theorem str_to_int_raw (P : RawPlatform) (hP : P.Sane) (be : Backend) (s : List Char) (fl : Nat) :
    strToInt4Raw P be s fl = liftR (strToInt4 be s fl) ∧ strToInt6Raw P be s fl = liftR (strToInt6 be s fl) :=
  ⟨strToInt4Raw_eq P hP be s fl, strToInt6Raw_eq P hP be s fl⟩

/-- **`IPAddress(str, version, flags)`: the `Err`-level model equals the raw-exception model**, for
    every string, every version argument, every flags value, both back ends and every sane
    platform: ValueError where `ipAddress` says `.value`, AddrFormatError where it says
    `.addrFormat`, the same address otherwise. -/
theorem ipAddress_raw (P : RawPlatform) (hP : P.Sane) (be : Backend) (s : List Char) (ver : Option Nat)
    (fl : Nat) : ipAddressRaw P be be s ver fl = liftR (ipAddress be s ver fl) := by
  rw [ipAddressRaw_eq P hP, ipAddress2_self]

/-- the same with the two back-end switches apart -/
theorem ipAddress_raw2 (P : RawPlatform) (hP : P.Sane) (be4 be6 : Backend) (s : List Char)
    (ver : Option Nat) (fl : Nat) : ipAddressRaw P be4 be6 s ver fl = liftR (ipAddress2 be4 be6 s ver fl) :=
  ipAddressRaw_eq P hP be4 be6 s ver fl

/-- the platform the driver runs (`std`: OSError from glibc, ValueError on an embedded NUL, from
    fbsocket and from `int()`) is sane -/
theorem std_sane : std.Sane := Raw.std_sane

/-- the hypotheses are satisfiable and the raw classes are really different ones: under the
    `try` the three calls fail with OSError / ValueError / ValueError -/
example : std.aton "bad".toList = .error .osError ∧ std.pyInt "0x10".toList = .error .valueError ∧
    std.pton6 .fallback "bad".toList = .error .valueError ∧
    std.pton4 .platform ['1', Char.ofNat 0] = .error .valueError ∧
    ipAddressRaw std .platform .fallback "bad".toList none 0 = .error .addrFormat := by decide_lit

theorem liftR_ok {α : Type} (r : R α) (a : α) : liftR r = .ok a ↔ r = .ok a := by
  cases r with
  | ok b => simp [liftR]
  | error e => cases e <;> simp [liftR]

/-- **Rejected ⇒ AddrFormatError, as a consequence of the code's structure.**  With a valid
    version argument and no '/', whatever the sane platform raises inside, the only exception
    that leaves `IPAddress(...)` is AddrFormatError. -/
theorem reject_class_raw (P : RawPlatform) (hP : P.Sane) (be4 be6 : Backend) (s : List Char)
    (ver : Option Nat) (fl : Nat) (x : Exn)
    (hver : ver = none ∨ ver = some 4 ∨ ver = some 6) (hs : s.contains '/' = false)
    (h : ipAddressRaw P be4 be6 s ver fl = .error x) : x = .addrFormat := by
  rw [ipAddressRaw_eq P hP] at h
  obtain ⟨o, ho⟩ := ipAddress2_ctor be4 be6 s ver fl hver
  rw [ho, ctor_noslash hs] at h
  cases o <;> cases h <;> rfl

/-- a non-trivial instance: the observed platform (sane), mixed back ends, a text that glibc
    refuses with OSError and fbsocket with ValueError -/
example (x : Exn) (h : ipAddressRaw std .platform .fallback "1.2.3.4.5".toList none 0 = .error x) : x = .addrFormat :=
  reject_class_raw std std_sane _ _ _ none 0 x (Or.inl rfl) (by decide_lit) h

example : ipAddressRaw std .platform .fallback "1.2.3.4.5".toList none 0 = .error .addrFormat ∧
    std.aton "1.2.3.4.5".toList = .error .osError ∧ std.pton6 .fallback "1.2.3.4.5".toList = .error .valueError := by
  decide_lit

/-- ValueError leaves the constructor exactly for '/' or an invalid version (any platform) -/
theorem value_error_raw (P : RawPlatform) (hP : P.Sane) (be4 be6 : Backend) (s : List Char)
    (ver : Option Nat) (fl : Nat) :
    ipAddressRaw P be4 be6 s ver fl = .error .valueError ↔
      (s.contains '/' = true ∨ ∃ v, ver = some v ∧ v ≠ 4 ∧ v ≠ 6) := by
  constructor
  · intro h
    by_cases hs : s.contains '/' = true
    · exact Or.inl hs
    · right
      -- a valid version would give AddrFormatError
      have rej := fun hver => reject_class_raw P hP be4 be6 s ver fl _ hver (by simpa using hs) h
      cases ver with
      | none => exact nomatch rej (Or.inl rfl)
      | some v =>
        by_cases hv : v ≠ 4 ∧ v ≠ 6
        · exact ⟨v, rfl, hv⟩
        · have : v = 4 ∨ v = 6 := by omega
          exact nomatch rej (Or.inr (this.imp (congrArg some) (congrArg some)))
  · rw [ipAddressRaw_eq P hP]
    rintro (hs | ⟨v, rfl, hv⟩)
    · rw [ipAddress2_slash be4 be6 s ver fl hs]; rfl
    · rw [ipAddress2_bad be4 be6 s v fl hv]; rfl

/-- **The structure matters** (the pre-fix code is expressible and gives another class).  With
    the ZEROFILL rewrite in front of the `try`, as `str_to_int` stood before commit 9ff219d
    (`strToInt4RawPreFix`), `int('0x10')` raises ValueError outside every handler of
    `str_to_int`; with an explicit version 4 `except AddrFormatError` does not catch it and
    ValueError leaves the constructor; with version None the bare `except: continue` swallows
    it.  The present shape answers AddrFormatError in both cases. -/
theorem prefix_shape_leaks :
    strToInt4RawPreFix std .platform "0x10.1.1.1".toList ZEROFILL = .error .valueError ∧
    ipAddressRawOf (strToInt4RawPreFix std .platform) (strToInt6Raw std .platform) "0x10.1.1.1".toList (some 4) ZEROFILL
      = .error .valueError ∧
    ipAddressRawOf (strToInt4RawPreFix std .platform) (strToInt6Raw std .platform) "0x10.1.1.1".toList none ZEROFILL
      = .error .addrFormat ∧
    strToInt4Raw std .platform "0x10.1.1.1".toList ZEROFILL = .error .addrFormat ∧
    ipAddressRaw std .platform .platform "0x10.1.1.1".toList (some 4) ZEROFILL = .error .addrFormat := by
  decide_lit

/-- the clauses are told apart: a platform whose `inet_pton(AF_INET6, ·)` is interrupted
    (a `BaseException` below no `Exception`) is not caught by `except Exception` in
    `str_to_int` nor by `except AddrFormatError` (explicit version), but by the bare `except:` of
    the detection loop and of `ipv6.valid_str`.  (Such a platform is not `Sane`.) -/
example :
    let P : RawPlatform := { std with pton6 := fun _ _ => .error .baseOnly }
    ipAddressRaw P .platform .platform "::1".toList (some 6) 0 = .error .baseOnly ∧
    ipAddressRaw P .platform .platform "::1".toList none 0 = .error .addrFormat ∧
    strToInt6Raw P .platform "::1".toList 0 = .error .baseOnly ∧
    validStr6Raw P .platform "::1".toList = .ok false := by decide_lit

/-- **`valid_ipv4` / `valid_ipv6` as transcribed from their own source lines** (ipv4.py:96-111,
    ipv6.py:122-127; these are what the driver ops `valid4` / `valid6` run) equal the
    definitions of Model/AddrParse.lean on every sane platform — so `valid_iff`, `valid_iff_all`,
    `valid_empty`, `valid_differs` speak about them. -/
theorem valid_raw (P : RawPlatform) (hP : P.Sane) (be : Backend) (s : List Char) (fl : Nat) :
    validStr4Raw P be s fl = liftR (validStr4 be s fl) ∧ validStr6Raw P be s = liftR (validStr6 be s) :=
  ⟨validStr4Raw_eq P hP be s fl, validStr6Raw_eq P hP be s⟩

/-- `valid_iff` for the separately transcribed functions and the raw constructor: `valid_ipv4` /
    `valid_ipv6` answer True exactly when the constructor with that explicit version yields an
    address; the empty string raises AddrFormatError. -/
theorem valid_iff_raw (P : RawPlatform) (hP : P.Sane) (be4 be6 : Backend) (s : List Char) (fl : Nat)
    (hs : s ≠ []) (hns : s.contains '/' = false) :
    (validStr4Raw P be4 s fl = .ok true ↔ ∃ v, ipAddressRaw P be4 be6 s (some 4) fl = .ok ⟨4, v⟩) ∧
    (validStr6Raw P be6 s = .ok true ↔ ∃ v, ipAddressRaw P be4 be6 s (some 6) fl = .ok ⟨6, v⟩) ∧
    validStr4Raw P be4 [] fl = .error .addrFormat ∧ validStr6Raw P be6 [] = .error .addrFormat := by
  have hsl : '/' ∉ s := fun hm => nomatch (List.contains_iff_mem.mpr hm).symm.trans hns
  refine ⟨?_, ?_, rfl, rfl⟩
  · rw [validStr4Raw_eq P hP, liftR_ok, validStr4_isSome be4 s fl hs, Except.ok.injEq, Option.isSome_iff_exists]
    refine exists_congr fun v => ?_
    rw [ipAddressRaw_eq P hP, liftR_ok, ipAddress2_some4, ctor_ok, map_mk_eq]
    exact ⟨fun h => ⟨hsl, rfl, h⟩, fun h => h.2.2⟩
  · rw [validStr6Raw_eq P hP, liftR_ok, validStr6_isSome be6 s hs, Except.ok.injEq, Option.isSome_iff_exists]
    refine exists_congr fun v => ?_
    rw [ipAddressRaw_eq P hP, liftR_ok, ipAddress2_some6, ctor_ok, map_mk_eq]
    exact ⟨fun h => ⟨hsl, rfl, h⟩, fun h => h.2.2⟩

example : validStr4Raw std .fallback "192.0.2.1".toList INET_PTON = .ok true ∧
    validStr4Raw std .fallback "192.0.2.01".toList INET_PTON = .ok false ∧
    validStr4Raw std .platform "0x10.1".toList ZEROFILL = .ok false ∧
    validStr6Raw std .fallback "::1".toList = .ok true ∧ validStr6Raw std .platform "1".toList = .ok false := by
  decide_lit

/-- **The back ends are unobservable, each on its own**: the IPv4 choice (`sys.platform`) and the
    IPv6 choice (`socket.has_ipv6` …) are made independently at import time; none of the four
    combinations is visible through `IPAddress(...)` (value or error class), `valid_ipv4`,
    `valid_ipv6`, the printed text in any dialect — at the `Err` level and, on every sane
    platform, at the level of raw exception classes. -/
theorem backend_irrelevant2 (be4 be6 be4' be6' : Backend) :
    (∀ s ver fl, ipAddress2 be4 be6 s ver fl = ipAddress2 be4' be6' s ver fl) ∧
    (∀ P : RawPlatform, P.Sane → ∀ s ver fl,
      ipAddressRaw P be4 be6 s ver fl = ipAddressRaw P be4' be6' s ver fl) ∧
    (∀ P : RawPlatform, P.Sane → ∀ s fl, validStr4Raw P be4 s fl = validStr4Raw P be4' s fl) ∧
    (∀ P : RawPlatform, P.Sane → ∀ s, validStr6Raw P be6 s = validStr6Raw P be6' s) ∧
    (∀ d v, v < 2 ^ 128 → intToStr6 be6 d v = intToStr6 be6' d v) := by
  have ea : ∀ s ver fl, ipAddress2 be4 be6 s ver fl = ipAddress2 be4' be6' s ver fl := fun s ver fl => by
    simp only [ipAddress2, strToInt2, strToInt4_be be4 be4', strToInt6_be be6 be6']
  refine ⟨ea, fun P hP s ver fl => ?_, fun P hP s fl => ?_, fun P hP s => ?_, intToStr6_be be6 be6'⟩
  · rw [ipAddressRaw_eq P hP, ipAddressRaw_eq P hP, ea]
  · rw [validStr4Raw_eq P hP, validStr4Raw_eq P hP, validStr4, validStr4, strToInt4_be be4 be4']
  · rw [validStr6Raw_eq P hP, validStr6Raw_eq P hP, validStr6, validStr6, inetPton6_eq, inetPton6_eq]

example : ipAddress2 .fallback .platform "::ffff:1.2.3.4".toList none 0 = .ok ⟨6, 0xffff01020304⟩ ∧
    ipAddress2 .platform .fallback "1.2.3.4".toList none INET_PTON = .ok ⟨4, 0x01020304⟩ := by decide_lit

/-- **`ip.format(dialect)`** (ip/__init__.py:612-624), for every value in range:
    an object without `word_fmt` (other than None) raises TypeError, for IPv4 as for IPv6;
    otherwise an IPv4 address ignores the dialect and prints its dotted quad; an IPv6 address
    prints `None` as `ipv6_compact` (= `str(ip)`), each of the three dialect classes in its own
    form, and a dialect that has `word_fmt` but no `compact` attribute raises ValueError. -/
theorem format_spec (be6 : Backend) (v : Nat) :
    (∀ ver, ipFormat be6 ⟨ver, v⟩ .noWordFmt = .error .type_) ∧
    (∀ d, d ≠ .noWordFmt → ipFormat be6 ⟨4, v⟩ d = .ok (Text4.ntoa v)) ∧
    (∀ be4, ipFormat be6 ⟨4, v⟩ .none = .ok (intToStr be4 4 v)) ∧
    ipFormat be6 ⟨6, v⟩ .none = .ok (intToStr be6 6 v) ∧
    ipFormat be6 ⟨6, v⟩ .none = ipFormat be6 ⟨6, v⟩ (.dialect .compact) ∧
    (∀ d, ipFormat be6 ⟨6, v⟩ (.dialect d) = .ok (intToStr6 be6 d v)) ∧
    ipFormat be6 ⟨6, v⟩ .wordFmtOnly = .error .value := by
  refine ⟨?_, ?_, ?_, rfl, rfl, ?_, rfl⟩
  · intro ver; rfl
  · intro d hd; cases d <;> first | rfl | exact absurd rfl hd
  · intro be4; rfl
  · intro d; rfl

/-- what `format` returns parses back to the address (with version None or its own, every flags
    value < 4, both back ends, independently chosen), and the IPv6 back end does not show -/
theorem format_roundtrip (be4 be6 : Backend) (a : Addr) (ha : a.WF) (d : FmtArg) (t : List Char)
    (h : ipFormat be6 a d = .ok t) (ver : Option Nat) (hver : ver = none ∨ ver = some a.ver)
    (fl : Nat) (hfl : fl < 4) :
    ipAddress2 be4 be6 t ver fl = .ok a ∧ ∀ be6', ipFormat be6' a d = .ok t := by
  obtain ⟨av, v⟩ := a
  obtain ⟨hav, hv⟩ := ha
  simp only at hav hv hver
  have ea := (backend_irrelevant2 be4 be6 be6 be6).1
  -- for each family and each kind of `dialect` argument `ipFormat` computes (as in `format_spec`), so `h` names `t`
  rcases hav with e | e <;> subst e
  · have hv' : v < 2 ^ 32 := by simpa [width] using hv
    cases d <;> cases h <;>
      exact ⟨by rw [ea, ipAddress2_self]; exact C01.roundtrip4 be6 v hv' ver hver fl hfl, fun _ => rfl⟩
  · have hv' : v < 2 ^ 128 := by simpa [width] using hv
    have key : ∀ dd, ipAddress2 be4 be6 (intToStr6 be6 dd v) ver fl = .ok ⟨6, v⟩ ∧
        ∀ be6', (.ok (intToStr6 be6' dd v) : R (List Char)) = .ok (intToStr6 be6 dd v) := fun dd =>
      ⟨by rw [ea, ipAddress2_self]; exact C01.roundtrip6 be6 dd v hv' ver hver fl,
        fun b => congrArg Except.ok (intToStr6_be b be6 dd v hv')⟩
    cases d <;> cases h
    · exact key .compact
    · exact key _

example : ipAddress2 .platform .fallback "0:0:0:0:0:ffff:102:304".toList (some 6) ZEROFILL = .ok ⟨6, 0xffff01020304⟩ :=
  (format_roundtrip .platform .fallback ⟨6, 0xffff01020304⟩ (by unfold Addr.WF width; decide +kernel) (.dialect .full) _
    (by decide_lit) (some 6) (Or.inr rfl) ZEROFILL (by decide_lit)).1

example : ipFormat .fallback ⟨6, 0xffff01020304⟩ (.dialect .full) = .ok "0:0:0:0:0:ffff:102:304".toList ∧
    ipFormat .fallback ⟨6, 1⟩ .none = .ok "::1".toList ∧
    ipFormat .platform ⟨4, 0xC0000201⟩ (.dialect .verbose) = .ok "192.0.2.1".toList ∧
    ipFormat .platform ⟨4, 0xC0000201⟩ .wordFmtOnly = .ok "192.0.2.1".toList ∧
    ipFormat .platform ⟨4, 0xC0000201⟩ .noWordFmt = .error .type_ ∧
    (⟨6, 0xffff01020304⟩ : Addr).WF := by
  refine ⟨by decide_lit, by decide_lit, by decide_lit, by decide_lit, by decide_lit, ?_⟩
  unfold Addr.WF width; decide +kernel

/-- every printed IPv4 text is a standard dotted quad (four decimal octets 0-255 of 1-3 digits
    without leading zero, `C01G.IsQuad`) of the value printed: an independent standard parser
    reads the same value from it -/
theorem printed_is_quad (v : Nat) (hv : v < 2 ^ 32) : C01G.IsQuad (Text4.ntoa v) v :=
  (C01b.quad_iff_ntoa _ v).mpr ⟨hv, rfl⟩

/-- the dotted-quad grammar is unambiguous: a text has at most one value -/
theorem isQuad_functional (s : List Char) (v v' : Nat) (h : C01G.IsQuad s v) (h' : C01G.IsQuad s v') :
    v = v' := by
  have a := (C01b.inetPton4_iff_quad .platform s v).mpr h
  have b := (C01b.inetPton4_iff_quad .platform s v').mpr h'
  rw [a] at b; cases b; rfl

example : C01G.IsQuad (Text4.ntoa 0xC0000201) 0xC0000201 ∧ Text4.ntoa 0xC0000201 = "192.0.2.1".toList :=
  ⟨printed_is_quad _ (by decide_lit), by decide_lit⟩

/-! ## C literals and BSD shorthand values with the independent evaluator

`C01L.IsCLit` takes the value of a literal from `Text4.ofBase` (a left fold with `hexVal`), the
evaluator the parser model itself runs.  Here the same grammar is stated with the positional
value `C01G.numVal` (`d₁·bⁿ⁻¹ + … + dₙ` over `C01G.digitVal`) and the digit classes of the
declarative grammar, and proved to be the same relation. -/

open NV.C01G in
def IsOctDigit (c : Char) : Prop := '0' ≤ c ∧ c ≤ '7'

instance (c : Char) : Decidable (IsOctDigit c) := by unfold IsOctDigit; infer_instance

open NV.C01G in
/-- a C integer literal as `strtoul(·, ·, 0)` reads it (C11 6.4.4.1 without suffixes): decimal
    without leading zero, octal with leading `0`, hexadecimal with `0x` / `0X` and at least one
    digit — with its positional value -/
inductive IsCLitN : List Char → Nat → Prop
  | dec (c : Char) (r : List Char) (hc : IsDecDigit c) (h0 : c ≠ '0') (hr : ∀ x ∈ r, IsDecDigit x) :
      IsCLitN (c :: r) (numVal 10 (c :: r))
  | oct (r : List Char) (hr : ∀ x ∈ r, IsOctDigit x) : IsCLitN ('0' :: r) (numVal 8 r)
  | hex (x : Char) (r : List Char) (hx : x = 'x' ∨ x = 'X') (hne : r ≠ []) (hr : ∀ y ∈ r, IsHexDigit y) :
      IsCLitN ('0' :: x :: r) (numVal 16 r)

theorem isOct_iff (c : Char) : isOct c = true ↔ IsOctDigit c := by
  simp [isOct, IsOctDigit]

theorem numVal_zero_cons (b : Nat) (r : List Char) : C01G.numVal b ('0' :: r) = C01G.numVal b r := by
  have : C01G.digitVal '0' = 0 := by decide
  simp [C01G.numVal, this]

/-- **the two statements of "C literal with value" are the same relation** -/
theorem isCLit_iff_numVal (l : List Char) (v : Nat) : IsCLit l v ↔ IsCLitN l v := by
  -- the digit classes agree, every digit of a literal is a hex digit, and on hex digits `ofBase` is `numVal`
  have dh : ∀ {c r}, C01G.IsDecDigit c → (∀ x ∈ r, C01G.IsDecDigit x) → ∀ x ∈ c :: r, C01G.IsHexDigit x :=
    fun hc hr => List.forall_mem_cons.mpr ⟨Or.inl hc, fun x hx => Or.inl (hr x hx)⟩
  have oh : ∀ {r}, (∀ x ∈ r, isOct x = true) → ∀ x ∈ '0' :: r, C01G.IsHexDigit x := fun hr =>
    List.forall_mem_cons.mpr ⟨Or.inl (by decide), fun x hx => (C01G.isHexC_iff _).mp (AtonG.hex_of_oct _ (hr x hx))⟩
  constructor
  · intro h
    cases h with
    | dec c r hc h0 hr =>
      have hc' := (C01G.isDec_iff _).mp hc
      have hr' := fun x hx => (C01G.isDec_iff x).mp (hr x hx)
      rw [C01G.ofBase_eq_numVal 10 _ (dh hc' hr')]
      exact .dec c r hc' h0 hr'
    | oct r hr =>
      rw [C01G.ofBase_eq_numVal 8 _ (oh hr), numVal_zero_cons]
      exact .oct r fun x hx => (isOct_iff _).mp (hr x hx)
    | hex x r hx hne hr =>
      have hr' := fun y hy => (C01G.isHexC_iff y).mp (hr y hy)
      rw [C01G.ofBase_eq_numVal 16 r hr']
      exact .hex x r hx hne hr'
  · intro h
    cases h with
    | dec c r hc h0 hr =>
      rw [← C01G.ofBase_eq_numVal 10 _ (dh hc hr)]
      exact .dec c r ((C01G.isDec_iff _).mpr hc) h0 fun x hx => (C01G.isDec_iff _).mpr (hr x hx)
    | oct r hr =>
      have hr' : ∀ x ∈ r, isOct x = true := fun x hx => (isOct_iff _).mpr (hr x hx)
      rw [← numVal_zero_cons, ← C01G.ofBase_eq_numVal 8 _ (oh hr')]
      exact .oct r hr'
    | hex x r hx hne hr =>
      rw [← C01G.ofBase_eq_numVal 16 r hr]
      exact .hex x r hx hne fun y hy => (C01G.isHexC_iff _).mpr (hr y hy)

example : IsCLitN "0x7f".toList 127 ∧ IsCLitN "010".toList 8 ∧ IsCLitN "65535".toList 65535 ∧ IsCLitN "0".toList 0 := by
  repeat rw [String.toList_ofList]
  exact ⟨IsCLitN.hex 'x' ['7', 'f'] (Or.inl rfl) (by decide) (by decide),
    IsCLitN.oct ['1', '0'] (by decide),
    IsCLitN.dec '6' ['5', '5', '3', '5'] (by decide) (by decide) (by decide),
    IsCLitN.oct [] (by decide)⟩

/-- **BSD shorthand (default mode), values by the independent evaluator**: `C01.aton_shorthand`
    with the parts' values given by `numVal` over the declarative literal grammar -/
theorem aton_shorthand_numVal (l0 l1 l2 l3 : List Char) (a b c d : Nat)
    (h0 : IsCLitN l0 a) (h1 : IsCLitN l1 b) (h2 : IsCLitN l2 c) (h3 : IsCLitN l3 d) :
    (a ≤ 0xffffffff → Text4.aton l0 = some a) ∧
    (a > 0xffffffff → Text4.aton l0 = none) ∧
    (a ≤ 255 → b ≤ 0xffffff → Text4.aton (l0 ++ '.' :: l1) = some (a * 16777216 + b)) ∧
    (a ≤ 255 → b > 0xffffff → Text4.aton (l0 ++ '.' :: l1) = none) ∧
    (a ≤ 255 → b ≤ 255 → c ≤ 0xffff → Text4.aton (l0 ++ '.' :: (l1 ++ '.' :: l2)) = some (a * 16777216 + b * 65536 + c)) ∧
    (a ≤ 255 → b ≤ 255 → c > 0xffff → Text4.aton (l0 ++ '.' :: (l1 ++ '.' :: l2)) = none) ∧
    (a ≤ 255 → b ≤ 255 → c ≤ 255 → d ≤ 255 →
      Text4.aton (l0 ++ '.' :: (l1 ++ '.' :: (l2 ++ '.' :: l3))) = some (a * 16777216 + b * 65536 + c * 256 + d)) ∧
    (a ≤ 255 → b ≤ 255 → c ≤ 255 → d > 255 → Text4.aton (l0 ++ '.' :: (l1 ++ '.' :: (l2 ++ '.' :: l3))) = none) ∧
    (a > 255 → ∀ r, Text4.aton (l0 ++ '.' :: r) = none) :=
  C01.aton_shorthand l0 l1 l2 l3 a b c d ((isCLit_iff_numVal _ _).mpr h0) ((isCLit_iff_numVal _ _).mpr h1)
    ((isCLit_iff_numVal _ _).mpr h2) ((isCLit_iff_numVal _ _).mpr h3)

/-- the dotted body of an `inet_aton` text (`AtonG.Body`) over `IsCLitN` -/
inductive BodyN : List Char → Nat → Prop
  | one (l0 : List Char) (a : Nat) (h0 : IsCLitN l0 a) (ha : a ≤ 0xffffffff) : BodyN l0 a
  | two (l0 l1 : List Char) (a b : Nat) (h0 : IsCLitN l0 a) (h1 : IsCLitN l1 b)
      (ha : a ≤ 255) (hb : b ≤ 0xffffff) : BodyN (l0 ++ '.' :: l1) (a * 16777216 + b)
  | three (l0 l1 l2 : List Char) (a b c : Nat) (h0 : IsCLitN l0 a) (h1 : IsCLitN l1 b) (h2 : IsCLitN l2 c)
      (ha : a ≤ 255) (hb : b ≤ 255) (hc : c ≤ 0xffff) :
      BodyN (l0 ++ '.' :: (l1 ++ '.' :: l2)) (a * 16777216 + b * 65536 + c)
  | four (l0 l1 l2 l3 : List Char) (a b c d : Nat) (h0 : IsCLitN l0 a) (h1 : IsCLitN l1 b) (h2 : IsCLitN l2 c)
      (h3 : IsCLitN l3 d) (ha : a ≤ 255) (hb : b ≤ 255) (hc : c ≤ 255) (hd : d ≤ 255) :
      BodyN (l0 ++ '.' :: (l1 ++ '.' :: (l2 ++ '.' :: l3))) (a * 16777216 + b * 65536 + c * 256 + d)

theorem body_iff_numVal (s : List Char) (v : Nat) : AtonG.Body s v ↔ BodyN s v := by
  have f := fun {l v} => (isCLit_iff_numVal l v).mp
  have g := fun {l v} => (isCLit_iff_numVal l v).mpr
  constructor
  · intro h
    cases h with
    | one _ _ h0 ha => exact .one _ _ (f h0) ha
    | two _ _ _ _ h0 h1 ha hb => exact .two _ _ _ _ (f h0) (f h1) ha hb
    | three _ _ _ _ _ _ h0 h1 h2 ha hb hc => exact .three _ _ _ _ _ _ (f h0) (f h1) (f h2) ha hb hc
    | four _ _ _ _ _ _ _ _ h0 h1 h2 h3 ha hb hc hd => exact .four _ _ _ _ _ _ _ _ (f h0) (f h1) (f h2) (f h3) ha hb hc hd
  · intro h
    cases h with
    | one _ _ h0 ha => exact .one _ _ (g h0) ha
    | two _ _ _ _ h0 h1 ha hb => exact .two _ _ _ _ (g h0) (g h1) ha hb
    | three _ _ _ _ _ _ h0 h1 h2 ha hb hc => exact .three _ _ _ _ _ _ (g h0) (g h1) (g h2) ha hb hc
    | four _ _ _ _ _ _ _ _ h0 h1 h2 h3 ha hb hc hd => exact .four _ _ _ _ _ _ _ _ (g h0) (g h1) (g h2) (g h3) ha hb hc hd

/-- **`inet_aton` = the BSD shorthand grammar with independently evaluated parts**, for every
    string: no NUL, a body of 1-4 C literals (`BodyN`, values by `numVal`), then nothing or one
    C-locale whitespace character followed by anything -/
theorem aton_iff_numVal (s : List Char) (v : Nat) :
    Text4.aton s = some v ↔
      Char.ofNat 0 ∉ s ∧ ∃ body tail, s = body ++ tail ∧ BodyN body v ∧ AtonG.Tail tail := by
  rw [AtonG.aton_iff]
  exact and_congr_right fun _ => exists_congr fun body => exists_congr fun tail =>
    and_congr_right fun _ => and_congr_left fun _ => body_iff_numVal body v

/-- **BSD shorthand at the constructor (default mode)**, `C01b.shorthand_api` over `BodyN` -/
theorem shorthand_api_numVal (be : Backend) (body : List Char) (v : Nat) (hb : BodyN body v) (ver : Option Nat)
    (hver : ver = none ∨ ver = some 4) (fl : Nat) (h : C01b.DefaultMode fl) :
    ipAddress be body ver fl = .ok ⟨4, v⟩ :=
  C01b.shorthand_api be body v ((body_iff_numVal _ _).mpr hb) ver hver fl h

example : BodyN "0x7f.1".toList 0x7f000001 := by
  rw [String.toList_ofList]
  exact BodyN.two ['0', 'x', '7', 'f'] ['1'] 127 1 (IsCLitN.hex 'x' ['7', 'f'] (Or.inl rfl) (by decide) (by decide))
    (IsCLitN.dec '1' [] (by decide) (by decide) (by decide)) (by decide) (by decide)

end NV.C01A2
