/-
Props/C08Ext.lean — property C08, second part: exception classes of the constructor (for the
function `ofAnyF` the driver runs, which catches only AddrFormatError as the code does), the
decimal-string fallback, the final-newline acceptance, slicing `e[a:b:c]`, `format(dialect)`, and
`is_iab` / `iab` on receivers of either version.  Property theorems only; helper lemmas are in
Lemmas/C08LCtor.lean and Lemmas/C08LSlice.lean.
-/
import NetaddrVerif.Props.C08
import NetaddrVerif.Lemmas.C08LSlice
namespace NV.C08
open NV NV.Eui NV.Codec NV.Gen NV.PyL NV.C08L.Ctor NV.C08L.Slice

/-- `ofAnyF` (only `AddrFormatError` of `str_to_int` is caught, as in `_set_value`) and `ofAny`
    (every error is turned into AddrFormatError) are the same function: every theorem of
    Props/C08.lean about `ofAny` (`roundtrip*`, `spellings*`, `ofAny_int`, `spellings_other_version`,
    `eui64_spec` …) is a theorem about `ofAnyF` -/
theorem ctor_faithful : ofAnyF = ofAny := by
  funext a ver; exact ofAnyF_eq a ver

/-- `str_to_int` of either family on ANY string: AddrFormatError, or a value inside the width —
    in particular the `int(w, 16)` calls inside never raise ValueError -/
theorem str_to_int_total (s : List Char) :
    (strToInt48 s = .error .addrFormat ∨ ∃ v, strToInt48 s = .ok v ∧ v < 2 ^ 48) ∧
    (strToInt64 s = .error .addrFormat ∨ ∃ v, strToInt64 s = .ok v ∧ v < 2 ^ 64) :=
  ⟨strToInt48_total s, strToInt64_total s⟩

/-- integers, negative ones included: with no version, 0 … 2^48-1 is an EUI-48, 2^48 … 2^64-1 an
    EUI-64, anything else a **TypeError**; with an explicit version exactly the range of that
    version is accepted and anything else is an **AddrFormatError** -/
theorem ofAnyF_int (n : Int) :
    (0 ≤ n → n < 2 ^ 48 → ofAnyF (.int n) none = .ok (48, n.toNat)) ∧
    (2 ^ 48 ≤ n → n < 2 ^ 64 → ofAnyF (.int n) none = .ok (64, n.toNat)) ∧
    (n < 0 ∨ 2 ^ 64 ≤ n → ofAnyF (.int n) none = .error .type_) ∧
    (0 ≤ n → n < 2 ^ 48 → ofAnyF (.int n) (some 48) = .ok (48, n.toNat)) ∧
    (n < 0 ∨ 2 ^ 48 ≤ n → ofAnyF (.int n) (some 48) = .error .addrFormat) ∧
    (0 ≤ n → n < 2 ^ 64 → ofAnyF (.int n) (some 64) = .ok (64, n.toNat)) ∧
    (n < 0 ∨ 2 ^ 64 ≤ n → ofAnyF (.int n) (some 64) = .error .addrFormat) := by
  rw [ctor_faithful]
  refine ⟨?_, ?_, ?_, ?_, ?_, ?_, ?_⟩
  · intro h0 h; rw [ofAny_int_none, if_pos (by omega), setExplicit48_int, if_pos (by omega)]
  · intro h0 h; rw [ofAny_int_none, if_neg (by omega), if_pos (by omega), setExplicit64_int, if_pos (by omega)]
  · intro h; rw [ofAny_int_none, if_neg (by omega), if_neg (by omega)]
  · intro h0 h; rw [ofAny_some48, setExplicit48_int, if_pos (by omega)]
  · intro h; rw [ofAny_some48, setExplicit48_int, if_neg (by omega)]
  · intro h0 h; rw [ofAny_some64, setExplicit64_int, if_pos (by omega)]
  · intro h; rw [ofAny_some64, setExplicit64_int, if_neg (by omega)]

example : ofAnyF (.int (-1)) none = .error .type_ := by decide +kernel
example : ofAnyF (.int (-1)) (some 48) = .error .addrFormat := by decide +kernel
example : ofAnyF (.int 5) (some 32) = .error .value := by decide +kernel

/-- **the exception class of every rejected constructor call**: ValueError exactly for a
    version other than 48 / 64 (whatever the address); TypeError exactly for an integer outside
    0 … 2^64-1 with no version; AddrFormatError in every other rejected case (a string that is
    not an EUI of the requested version / of any version, an integer outside the explicit
    version's range) -/
theorem ofAnyF_error_class (a : AddrArg) (ver : Option Int) (e : Err) (h : ofAnyF a ver = .error e) :
    (e = .value ∧ ∃ k, ver = some k ∧ k ≠ 48 ∧ k ≠ 64) ∨
    (e = .type_ ∧ ver = none ∧ ∃ n, a = .int n ∧ (n < 0 ∨ 2 ^ 64 ≤ n)) ∨
    (e = .addrFormat ∧ (ver = some 48 ∨ ver = some 64 ∨ (ver = none ∧ ∃ s, a = .str s))) := by
  rw [ctor_faithful] at h
  rcases version_cases ver with ⟨k, rfl, h1, h2⟩ | rfl | rfl | rfl
  · rw [ofAny_badver a (fun hk => hk.elim h1 h2)] at h
    exact Or.inl ⟨(Except.error.inj h).symm, k, rfl, h1, h2⟩
  · cases a with
    | int n =>
      rw [← ctor_faithful] at h
      by_cases h0 : n < 0 ∨ 2 ^ 64 ≤ n
      · rw [(ofAnyF_int n).2.2.1 h0] at h
        exact Or.inr (Or.inl ⟨(Except.error.inj h).symm, rfl, n, rfl, h0⟩)
      · exfalso
        by_cases h1 : n < 2 ^ 48
        · rw [(ofAnyF_int n).1 (by omega) h1] at h; cases h
        · rw [(ofAnyF_int n).2.1 (by omega) (by omega)] at h; cases h
    | str s => exact Or.inr (Or.inr ⟨setImplicitStr_err h, Or.inr (Or.inr ⟨rfl, s, rfl⟩)⟩)
  · exact Or.inr (Or.inr ⟨setExplicit_err h, Or.inl rfl⟩)
  · exact Or.inr (Or.inr ⟨setExplicit_err h, Or.inr (Or.inl rfl)⟩)

/-- the round trips of Props/C08.lean, stated for the constructor the driver runs -/
theorem roundtrip48_F (d : Dialect) (hd : d ∈ macDialects) (v : Nat) (hv : v < 2 ^ 48) :
    ∃ s, Eui.str d v = .ok s ∧ ofAnyF (.str s) none = .ok (48, v) ∧ ofAnyF (.str s) (some 48) = .ok (48, v) := by
  rw [ctor_faithful]; exact roundtrip48 d hd v hv

theorem roundtrip64_F (d : Dialect) (hd : d ∈ eui64Dialects) (v : Nat) (hv : v < 2 ^ 64) :
    ∃ s, Eui.str d v = .ok s ∧ ofAnyF (.str s) none = .ok (64, v) ∧ ofAnyF (.str s) (some 64) = .ok (64, v) := by
  rw [ctor_faithful]; exact roundtrip64 d hd v hv

/-- a string with an explicit version: accepted exactly when `str_to_int` of that version accepts
    it, otherwise AddrFormatError (never the decimal fallback) -/
theorem ofAnyF_str_explicit (s : List Char) :
    (∀ v, strToInt48 s = .ok v → ofAnyF (.str s) (some 48) = .ok (48, v)) ∧
    (strToInt48 s = .error .addrFormat → ofAnyF (.str s) (some 48) = .error .addrFormat) ∧
    (∀ v, strToInt64 s = .ok v → ofAnyF (.str s) (some 64) = .ok (64, v)) ∧
    (strToInt64 s = .error .addrFormat → ofAnyF (.str s) (some 64) = .error .addrFormat) := by
  rw [ctor_faithful]
  exact ⟨fun v h => ofAny_str48 h, fun h => ofAny_str48 h, fun v h => ofAny_str64 h, fun h => ofAny_str64 h⟩

/-- **the integer fallback**: a string that neither family's `str_to_int` accepts is handed to
    `int()`; a non-negative result below 2^48 is an EUI-48, below 2^64 an EUI-64, anything else
    (or a ValueError of `int()`) is an AddrFormatError; with an explicit version there is no
    fallback -/
theorem int_fallback (s : List Char) (h48 : strToInt48 s = .error .addrFormat)
    (h64 : strToInt64 s = .error .addrFormat) :
    (Py.pyInt 10 s = none → ofAnyF (.str s) none = .error .addrFormat) ∧
    (∀ n : Int, Py.pyInt 10 s = some n →
      (0 ≤ n → n < 2 ^ 48 → ofAnyF (.str s) none = .ok (48, n.toNat)) ∧
      (2 ^ 48 ≤ n → n < 2 ^ 64 → ofAnyF (.str s) none = .ok (64, n.toNat)) ∧
      (n < 0 ∨ 2 ^ 64 ≤ n → ofAnyF (.str s) none = .error .addrFormat)) ∧
    ofAnyF (.str s) (some 48) = .error .addrFormat ∧ ofAnyF (.str s) (some 64) = .error .addrFormat := by
  have key := setImplicitStr_int h48 h64
  rw [← show ofAny (.str s) none = setImplicitStr s from rfl, ← ctor_faithful] at key
  refine ⟨?_, ?_, (ofAnyF_str_explicit s).2.1 h48, (ofAnyF_str_explicit s).2.2.2 h64⟩
  · intro h; rw [key, h]
  · intro n h
    rw [key, h]
    dsimp only
    exact ⟨fun a b => if_pos (by omega), fun a b => by rw [if_neg (by omega), if_pos (by omega)],
      fun a => by rw [if_neg (by omega), if_neg (by omega)]⟩

/-- **`EUI('1234')`**: a non-empty string of decimal digits that is not 11, 12 or 16 characters
    long matches no pattern and denotes its decimal value — an EUI-48 below 2^48, an EUI-64 below
    2^64, rejected above; with an explicit version it is rejected -/
theorem decimal_string (s : List Char) (h : DecStr s)
    (hl : s.length ≠ 11 ∧ s.length ≠ 12 ∧ s.length ≠ 16) :
    (digitsNat 10 s 0 < 2 ^ 48 → ofAnyF (.str s) none = .ok (48, digitsNat 10 s 0)) ∧
    (2 ^ 48 ≤ digitsNat 10 s 0 → digitsNat 10 s 0 < 2 ^ 64 → ofAnyF (.str s) none = .ok (64, digitsNat 10 s 0)) ∧
    (2 ^ 64 ≤ digitsNat 10 s 0 → ofAnyF (.str s) none = .error .addrFormat) ∧
    ofAnyF (.str s) (some 48) = .error .addrFormat ∧ ofAnyF (.str s) (some 64) = .error .addrFormat := by
  have h48 := dec_no_mac h ⟨hl.1, hl.2.1⟩
  have h64 := dec_no_eui64 h hl.2.2
  obtain ⟨_, hn, e48, e64⟩ := int_fallback s h48 h64
  obtain ⟨a, b, c⟩ := hn _ (pyInt10_dec s h)
  refine ⟨?_, ?_, ?_, e48, e64⟩
  · intro hlt
    have := a (Int.natCast_nonneg _) (by exact_mod_cast hlt)
    rwa [Int.toNat_natCast] at this
  · intro h1 h2
    have := b (by exact_mod_cast h1) (by exact_mod_cast h2)
    rwa [Int.toNat_natCast] at this
  · intro h1
    exact c (Or.inr (by exact_mod_cast h1))

example : DecStr "1234".toList := ⟨by decide, by decide⟩
example : strToInt48 "1234".toList = .error .addrFormat ∧ strToInt64 "1234".toList = .error .addrFormat := by
  decide_lit
example : strToInt48 " 12_34 ".toList = .error .addrFormat ∧ Py.pyInt 10 " 12_34 ".toList = some 1234 := by
  decide_lit
example : ofAnyF (.str "1234".toList) none = .ok (48, 1234) := by
  decide_lit
example : ofAnyF (.str "281474976710656".toList) none = .ok (64, 2 ^ 48) := by
  decide_lit
example : ofAnyF (.str "1234".toList) (some 48) = .error .addrFormat := by
  decide_lit

/-- … whereas a decimal-digit string of exactly 12 or 11 characters is a bare EUI-48 and one of
    exactly 16 characters a bare EUI-64: it is read in base 16, since the string parsers of both
    families come before `int()` (finding F9, /repo commit 5492517) -/
theorem decimal_bare_is_hex (s : List Char) (h : DecStr s) :
    (s.length = 12 ∨ s.length = 11 → ofAnyF (.str s) none = .ok (48, digitsNat 16 s 0)) ∧
    (s.length = 16 → ofAnyF (.str s) none = .ok (64, digitsNat 16 s 0)) := by
  rw [ctor_faithful]
  constructor
  · intro hlen
    have : strToInt48 s = .ok (tokVal s) := by
      rcases hlen with hlen | hlen
      · exact strToIntOf_bare rowOk48 ⟨[], 1, 12, 12⟩ (by decide) rfl rfl h.hexTok (by simp [hlen])
      · exact strToIntOf_bare rowOk48 ⟨[], 1, 11, 11⟩ (by decide) rfl rfl h.hexTok (by simp [hlen])
    exact (ofAny_of_str48 this).1
  · intro hlen
    exact (ofAny_of_str64 (dec_no_mac h (by omega))
      (strToIntOf_bare rowOk64 ⟨[], 1, 16, 16⟩ (by decide) rfl rfl h.hexTok (by simp [hlen]))).1

example : ofAnyF (.str "0000000041000000".toList) none = .ok (64, 0x41000000) := by
  decide_lit
example : ofAnyF (.str "123456789012".toList) none = .ok (48, 0x123456789012) := by
  decide_lit

/-- **Python's `$`**: one final newline after a string without newlines changes nothing — the
    same value / version or the same rejection, with implicit and with explicit version (for the
    integer fallback because `int()` strips whitespace) -/
theorem trailing_newline (s : List Char) (h : '\n' ∉ s) :
    ofAnyF (.str (s ++ ['\n'])) none = ofAnyF (.str s) none ∧
    ofAnyF (.str (s ++ ['\n'])) (some 48) = ofAnyF (.str s) (some 48) ∧
    ofAnyF (.str (s ++ ['\n'])) (some 64) = ofAnyF (.str s) (some 64) := by
  have a : strToInt48 (s ++ ['\n']) = strToInt48 s := strToIntOf_newline rowOk48 h
  have b : strToInt64 (s ++ ['\n']) = strToInt64 s := strToIntOf_newline rowOk64 h
  rw [ctor_faithful]
  refine ⟨?_, ?_, ?_⟩
  · show setImplicitStr (s ++ ['\n']) = setImplicitStr s
    unfold setImplicitStr
    rw [a, b, pyInt_newline]
  · exact (ofAny_str48 a).trans (ofAny_str48 rfl).symm
  · exact (ofAny_str64 b).trans (ofAny_str64 rfl).symm

example : '\n' ∉ "00-1B-77-49-54-FD".toList := by
  decide_lit
example : ofAnyF (.str "00-1B-77-49-54-FD\n".toList) none = .ok (48, 0x001b774954fd) := by
  decide_lit
example : ofAnyF (.str "1234\n".toList) none = .ok (48, 1234) := by
  decide_lit
example : ofAnyF (.str "00-1B-77-49-54-FD\n\n".toList) none = .error .addrFormat := by
  decide_lit

/-- **`e[a:b:c]`** under the object's own dialect, for every dialect (word size / word count):
    step 0 is a ValueError; otherwise, with `(s, e, st) = slice(a, b, c).indices(num_words)`, the
    result is the list of words at the positions `range(s, e, st)` in that order — every such
    position is a valid one (never an IndexError), the word at position `i` is digit
    `num_words-1-i` of the value in base `2^word_size`, and it is what `e[i]` returns -/
theorem getSlice_spec (v : Nat) (d : Dialect) (hv : v < 2 ^ (d.numWords * d.wordSize)) (a b c : Option Int) :
    (c = some 0 → getSlice v d a b c = .error .value) ∧
    (c ≠ some 0 → ∃ s e st, Py.sliceIndices a b c d.numWords = some (s, e, st)) ∧
    (∀ s e st, Py.sliceIndices a b c d.numWords = some (s, e, st) →
      getSlice v d a b c = .ok ((Py.pyRange s e st).map (fun i =>
        v / 2 ^ (d.wordSize * (d.numWords - 1 - i.toNat)) % 2 ^ d.wordSize)) ∧
      getSlice v d a b c = (Py.pyRange s e st).mapM (getIdx v d) ∧
      ∀ i ∈ Py.pyRange s e st, 0 ≤ i ∧ i < d.numWords) := by
  refine ⟨?_, ?_, ?_⟩
  · intro hc; subst hc; exact getSlice_step0 hv a b
  · intro hc
    cases hs : Py.sliceIndices a b c d.numWords with
    | none => exact absurd ((ListLike.sliceIndices_none_iff a b c d.numWords).1 hs) hc
    | some t => exact ⟨t.1, t.2.1, t.2.2, rfl⟩
  · intro s e st hs
    have hin := ListLike.sliceIdx_in_range a b c d.numWords s e st hs
    have hok := getSlice_ok hv hs
    refine ⟨hok, ?_, hin⟩
    rw [hok]
    symm
    apply mapM_eq_pure_map
    intro i hi
    obtain ⟨h0, h1⟩ := hin i hi
    have := (getIdx_spec v d hv i).1 i.toNat (by omega) (by omega)
    rw [this]; rfl

/-- `e[:]` is the whole word list of the dialect and `e[::-1]` the same list reversed -/
theorem getSlice_whole (v : Nat) (d : Dialect) (hv : v < 2 ^ (d.numWords * d.wordSize)) :
    getSlice v d none none none = intToWords v d.wordSize d.numWords ∧
    getSlice v d none none (some (-1)) = (intToWords v d.wordSize d.numWords).map List.reverse :=
  ⟨getSlice_all hv, getSlice_rev hv⟩

example : Py.sliceIndices (some (-2)) none (some (-1)) 6 = some (4, -1, -1) := by decide +kernel
example : getSlice 0x001b774954fd macDefault (some (-2)) none (some (-1)) = .ok [0x54, 0x49, 0x77, 0x1b, 0x00] := by decide +kernel
example : getSlice 0x001b774954fd ⟨"mac_cisco", 16, 3, ['.'], 4, false⟩ (some 1) none none = .ok [0x7749, 0x54fd] := by decide +kernel
example : getSlice 0x001b774954fd macDefault (some 1) (some 5) (some 2) = .ok [0x1b, 0x49] := by decide +kernel
example : getSlice 0x001b774954fd macDefault none none (some 0) = .error .value := by decide +kernel

/-- **`format(dialect)`** prints the value under the dialect passed in — the text `str()` gives
    for an EUI of that dialect — and `format()` / `format(None)` under the default dialect of the
    receiver's version (mac_eui48 / eui64_base), whatever the receiver's own dialect is (the
    model function has no argument for it; the harness varies it) -/
theorem format_spec (v : Nat) :
    (∀ ver d, Eui.format ver v (some d) = Eui.str d v) ∧
    Eui.format 48 v none = Eui.str macDefault v ∧ Eui.format 64 v none = Eui.str eui64Default v :=
  ⟨fun _ _ => rfl, rfl, rfl⟩

/-- the text of `format(dialect)` for a built-in dialect of the receiver's family parses back to
    the receiver's value and version -/
theorem format_roundtrip (v : Nat) :
    (v < 2 ^ 48 → ∀ d ∈ macDialects, ∃ s, Eui.format 48 v (some d) = .ok s ∧ ofAnyF (.str s) none = .ok (48, v)) ∧
    (v < 2 ^ 64 → ∀ d ∈ eui64Dialects, ∃ s, Eui.format 64 v (some d) = .ok s ∧ ofAnyF (.str s) none = .ok (64, v)) := by
  constructor
  · intro hv d hd
    obtain ⟨s, a, b, _⟩ := roundtrip48_F d hd v hv
    exact ⟨s, a, b⟩
  · intro hv d hd
    obtain ⟨s, a, b, _⟩ := roundtrip64_F d hd v hv
    exact ⟨s, a, b⟩

example : Eui.format 48 0x001b774954fd (some ⟨"mac_cisco", 16, 3, ['.'], 4, false⟩) = .ok "001b.7749.54fd".toList := by
  decide_lit
example : Eui.format 48 0x001b774954fd none = .ok "00-1B-77-49-54-FD".toList := by
  decide_lit

/-- `is_iab()` / `iab` of an EUI-48 receiver: bits 24 and up of the value against the IAB base OUIs,
    `iab` = the top 36 bits -/
theorem iab_split48 (v : Nat) :
    (isIabOf 48 v = true ↔ (v / 2 ^ 24 = 0x0050c2 ∨ v / 2 ^ 24 = 0x40d855)) ∧
    (isIabOf 48 v = true → iabOf 48 v = .ok (some (v / 2 ^ 12))) ∧
    (isIabOf 48 v = false → iabOf 48 v = .ok none) := iab_split v

/-- **EUI-64 receivers** ("split the value at the standard bit positions": the OUI of an EUI-64 is
    its top 24 bits, the 36-bit IAB its top 36 bits): the code shifts by 40 / 28 for an EUI-64 (/repo commit
    14211a2, finding F17).  With the shifts 24 / 12 of an EUI-48 `EUI(0x0050c2000123, version=64).is_iab()` would
    be True (its OUI is 00-00-00) and no EUI-64 under the IAB base OUI 00-50-C2 would be reported. -/
theorem iab_split64 (v : Nat) :
    (isIabOf 64 v = true ↔ (v / 2 ^ 40 = 0x0050c2 ∨ v / 2 ^ 40 = 0x40d855)) ∧
    (isIabOf 64 v = true → iabOf 64 v = .ok (some (v / 2 ^ 28))) ∧
    (isIabOf 64 v = false → iabOf 64 v = .ok none) := by
  refine ⟨?_, ?_, ?_⟩
  · rw [← Nat.shiftRight_eq_div_pow]
    exact iab_contains_iff _
  · intro h
    have hc : iabEuiValues.contains (v >>> 40) = true := h
    rw [iabOf, if_neg (by decide), if_pos hc, splitIabMac_iab (by rwa [← Nat.shiftRight_add]),
      Nat.shiftRight_eq_div_pow]
    rfl
  · intro h
    have hc : ¬ iabEuiValues.contains (v >>> 40) = true := by
      rw [show iabEuiValues.contains (v >>> 40) = false from h]
      decide
    rw [iabOf, if_neg (by decide), if_neg hc]
    rfl

/-- `is_iab()` agrees with `oui` for both versions: an identifier is an IAB address exactly when its
    OUI field is one of the IAB base OUIs -/
theorem iab_iff_oui (ver v : Nat) (hver : ver = 48 ∨ ver = 64) (hv : v < 2 ^ ver) :
    isIabOf ver v = true ↔ ∃ o, oui ver v = .ok o ∧ iabEuiValues.contains o = true := by
  -- both sides look at the same field `v >>> s`: bits 24.. of an EUI-48, bits 40.. of an EUI-64
  have key : ∀ s, isIabOf ver v = iabEuiValues.contains (v >>> s) → oui ver v = .ok (v / 2 ^ s) →
      (isIabOf ver v = true ↔ ∃ o, oui ver v = .ok o ∧ iabEuiValues.contains o = true) := by
    intro s hi ho
    rw [hi, ho, Nat.shiftRight_eq_div_pow]
    exact ⟨fun h => ⟨_, rfl, h⟩, fun ⟨o, e, h⟩ => Except.ok.inj e ▸ h⟩
  rcases hver with rfl | rfl
  · exact key 24 rfl ((oui_ei_split v).1 hv).1
  · exact key 40 rfl ((oui_ei_split v).2 hv).1

/-- the EUI-64 form of an IAB MAC is an IAB address too (same OUI field); the two values that tell the
    shifts 40 / 28 from 24 / 12 (finding F17) read as the standard says -/
theorem iab_eui64_of_mac :
    (∀ v e, v < 2 ^ 48 → isIabOf 48 v = true → eui64 48 v = .ok (64, e) → isIabOf 64 e = true) ∧
    (isIabOf 64 0x0050c2fffe000123 = true ∧ iabOf 64 0x0050c2fffe000123 = .ok (some 0x0050c2fff)) ∧
    (isIabOf 64 0x0050c2000123 = false ∧ iabOf 64 0x0050c2000123 = .ok none) := by
  refine ⟨?_, ⟨by rfl, by rfl⟩, ⟨by rfl, by rfl⟩⟩
  intro v e hv hi he
  rw [(eui64_spec v).1 hv] at he
  have he' : e = v / 2 ^ 24 * 2 ^ 40 + 0xFFFE * 2 ^ 24 + v % 2 ^ 24 := by
    injection he with he; injection he with _ he; exact he.symm
  have h1 := ((iab_split v).1).1 hi
  apply (iab_split64 e).1.2
  omega

end NV.C08
