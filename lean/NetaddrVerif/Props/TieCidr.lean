/-
Props/TieCidr.lean — translation tie for `cidr_partition` (C09; `cidr_exclude`, `iprange_to_cidrs`
and the IPSet subtraction are built on it): the current source text of the function — shortcuts,
halving loop with its two lists, `break`, final reversal — translated by `harness/pytrans.py`
(`Gen/Trans.lean`: `cidr_partition`, `cidr_partition_loop1`) equals `cidrPartition` of
`Model/Cidr.lean`, the definition the C09 theorems are about, for every target / exclude pair of
one family with legal prefix lengths.
-/
import NetaddrVerif.Gen.Trans
import NetaddrVerif.Lemmas.TieL
import NetaddrVerif.Model.Cidr
import NetaddrVerif.Props.Tie
namespace NV.Tie
open NV NV.Trans

/-- a block of the model as the constructor tuple `(value, prefixlen, version)` of the translation -/
def liftP (ver : Nat) (b : Pfx) : Int × Int × Int := ((b.val : Int), (b.plen : Int), (ver : Int))
def liftL (ver : Nat) (l : List Pfx) : List (Int × Int × Int) := l.map (liftP ver)

theorem liftL_append (ver : Nat) (l₁ l₂ : List Pfx) : liftL ver (l₁ ++ l₂) = liftL ver l₁ ++ liftL ver l₂ :=
  List.map_append

theorem liftL_concat (ver : Nat) (l : List Pfx) (v p : Nat) :
    liftL ver l ++ [((v : Int), (p : Int), (ver : Int))] = liftL ver (l ++ [⟨v, p⟩]) :=
  (liftL_append ver l [⟨v, p⟩]).symm

theorem liftL_reverse (ver : Nat) (l : List Pfx) : liftL ver l.reverse = (liftL ver l).reverse :=
  List.map_reverse

theorem liftL_getLast (ver : Nat) (l : List Pfx) : (liftL ver l).getLast? = l.getLast?.map (liftP ver) :=
  List.getLast?_map

theorem liftL_dropLast (ver : Nat) (l : List Pfx) : (liftL ver l).dropLast = liftL ver l.dropLast :=
  List.map_dropLast.symm

/-- the halving `while` loop.  `tval`, `tplen`, `tf` are parameters the generated loop threads through and never reads. -/
theorem part_loop (ver : Nat) (tval tplen : Int) (ev ep : Nat) (hep : ep ≤ width ver) (tf : Int) :
    ∀ (fuel np iL iU : Nat) (left right : List Pfx), ep + 1 - np ≤ fuel →
      cidr_partition_loop1 fuel ver tval tplen ver (ev : Int) (ep : Int) (np : Int) (iL : Int) (iU : Int)
          (liftL ver left) (liftL ver right) ((width ver : Nat) : Int) tf ((ver : Nat) : Int)
        = (liftL ver (partLoop (width ver) (netFirst (width ver) ev ep) ep np iL iU left right).1,
           [((ev : Int), (ep : Int), (ver : Int))],
           (liftL ver (partLoop (width ver) (netFirst (width ver) ev ep) ep np iL iU left right).2).reverse) := by
  let G (p : List Pfx × List Pfx) := (liftL ver p.1, [((ev : Int), (ep : Int), (ver : Int))], (liftL ver p.2).reverse)
  intro fuel
  induction fuel with
  | zero =>
    intro np iL iU left right h
    rw [cidr_partition_loop1, partLoop, dif_neg (by omega)]
  | succ fuel ih =>
    intro np iL iU left right h
    rw [cidr_partition_loop1, partLoop, dite_eq_ite, net_first ver ev ep hep]
    refine Py.ite_eq (·) G Int.ofNat_le (fun _ => ?_) fun _ => rfl
    -- the model appends to one of the two lists first and then tests `new_prefixlen`; the text
    -- repeats the test in either branch: the reading is over the model's local `r` = (left, right, matched bound)
    refine Py.ite_eq (·) (fun r : List Pfx × List Pfx × Nat =>
        G (if np + 1 > width ver then (r.1, r.2.1)
          else partLoop (width ver) (netFirst (width ver) ev ep) ep (np + 1) r.2.2
            (r.2.2 + 2 ^ (width ver - (np + 1))) r.1 r.2.1))
      Int.ofNat_le (fun _ => ?_) fun _ => ?_
    all_goals
      rw [liftL_concat]
      refine Py.ite_eq (·) G (by omega) (fun _ => rfl) fun _ => ?_
      rw [← Int.natCast_add_one, Py.pow_sub (by omega), ← Int.natCast_add]
      exact ih (np + 1) _ _ _ _ (by omega)

theorem cidr_partition_eq (ver : Nat) (t e : Pfx) (ht : t.plen ≤ width ver) (he : e.plen ≤ width ver) :
    cidr_partition ver (t.val : Int) (t.plen : Int) ver (e.val : Int) (e.plen : Int) =
      (liftL ver (cidrPartition (width ver) t e).1, liftL ver (cidrPartition (width ver) t e).2.1,
       liftL ver (cidrPartition (width ver) t e).2.2) := by
  unfold cidr_partition
  have hc := net_cidr ⟨ver, t.val, t.plen⟩ ht
  simp only [] at hc
  rw [net_last ver e.val e.plen he, net_first ver t.val t.plen ht, net_last ver t.val t.plen ht,
    net_first ver e.val e.plen he, hc]
  let g (p : List Pfx × List Pfx × List Pfx) := (liftL ver p.1, liftL ver p.2.1, liftL ver p.2.2)
  refine Py.ite_eq (·) g Int.ofNat_lt (fun _ => rfl) fun _ => ?_
  refine Py.ite_eq (·) g Int.ofNat_lt (fun _ => rfl) fun _ => ?_
  refine Py.ite_eq (·) g Int.ofNat_le (fun _ => rfl) fun h3 => ?_
  have hlt : t.plen + 1 ≤ width ver := by omega
  simp only [← Int.natCast_add_one, Py.pow_sub hlt, ← Int.natCast_add]
  refine (part_loop ver _ _ e.val e.plen he _ _ (t.plen + 1) _ _ [] [] (by omega)).trans ?_
  exact Prod.ext rfl (Prod.ext rfl (liftL_reverse ver _).symm)

example : cidr_partition 4 0xC0000200 24 4 0xC0000240 28 =
    ([(0xC0000200, 26, 4)], [(0xC0000240, 28, 4)], [(0xC0000250, 28, 4), (0xC0000260, 27, 4), (0xC0000280, 25, 4)]) := by decide

theorem cidr_exclude_eq (ver : Nat) (t e : Pfx) (ht : t.plen ≤ width ver) (he : e.plen ≤ width ver) :
    cidr_exclude ver (t.val : Int) (t.plen : Int) ver (e.val : Int) (e.plen : Int) =
      liftL ver (cidrExclude (width ver) t e) := by
  unfold cidr_exclude cidrExclude
  simp only [cidr_partition_eq ver t e ht he]
  exact (liftL_append ver _ _).symm

example : cidr_exclude 4 0xC0000200 24 4 0xC0000240 28 =
    [(0xC0000200, 26, 4), (0xC0000250, 28, 4), (0xC0000260, 27, 4), (0xC0000280, 25, 4)] := by decide

end NV.Tie
