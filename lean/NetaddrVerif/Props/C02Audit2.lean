/-
Props/C02Audit2.lean — property C02: the `netmask` setter for string and IPNetwork arguments
(Model/NetworkMask.lean: `MaskArg`, `addrOfMaskArg`, `applySetX`, `setterTraceX`).

`n.netmask = x` calls `IPAddress(x)` in default mode (version=None, flags=0;
netaddr/ip/__init__.py:1067-1078).  For a `str` that call IS the C01 model function
`ipAddress be s none 0`, so everything C01 proves about it (BSD shorthand texts, RFC 4291
texts, '/' → ValueError, the rest AddrFormatError) carries over to the setter; an `IPNetwork`
argument goes through the `BaseIP` copy branch.
-/
import NetaddrVerif.Props.C02Setters
import NetaddrVerif.Props.C01b
import NetaddrVerif.Model.NetworkMask
namespace NV.C02A2
open NV NV.Network NV.SetTrace NV.AddrParse NV.NetMask NV.C02 NV.C01L.AtonG

/-! ### on the argument forms of Model/Network.lean the extended setter is the one modelled there -/

theorem applySetX_ofSetOp (be : Backend) (n : Net) (op : SetOp) :
    applySetX be n (.ofSetOp op) = applySet n op := by
  cases op <;> rfl

theorem setterTraceX_ofSetOp (be : Backend) (n : Net) (op : SetOp) :
    setterTraceX be n (.ofSetOp op) = setterTrace n op := by
  cases op <;> rfl

theorem stepSetX_ofSetOp (be : Backend) (n : Net) (op : SetOp) :
    stepSetX be n (.ofSetOp op) = stepSet n op := by
  unfold stepSetX stepSet
  rw [applySetX_ofSetOp]
  cases applySet n op <;> rfl

theorem applySetX_netmask (be : Backend) (n : Net) (x : MaskArg) :
    applySetX be n (.netmask x) = setNetmaskOf n (addrOfMaskArg be x) := rfl

theorem applySetX_str (be : Backend) (n : Net) (s : List Char) :
    applySetX be n (.netmask (.str s)) = setNetmaskOf n (ipAddress be s none 0) := rfl

/-! ### `IPAddress(x)` of a setter argument is a well-formed address -/

/-- the setter calls `IPAddress(value)` with flags 0 -/
theorem default0 : C01b.DefaultMode 0 := ⟨rfl, rfl⟩

theorem aton_lt (s : List Char) (v : Nat) (h : Text4.aton s = some v) : v < 2 ^ 32 :=
  C01L.AtonG.aton_lt h

theorem ipAddress_default_wf (be : Backend) (s : List Char) (a : Addr) (h : ipAddress be s none 0 = .ok a) :
    a.WF :=
  (C01L.Raw.ipAddress_wf be s none 0 a h).1

/-- arguments the harness can build: address and network objects are well-formed -/
def MaskArgWF : MaskArg → Prop
  | .plain x => ArgWF x
  | .str _ => True
  | .net m => m.WF

theorem addrOfMaskArg_wf (be : Backend) (x : MaskArg) (a : Addr) (hx : MaskArgWF x)
    (h : addrOfMaskArg be x = .ok a) : a.WF := by
  cases x with
  | plain y => exact addrOfSetArg_wf y a hx h
  | str s => exact ipAddress_default_wf be s a h
  | net m =>
    simp only [addrOfMaskArg] at h
    cases h
    exact ⟨hx.1, hx.2.1⟩

/-- the error class of a refused `IPAddress(x)`: ValueError only for a string with '/',
    AddrFormatError otherwise -/
theorem addrOfMaskArg_err (be : Backend) (x : MaskArg) (e : Err) (h : addrOfMaskArg be x = .error e) :
    (e = .value ∧ ∃ s, x = .str s ∧ '/' ∈ s) ∨ e = .addrFormat := by
  cases x with
  | plain y => exact Or.inr (addrOfSetArg_err h)
  | str s =>
    rcases ((C01b.default_none_api be s 0 default0).2 e).mp h with ⟨he, hs⟩ | ⟨he, _⟩
    · exact Or.inl ⟨he, s, rfl, hs⟩
    · exact Or.inr he
  | net m => simp [addrOfMaskArg] at h

/-! ### the setter body after `IPAddress(value)` -/

theorem setNetmaskOf_error (n : Net) (e : Err) : setNetmaskOf n (.error e) = .error e := rfl

theorem stepSetX_error {be : Backend} {n : Net} {op : SetOpX} {e : Err} (h : applySetX be n op = .error e) :
    stepSetX be n op = (n, some e) := by
  rw [stepSetX, h]

/-- the body, completely: it succeeds exactly when `IPAddress(value)` returned an address of the
    network's family that is the netmask of some prefix `p ≤ width`, and then the object is `n`
    with prefix length `p` -/
theorem setNetmaskOf_iff (n n' : Net) (r : R Addr) (hwf : ∀ a, r = .ok a → a.WF) :
    setNetmaskOf n r = .ok n' ↔
      ∃ a p, r = .ok a ∧ a.ver = n.ver ∧ p ≤ width n.ver ∧
        a.val = netNetmask (width n.ver) p ∧ n' = { n with plen := p } :=
  setNetmaskOf_accepts n n' r hwf

theorem setNetmaskOf_reject (n : Net) (a : Addr) (ha : a.WF)
    (h : ¬ (a.ver = n.ver ∧ ∃ p, p ≤ width n.ver ∧ a.val = netNetmask (width n.ver) p)) :
    setNetmaskOf n (.ok a) = .error .value := by
  rcases setNetmaskOf_outcome n a ha with he | ⟨p, hv, hp, hm, _⟩
  · exact he
  · exact absurd ⟨hv, p, hp, hm⟩ h

/-! ### the netmask setter, every argument form -/

/-- **The netmask setter, completely, for every argument form** (int, IPAddress, IPNetwork, str,
    junk): `n.netmask = x` succeeds exactly when `IPAddress(x)` exists, is of `n`'s family and is
    the netmask of some prefix `p ≤ width` — and then the object is `n` with prefix length `p`. -/
theorem setNetmaskX_iff (be : Backend) (n n' : Net) (x : MaskArg) (hx : MaskArgWF x) :
    applySetX be n (.netmask x) = .ok n' ↔
      ∃ a p, addrOfMaskArg be x = .ok a ∧ a.ver = n.ver ∧ p ≤ width n.ver ∧
        a.val = netNetmask (width n.ver) p ∧ n' = { n with plen := p } :=
  setNetmaskOf_iff n n' _ (fun a h => addrOfMaskArg_wf be x a hx h)

/-- every other argument is rejected and the object stays as it was: with the error of
    `IPAddress(x)` when that call fails (ValueError for a string with '/', AddrFormatError
    otherwise), with ValueError when the address is of the other family or not a netmask -/
theorem setNetmaskX_rejects (be : Backend) (n : Net) (x : MaskArg) (hx : MaskArgWF x)
    (h : ¬ ∃ a p, addrOfMaskArg be x = .ok a ∧ a.ver = n.ver ∧ p ≤ width n.ver ∧
        a.val = netNetmask (width n.ver) p) :
    ∃ e, applySetX be n (.netmask x) = .error e ∧ stepSetX be n (.netmask x) = (n, some e) ∧
      (∀ e', addrOfMaskArg be x = .error e' → e = e') ∧
      ((∃ a, addrOfMaskArg be x = .ok a) → e = .value) ∧
      (e = .value ∨ e = .addrFormat) := by
  obtain ⟨e, he, h1, h2⟩ := setNetmaskOf_not_accepted n (addrOfMaskArg be x) (fun a ha => addrOfMaskArg_wf be x a hx ha) h
  have hk := (applySetX_netmask be n x).trans he
  refine ⟨e, hk, stepSetX_error hk, h1, h2, ?_⟩
  cases hr : addrOfMaskArg be x with
  | error e' => exact h1 e' hr ▸ (addrOfMaskArg_err be x e' hr).imp_left And.left
  | ok a => exact Or.inl (h2 ⟨a, hr⟩)

/-! ### string arguments -/

/-- **`n.netmask = s` for a string `s`, case by case** (the reading of `s` is C01's: `AtonText` =
    the BSD `inet_aton` texts — 1-4 dot-separated C literals in decimal / octal / hex, the last
    one filling the remaining bytes —, `Rfc4291` = the RFC 4291 IPv6 texts):
    1. a text with '/' anywhere: ValueError;
    2. a text without '/' that is neither an `inet_aton` text nor an RFC 4291 text:
       AddrFormatError;
    3. a text that reads as the value `v` in the network's own family (IPv4: `AtonText s v`,
       IPv6: `Rfc4291 s v`) where `v` is the netmask of the prefix `p ≤ width`: the prefix length
       becomes `p`, nothing else changes;
    4. a readable text of the other family, or of the own family whose value is not a netmask
       (hostmasks that are not netmasks included): ValueError.
    In the three rejecting cases the object is unchanged (`stepSetX`). -/
theorem setNetmask_str (be : Backend) (n : Net) (s : List Char) :
    ('/' ∈ s → applySetX be n (.netmask (.str s)) = .error .value) ∧
    ('/' ∉ s → (¬ ∃ v, AtonText s v) → (¬ ∃ v, C01G.Rfc4291 s v) →
      applySetX be n (.netmask (.str s)) = .error .addrFormat) ∧
    (∀ f v, '/' ∉ s → ((f = 4 ∧ AtonText s v) ∨ (f = 6 ∧ C01G.Rfc4291 s v)) →
      (∀ p, f = n.ver → p ≤ width n.ver → v = netNetmask (width n.ver) p →
        applySetX be n (.netmask (.str s)) = .ok { n with plen := p }) ∧
      (¬ (f = n.ver ∧ ∃ p, p ≤ width n.ver ∧ v = netNetmask (width n.ver) p) →
        applySetX be n (.netmask (.str s)) = .error .value)) ∧
    (∀ e, applySetX be n (.netmask (.str s)) = .error e → stepSetX be n (.netmask (.str s)) = (n, some e)) := by
  have api := C01b.default_none_api be s 0 default0
  refine ⟨?_, ?_, ?_, ?_⟩
  · intro hs
    rw [applySetX_str, (api.2 .value).mpr (Or.inl ⟨rfl, hs⟩), setNetmaskOf_error]
  · intro hs h4 h6
    rw [applySetX_str, (api.2 .addrFormat).mpr (Or.inr ⟨rfl, hs, h4, h6⟩), setNetmaskOf_error]
  · intro f v hs hread
    have hok : ipAddress be s none 0 = .ok ⟨f, v⟩ := (api.1 ⟨f, v⟩).mpr ⟨hs, hread⟩
    have hwf := ipAddress_default_wf be s _ hok
    constructor
    · intro p hf hp hv
      rw [applySetX_str, hok]
      exact setNetmaskOf_mask n ⟨f, v⟩ p hf hp hv
    · intro hno
      rw [applySetX_str, hok]
      exact setNetmaskOf_reject n ⟨f, v⟩ hwf hno
  · exact fun e he => stepSetX_error he

/-- **Every prefix, printed**: for every prefix `p` in `0..width`, the netmask of `p` printed the
    way `str(IPAddress)` prints it (dotted quad; compact IPv6) and assigned as a string sets the
    prefix length to `p` -/
theorem setNetmask_str_printed (be : Backend) (n : Net) (hn : n.ver = 4 ∨ n.ver = 6) (p : Nat)
    (hp : p ≤ width n.ver) :
    applySetX be n (.netmask (.str (intToStr be n.ver (netNetmask (width n.ver) p)))) = .ok { n with plen := p } := by
  have hlt : netNetmask (width n.ver) p < 2 ^ width n.ver := netNetmask_lt _ p
  have hok : ipAddress be (intToStr be n.ver (netNetmask (width n.ver) p)) none 0 = .ok ⟨n.ver, netNetmask (width n.ver) p⟩ := by
    rcases hn with e | e
    · rw [e] at hlt ⊢
      have := C01.roundtrip4 be _ hlt none (Or.inl rfl) 0 (by decide)
      simpa [intToStr] using this
    · rw [e] at hlt ⊢
      have := C01.roundtrip6 be .compact _ hlt none (Or.inl rfl) 0
      simpa [intToStr] using this
  rw [applySetX_str, hok]
  exact setNetmaskOf_mask n ⟨n.ver, netNetmask (width n.ver) p⟩ p rfl hp rfl

/-- **BSD shorthand masks**: any `inet_aton` spelling (`AtonG.Body`: '0xffff0000', '0377.0377.0.0',
    '255.255.0', '4294901760', …) of the IPv4 netmask of `p`, assigned to an IPv4 network, sets
    the prefix length to `p`; the same spelling assigned to an IPv6 network is a ValueError, and
    a shorthand whose value is not a netmask ('255.255' = 255.0.0.255) is a ValueError. -/
theorem setNetmask_str_shorthand (be : Backend) (n : Net) (body : List Char) (v : Nat) (hb : Body body v) :
    (∀ p, n.ver = 4 → p ≤ 32 → v = netNetmask 32 p →
      applySetX be n (.netmask (.str body)) = .ok { n with plen := p }) ∧
    (n.ver ≠ 4 → applySetX be n (.netmask (.str body)) = .error .value) ∧
    ((¬ ∃ p, p ≤ 32 ∧ v = netNetmask 32 p) → applySetX be n (.netmask (.str body)) = .error .value) := by
  have hs : '/' ∉ body := C01b.body_not_mem body v hb _ (by decide) (by decide) (by decide) (by decide)
  have ht := C01b.atonText_of_body body v hb
  obtain ⟨_, _, h3, _⟩ := setNetmask_str be n body
  obtain ⟨hacc, hrej⟩ := h3 4 v hs (Or.inl ⟨rfl, ht⟩)
  have w4 : width 4 = 32 := by decide
  refine ⟨?_, ?_, ?_⟩
  · intro p hv hp hm
    apply hacc p hv.symm
    · rw [hv, w4]; exact hp
    · rw [hv, w4]; exact hm
  · intro hv
    apply hrej
    rintro ⟨e, _⟩
    exact hv e.symm
  · intro hno
    apply hrej
    rintro ⟨e, p, hp, hm⟩
    rw [← e, w4] at hp hm
    exact hno ⟨p, hp, hm⟩

/-- the hypotheses are satisfiable: '0xffff0000' is a one-part hex literal of the /16 netmask -/
example : Body "0xffff0000".toList 0xffff0000 := by
  rw [String.toList_ofList]
  exact Body.one _ _ (C01L.IsCLit.hex 'x' ['f', 'f', 'f', 'f', '0', '0', '0', '0'] (Or.inl rfl) (by decide)
    (by decide)) (by decide)
example : netNetmask 32 16 = 0xffff0000 := by decide

local instance decEqRNet : DecidableEq (R Net) := fun a b =>
  match a, b with
  | .ok x, .ok y => if h : x = y then isTrue (by rw [h]) else isFalse (by intro e; injection e with e; exact h e)
  | .error x, .error y => if h : x = y then isTrue (by rw [h]) else isFalse (by intro e; injection e with e; exact h e)
  | .ok _, .error _ => isFalse (by intro e; cases e)
  | .error _, .ok _ => isFalse (by intro e; cases e)

example : applySetX .platform ⟨4, 0x0A000000, 8⟩ (.netmask (.str "255.255.0.0".toList)) = .ok ⟨4, 0x0A000000, 16⟩ := by
  decide_lit
example : applySetX .platform ⟨4, 0x0A000000, 8⟩ (.netmask (.str "0xffff0000".toList)) = .ok ⟨4, 0x0A000000, 16⟩ := by
  decide_lit
example : applySetX .platform ⟨4, 0x0A000000, 8⟩ (.netmask (.str "255.255".toList)) = .error .value := by
  decide_lit
example : applySetX .platform ⟨4, 0x0A000000, 8⟩ (.netmask (.str "a/b".toList)) = .error .value := by decide_lit
example : applySetX .platform ⟨4, 0x0A000000, 8⟩ (.netmask (.str "bad".toList)) = .error .addrFormat := by
  decide_lit
example : applySetX .fallback ⟨6, 1, 128⟩ (.netmask (.str "ffff::".toList)) = .ok ⟨6, 1, 16⟩ := by decide_lit
example : applySetX .platform ⟨4, 0x0A000000, 8⟩ (.netmask (.str "ffff::".toList)) = .error .value := by
  decide_lit

/-! ### IPNetwork arguments -/

/-- **`n.netmask = m` for an `IPNetwork` object `m`** (the `BaseIP` copy branch of
    `IPAddress(m)`): only `m`'s family and stored value count, its prefix length is ignored —
    accepted exactly when `m` is of `n`'s family and `m.value` is the netmask of some `p`,
    ValueError otherwise (never AddrFormatError). -/
theorem setNetmask_net (be : Backend) (n m : Net) (hm : m.WF) :
    (∀ p, m.ver = n.ver → p ≤ width n.ver → m.val = netNetmask (width n.ver) p →
      applySetX be n (.netmask (.net m)) = .ok { n with plen := p }) ∧
    (¬ (m.ver = n.ver ∧ ∃ p, p ≤ width n.ver ∧ m.val = netNetmask (width n.ver) p) →
      applySetX be n (.netmask (.net m)) = .error .value) ∧
    (∀ q, applySetX be n (.netmask (.net { m with plen := q })) = applySetX be n (.netmask (.net m))) := by
  refine ⟨?_, ?_, fun _ => rfl⟩
  · intro p hv hp hval
    exact setNetmaskOf_mask n ⟨m.ver, m.val⟩ p hv hp hval
  · intro hno
    exact setNetmaskOf_reject n ⟨m.ver, m.val⟩ ⟨hm.1, hm.2.1⟩ hno

example : applySetX .platform ⟨4, 0x0A000000, 8⟩ (.netmask (.net ⟨4, 0xffff0000, 3⟩)) = .ok ⟨4, 0x0A000000, 16⟩ := by
  decide +kernel
example : applySetX .platform ⟨4, 0x0A000000, 8⟩ (.netmask (.net ⟨6, 0xffff0000, 3⟩)) = .error .value := by
  decide +kernel

/-! ### order of statements -/

/-- The statement-by-statement bodies of the extended setters agree with the functional model: a
    rejected assignment — string and network arguments included — ends with the same error, the
    object as it was and an EMPTY store log; an accepted one made exactly one store. -/
theorem setterTraceX_eq (be : Backend) (n : Net) (op : SetOpX) :
    setterTraceX be n op =
      match applySetX be n op with
      | .error e => (.error e, ⟨n, []⟩)
      | .ok n' => (.ok (), ⟨n', [match op with
          | .value _ => .storeValue n'.val
          | _ => .storePrefixlen n'.plen]⟩) := by
  cases op with
  | value x => exact setterTrace_eq n (.value x)
  | prefixlen x => exact setterTrace_eq n (.prefixlen x)
  | netmask x => exact setNetmaskOfT_run n (addrOfMaskArg be x)

theorem no_store_before_raiseX (be : Backend) (n : Net) (op : SetOpX) (e : Err) (s : St)
    (h : setterTraceX be n op = (.error e, s)) : s.log = [] ∧ s.obj = n ∧ applySetX be n op = .error e :=
  raise_of_run (setterTraceX_eq be n op ▸ h)

example : setterTraceX .platform ⟨4, 5, 24⟩ (.netmask (.str "255.255".toList)) = (.error .value, ⟨⟨4, 5, 24⟩, []⟩) := by
  decide_lit
example : setterTraceX .platform ⟨4, 5, 24⟩ (.netmask (.str "0xffff0000".toList)) =
    (.ok (), ⟨⟨4, 5, 16⟩, [.storePrefixlen 16]⟩) := by
  decide_lit

end NV.C02A2
