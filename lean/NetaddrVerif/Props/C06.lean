/-
Props/C06.lean — property C06 "IPSet is canonical after any history, so equality is
extensional".  The property theorems; the lemmas are in Lemmas/IPSet*, CanonSetL, and of MergeUp
the facts about the sibling of a block (not its loop `mergeUp`).

Statement (properties.jsonl): after any sequence of constructions and mutations the content
an IPSet shows is the unique minimal, sorted, host-bit-free CIDR list of exactly the
addresses that history denotes; two IPSets compare equal iff they contain the same addresses.

Vocabulary: `IPSet.Inv s` — every stored key is in range and host-bit-free, keys are pairwise
distinct, and per family the stored blocks are aligned, pairwise disjoint and no two can be
combined (`CanonSet`).  `denS s ver a` — address `a` of family `ver` is denoted by `s`.
`canonset_ext` (Lemmas/CanonSetL) is the uniqueness theorem: two such block sets with the
same denotation have the same members.
-/
import NetaddrVerif.Lemmas.Minimal
import NetaddrVerif.Lemmas.IPSetHistory
import NetaddrVerif.Lemmas.IPSetIterAddrs
import NetaddrVerif.Lemmas.IPSetReprInj
namespace NV.C06
open NV NV.IPSet

/-- the empty set satisfies the invariant (`IPSet()`, `clear()`) -/
theorem inv_empty : Inv ([] : St) ∧ ∀ ver a, ¬ denS [] ver a := ⟨inv_nil, denS_nil⟩

/-- `add(addr)` for any network / address / int / string argument (the harness hands the
    model the network `IPNetwork(addr)`, host bits included): the state stays canonical and
    denotes exactly the old addresses plus the block of the argument.  This covers the whole
    incremental compaction `_compact_single_network`: supernet walk (for /width), the
    subnet/supernet scan, removal of absorbed blocks and the sibling-merge loop with its
    prefix decrement and host-bit clearing. -/
theorem add_net_spec (s : St) (hs : Inv s) (n : Net) (hn : n.WF) :
    Inv (addNet s n) ∧
    ∀ ver a, denS (addNet s n) ver a ↔ denS s ver a ∨ (ver = n.ver ∧ n.first ≤ a ∧ a ≤ n.last) :=
  (IPSet.add_spec s hs (.net n) hn).congr fun ver a => by rw [argDen_net]

/-- any sequence of `add` calls from the empty set: canonical at every point, and the
    denotation is the union of the arguments (induction over the history) -/
theorem add_history (ns : List Net) (hns : ∀ n ∈ ns, n.WF) :
    Inv (ns.foldl addNet []) ∧
    ∀ ver a, denS (ns.foldl addNet []) ver a ↔ ∃ n ∈ ns, ver = n.ver ∧ n.first ≤ a ∧ a ≤ n.last := by
  suffices h : ∀ (s : St), Inv s →
      Inv (ns.foldl addNet s) ∧ ∀ ver a, denS (ns.foldl addNet s) ver a ↔
        denS s ver a ∨ ∃ n ∈ ns, ver = n.ver ∧ n.first ≤ a ∧ a ≤ n.last by
    obtain ⟨h1, h2⟩ := h [] inv_nil
    exact ⟨h1, fun ver a => by rw [h2 ver a, or_iff_right (denS_nil ver a)]⟩
  induction ns with
  | nil => intro s hs; exact ⟨hs, fun ver a => by simp⟩
  | cons n ns ih =>
    intro s hs
    obtain ⟨h1, h2⟩ := add_net_spec s hs n (hns n (List.mem_cons_self ..))
    obtain ⟨h3, h4⟩ := ih (fun m hm => hns m (List.mem_cons_of_mem _ hm)) (addNet s n) h1
    refine ⟨h3, fun ver a => ?_⟩
    rw [List.foldl_cons, h4 ver a, h2 ver a]
    simp only [List.mem_cons, exists_eq_or_imp, or_assoc]

/-- Equality is extensional: two sets satisfying the invariant compare equal (dict equality on
    keys) iff they denote the same addresses, no matter how each was built. -/
theorem eq_iff (s t : St) (hs : Inv s) (ht : Inv t) :
    IPSet.eq s t = true ↔ ∀ ver a, denS s ver a ↔ denS t ver a := by
  rw [eq_iff_mem s t hs ht]
  constructor
  · intro h ver a; exact denS_of_mem h ver a
  · intro h n; exact mem_iff_of_den s t hs ht h n

/-- The stored keys are determined by the denoted addresses alone: the representation is
    unique, whatever history produced it. -/
theorem keys_unique (s t : St) (hs : Inv s) (ht : Inv t) (h : ∀ ver a, denS s ver a ↔ denS t ver a)
    (n : Net) : n ∈ s ↔ n ∈ t := mem_iff_of_den s t hs ht h n

/-- `iter_cidrs()` shows exactly the stored keys, hence host-bit-free and in range
    (`shown_hostbit_free`). -/
theorem shown_mem (s : St) (n : Net) : n ∈ iterCidrs s ↔ n ∈ s := mem_iterCidrs s n

theorem shown_hostbit_free (s : St) (hs : Inv s) (n : Net) (hn : n ∈ iterCidrs s) :
    n.val = n.first ∧ n.WF := by
  have := hs.good n ((shown_mem s n).1 hn); exact ⟨this.2, this.1⟩

/-- What `iter_cidrs()` / `repr()` / iteration show: placing the IPv6 space after the IPv4
    space on one number line (`lin`), the shown list is `Canon`: ascending by address with
    IPv4 before IPv6, every block aligned, pairwise disjoint, and no two combinable. -/
theorem shown_canonical (s : St) (hs : Inv s) : Canon ((iterCidrs s).map lin) := canon_shown s hs

/-- ... it is the unique such list: it is determined by the denoted addresses alone, so two
    histories that denote the same addresses show exactly the same list -/
theorem shown_unique (s t : St) (hs : Inv s) (ht : Inv t) (h : ∀ ver a, denS s ver a ↔ denS t ver a) :
    iterCidrs s = iterCidrs t := NV.IPSet.shown_unique s t hs ht h

/-- ... and minimal: no list of networks denoting the same addresses is shorter -/
theorem shown_minimal (s : St) (hs : Inv s) (l : List Net) (hl : ∀ n ∈ l, n.WF)
    (h : ∀ ver a, denS l ver a ↔ denS s ver a) : (iterCidrs s).length ≤ l.length := by
  have := canon_minimal ((iterCidrs s).map lin) (l.map lin) (canon_shown s hs)
    (by intro c hc; obtain ⟨n, hn, rfl⟩ := List.mem_map.1 hc; exact lin_aligned n (hl n hn))
    (fun x => (den_lin_congr l s hl hs.wf h x).trans (den_shown s x).symm)
  simpa using this

/-- `pop()` removes exactly the block it returns and keeps the set canonical -/
theorem pop_spec (s : St) (hs : Inv s) (b : Net) (hb : b ∈ s) :
    ∃ s', pop s b = .ok s' ∧ Inv s' ∧
      ∀ ver a, denS s' ver a ↔ denS s ver a ∧ ¬ (ver = b.ver ∧ b.first ≤ a ∧ a ≤ b.last) := by
  obtain ⟨s', h1, h2⟩ := NV.IPSet.pop_spec s hs b hb
  exact ⟨s', h1, h2.congr fun ver a => by rw [argDen_net]⟩

/-! From here to `remove_spec`: clauses of the property under the names the documents cite; each is the lemma of
    Lemmas/IPSet* with the same statement (there written `Holds state D`, here spelled out). -/

/-- `copy()` / pickling / `copy.copy` / `deepcopy` give the same keys -/
theorem copy_spec (s : St) (hs : Inv s) : Inv (copy s) ∧ (∀ n, n ∈ copy s ↔ n ∈ s) := NV.IPSet.copy_spec s hs

/-- `compact()` re-canonicalises ANY state of in-range keys and keeps its addresses -/
theorem compact_spec (s : St) (hg : ∀ n ∈ s, n.WF) :
    Inv (compact s) ∧ ∀ u a, denS (compact s) u a ↔ denS s u a := NV.IPSet.compact_spec s hg

/-- constructors: `IPSet(iterable)`, `IPSet(IPNetwork)`, `IPSet(IPRange)`, `IPSet(IPSet)` -/
theorem new_list_spec (xs : List Arg) (hx : ∀ x ∈ xs, ArgOK x) :
    Inv (newOfList xs) ∧ ∀ u a, denS (newOfList xs) u a ↔ argsDen xs u a := newOfList_spec xs hx
theorem new_net_spec (n : Net) (h : n.WF) :
    Inv (newOfNet n) ∧ ∀ u a, denS (newOfNet n) u a ↔ argDen (.net n) u a := newOfNet_spec n h
theorem new_range_spec (r : Rng) (h : ArgOK (.rng r)) :
    Inv (newOfRange r) ∧ ∀ u a, denS (newOfRange r) u a ↔ argDen (.rng r) u a := newOfRange_spec r h
theorem new_set_spec (t : St) (ht : Inv t) : Inv (newOfSet t) ∧ ∀ n, n ∈ newOfSet t ↔ n ∈ t :=
  newOfSet_spec t ht

/-- `add(IPRange)` and both forms of `update`; they end in `compact()`, so the old state need not be canonical -/
theorem add_range_spec (s : St) (hs : ∀ n ∈ s, Good n) (r : Rng) (h : ArgOK (.rng r)) :
    Inv (addRange s r) ∧ ∀ u a, denS (addRange s r) u a ↔ denS s u a ∨ argDen (.rng r) u a :=
  addRange_spec s hs r h
theorem update_set_spec (s t : St) (hs : ∀ n ∈ s, n.WF) (ht : ∀ n ∈ t, n.WF) :
    Inv (updateSet s t) ∧ ∀ u a, denS (updateSet s t) u a ↔ denS s u a ∨ denS t u a :=
  updateSet_spec s t hs ht
theorem update_list_spec (s : St) (hs : ∀ n ∈ s, Good n) (xs : List Arg) (hx : ∀ x ∈ xs, ArgOK x) :
    Inv (updateList s xs) ∧ ∀ u a, denS (updateList s xs) u a ↔ denS s u a ∨ argsDen xs u a :=
  updateList_spec s hs xs hx

/-- `remove(x)` for every argument form: canonical again, old addresses minus the argument -/
theorem remove_spec (s : St) (hs : Inv s) (x : Arg) (hx : ArgOK x) :
    Inv (remove s x) ∧ ∀ u a, denS (remove s x) u a ↔ denS s u a ∧ ¬ argDen x u a :=
  NV.IPSet.remove_spec s hs x hx

/-- Every reachable state: after ANY finite history over any number of live sets —
    constructors from a network / range / set / list, `add`, `remove`, both `update` forms, `clear`,
    `pop`, `compact`, `copy`/pickling, and the results of all four binary operators `|`, `&`,
    `-`, `^` — every live set is canonical (`Inv`) and denotes exactly the (version, address)
    pairs that plain set theory assigns to that history (`specStep`, `combine`; for `pop`, set theory is told which
    block the implementation returned and whether it was stored).
    `Op.OK` only demands well-formed arguments (in-range networks, `lo ≤ hi` ranges inside
    their family, a host-bit-free block for the value `pop` returned); no operation is excluded. -/
theorem reachable (ops : List Op) (hok : ∀ op ∈ ops, op.OK) :
    ∀ i, Inv (getSet (runOps ops) i) ∧
      ∀ u a, denS (getSet (runOps ops) i) u a ↔ (runBoth ops).2 i u a := by
  have := history_rel ops hok
  rw [runBoth_fst] at this
  exact this

/-- consequently, two sets reached by any two histories compare equal iff the
    histories denote the same addresses, and then they show the same list -/
theorem reachable_eq_iff (ops₁ ops₂ : List Op) (h₁ : ∀ op ∈ ops₁, op.OK) (h₂ : ∀ op ∈ ops₂, op.OK) (i j : Nat) :
    IPSet.eq (getSet (runOps ops₁) i) (getSet (runOps ops₂) j) = true ↔
      ∀ u a, (runBoth ops₁).2 i u a ↔ (runBoth ops₂).2 j u a := by
  obtain ⟨i1, d1⟩ := reachable ops₁ h₁ i
  obtain ⟨i2, d2⟩ := reachable ops₂ h₂ j
  rw [eq_iff _ _ i1 i2]
  constructor
  · intro h u a; rw [← d1 u a, ← d2 u a]; exact h u a
  · intro h u a; rw [d1 u a, d2 u a]; exact h u a

example : (Op.add 0 (.net ⟨4, 0x0a000005, 24⟩)).OK := by simp [Op.OK, ArgOK, Net.WF, width]
example : (Op.bin 2 0 1 .sub).OK ∧ (Op.bin 2 0 1 .xor).OK := ⟨trivial, trivial⟩
example : ∀ op ∈ [Op.newNet 0 ⟨4, 0x0a000005, 24⟩, Op.newRng 1 ⟨6, 1, 77⟩, Op.bin 2 0 1 .xor, Op.bin 3 2 0 .sub],
    op.OK := by simp [Op.OK, ArgOK, Net.WF, width]

/-! ### `!=`, `repr()`, and iteration as observations of the same canonical content -/

/-- `!=` is the negation of `==` (dict inequality), for any two states -/
theorem ne_iff_not_eq (s t : St) : IPSet.ne s t = true ↔ ¬ (IPSet.eq s t = true) := by
  unfold IPSet.ne; cases IPSet.eq s t <;> simp

/-- hence `!=` is extensional too: True exactly when the two sets differ in some address -/
theorem ne_iff (s t : St) (hs : Inv s) (ht : Inv t) :
    IPSet.ne s t = true ↔ ¬ ∀ ver a, denS s ver a ↔ denS t ver a := by
  rw [ne_iff_not_eq, eq_iff s t hs ht]

/-- `repr()` lists, at value level, exactly what `iter_cidrs()` returns (both are
    `sorted(self._cidrs)`), so `shown_canonical` / `shown_unique` / `shown_minimal` /
    `shown_hostbit_free` speak about `repr()` as well -/
theorem repr_shows (s : St) : reprSet s = iterCidrs s := rfl

/-- the CIDR strings inside `repr()` are C03's `str()` of those blocks, in that order -/
theorem repr_strs (be : AddrParse.Backend) (s : St) :
    reprStrs be s = (iterCidrs s).map (NetParse.netStr be) := rfl

/-- Same `repr()` iff equal: for canonical sets the list of CIDR strings that `repr()` prints
    (either back end of the address printer) coincides exactly when the sets compare equal, i.e.
    exactly when they contain the same addresses.  `str()` is injective on in-range networks by
    C03's round trip `IPNetwork(str(n)) = n`. -/
theorem repr_eq_iff (be : AddrParse.Backend) (s t : St) (hs : Inv s) (ht : Inv t) :
    (reprStrs be s = reprStrs be t ↔ IPSet.eq s t = true) ∧
    (reprStrs be s = reprStrs be t ↔ ∀ ver a, denS s ver a ↔ denS t ver a) := by
  have h : reprStrs be s = reprStrs be t ↔ IPSet.eq s t = true := by
    rw [← Iter.reprSet_eq_iff s t hs ht]
    constructor
    · exact Iter.reprStrs_inj be s t hs.wf ht.wf
    · intro e; unfold reprStrs; rw [e]
  exact ⟨h, h.trans (eq_iff s t hs ht)⟩

/-- the full text `IPSet(['…', '…'])` is a function of that list, so equal sets print the same text -/
theorem repr_text_of_eq (be : AddrParse.Backend) (s t : St) (hs : Inv s) (ht : Inv t)
    (h : IPSet.eq s t = true) : reprText be s = reprText be t := by
  unfold reprText; rw [((repr_eq_iff be s t hs ht).1).2 h]

/-- Same `repr()` text iff equal: the complete text `IPSet(['a/p', 'b/q', …])` of two
    canonical sets coincides exactly when they compare equal, i.e. contain the same addresses.
    Besides C03's round trip this uses that a printed network consists of hex digits, `.`, `:`
    and `/` only (`Iter.netStr_cidrCh`), so the quoted, comma-separated rendering can be split
    back unambiguously (`Iter.reprText_inj`). -/
theorem repr_text_eq_iff (be : AddrParse.Backend) (s t : St) (hs : Inv s) (ht : Inv t) :
    (reprText be s = reprText be t ↔ IPSet.eq s t = true) ∧
    (reprText be s = reprText be t ↔ ∀ ver a, denS s ver a ↔ denS t ver a) := by
  have h : reprText be s = reprText be t ↔ IPSet.eq s t = true := by
    constructor
    · intro e
      exact ((repr_eq_iff be s t hs ht).1).1
        (Iter.reprText_inj be s t hs.wf ht.wf e)
    · exact repr_text_of_eq be s t hs ht
  exact ⟨h, h.trans (eq_iff s t hs ht)⟩

/-- two histories denote the same addresses iff their results print the same CIDR strings -/
theorem reachable_repr_iff (be : AddrParse.Backend) (ops₁ ops₂ : List Op)
    (h₁ : ∀ op ∈ ops₁, op.OK) (h₂ : ∀ op ∈ ops₂, op.OK) (i j : Nat) :
    reprStrs be (getSet (runOps ops₁) i) = reprStrs be (getSet (runOps ops₂) j) ↔
      ∀ u a, (runBoth ops₁).2 i u a ↔ (runBoth ops₂).2 j u a := by
  rw [(repr_eq_iff be _ _ (reachable ops₁ h₁ i).1 (reachable ops₂ h₂ j).1).1]
  exact reachable_eq_iff ops₁ ops₂ h₁ h₂ i j

/-- iteration enumerates the shown list block by block, each block from its first to its last
    address; with `C07.iter_addrs_spec` this is the ascending duplicate-free enumeration of the
    denoted addresses, and it is the same for any two sets with the same addresses -/
theorem iter_shows (s : St) : iterAddrs s = (iterCidrs s).flatMap netAddrs := rfl

theorem iter_unique (s t : St) (hs : Inv s) (ht : Inv t) (h : ∀ ver a, denS s ver a ↔ denS t ver a) :
    iterAddrs s = iterAddrs t := by
  unfold iterAddrs; rw [shown_unique s t hs ht h]

/-- the hypotheses are satisfiable: two canonical sets (one of them holding both families) -/
example : Inv (newOfNet ⟨4, 0x0a000005, 24⟩) ∧ Inv (addNet (newOfNet ⟨4, 0x0a000005, 24⟩) ⟨6, 1, 128⟩) := by
  have h1 := (new_net_spec ⟨4, 0x0a000005, 24⟩ (by simp [Net.WF, width])).1
  exact ⟨h1, (add_net_spec _ h1 ⟨6, 1, 128⟩ (by simp [Net.WF, width])).1⟩
example : String.ofList (reprText .platform (addNet (newOfNet ⟨4, 0x0a000005, 24⟩) ⟨6, 1, 128⟩)) =
    "IPSet(['10.0.0.0/24', '::1/128'])" := by
  have e : addNet (newOfNet ⟨4, 0x0a000005, 24⟩) ⟨6, 1, 128⟩ = [⟨4, 0x0a000000, 24⟩, ⟨6, 1, 128⟩] := by decide +kernel
  rw [e]; unfold reprText reprStrs reprSet
  rw [show sortNets [⟨4, 0x0a000000, 24⟩, ⟨6, 1, 128⟩] = [⟨4, 0x0a000000, 24⟩, ⟨6, 1, 128⟩] from
    iterCidrs_sorted _ (by decide +kernel)]
  decide +kernel

/-- instances: a set and the same set built in another order print the same; a different set does not -/
example : reprStrs .platform [⟨4, 0x0a000000, 24⟩, ⟨6, 1, 128⟩] = reprStrs .platform [⟨6, 1, 128⟩, ⟨4, 0x0a000000, 24⟩] := by
  unfold reprStrs reprSet
  rw [NV.sortNets_perm_eq _ _ (List.Perm.swap ..)]
example : IPSet.ne [⟨4, 0x0a000000, 24⟩] [⟨4, 0x0a000000, 25⟩] = true := by decide +kernel
example : IPSet.ne [⟨4, 0x0a000000, 24⟩, ⟨6, 1, 128⟩] [⟨6, 1, 128⟩, ⟨4, 0x0a000000, 24⟩] = false := by decide +kernel

/-! ### non-vacuity -/
example : (⟨4, 0x0a000005, 24⟩ : Net).WF := by simp [Net.WF, width]
example : addNet [] ⟨4, 0x0a000005, 24⟩ = [⟨4, 0x0a000000, 24⟩] := by decide +kernel
example : addNet (addNet [] ⟨4, 0x0a000000, 25⟩) ⟨4, 0x0a000080, 25⟩ = [⟨4, 0x0a000000, 24⟩] := by decide +kernel

end NV.C06
