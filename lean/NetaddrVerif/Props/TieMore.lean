/-
Props/TieMore.lean — translation tie for the small attributes: family predicates, comparison keys, integer
views, range bounds, the setters (`value`, `prefixlen`) and `len()` — each translated from the
current source text (`Gen/Trans.lean`) and proved equal to the hand-written model function, except
`IPAddress.value = i`, for which the model has no function: `addr_set_value` equates the text with
the range test written out.
-/
import NetaddrVerif.Gen.Trans
import NetaddrVerif.Lemmas.TieL
import NetaddrVerif.Model.Convert
import NetaddrVerif.Model.Compare
import NetaddrVerif.Model.Address
import NetaddrVerif.Model.ListLike
import NetaddrVerif.Props.Tie
namespace NV.Tie
open NV NV.Trans

theorem is_ipv4_mapped (ver v : Nat) : BaseIP_is_ipv4_mapped ver (v : Int) = Convert.isIpv4Mapped ver v := by
  simp only [tie_unfold]
  exact Py.dec_ver_and ver (v >>> 32) 65535

theorem is_ipv4_compat (ver v : Nat) : BaseIP_is_ipv4_compat ver (v : Int) = Convert.isIpv4Compat ver v := by
  simp only [tie_unfold]
  exact Py.dec_ver_and ver (v >>> 32) 0

theorem addr_key (a : Addr) : (let t := IPAddress_key a.ver a.val; [t.1, t.2]) = a.key := by
  simp only [tie_unfold, Addr.key]

theorem addr_sort_key (a : Addr) : (let t := IPAddress_sort_key a.ver a.val; [t.1, t.2.1, t.2.2]) = a.sortKey := by
  simp only [tie_unfold, Addr.sortKey]

theorem addr_int (a : Addr) : IPAddress_int a.ver a.val = (Address.toInt a : Nat) := by
  simp only [tie_unfold, Address.toInt]

theorem addr_index (a : Addr) : IPAddress_index a.ver a.val = (Address.index a : Nat) := by
  simp only [tie_unfold, Address.index]

theorem rng_first (r : Rng) : IPRange_first r.ver r.lo r.hi = (r.lo : Int) := by
  simp only [tie_unfold]

theorem rng_last (r : Rng) : IPRange_last r.ver r.lo r.hi = (r.hi : Int) := by
  simp only [tie_unfold]

theorem rng_key (r : Rng) : (let t := IPRange_key r.ver r.lo r.hi; [t.1, t.2.1, t.2.2]) = r.key := by
  simp only [tie_unfold, Rng.key]

theorem net_key (n : Net) (hp : n.plen ≤ width n.ver) :
    (let t := IPNetwork_key n.ver n.val n.plen; [t.1, t.2.1, t.2.2]) = n.key := by
  simp only [tie_unfold, Py.hostmask_cast hp]
  rfl

/-- `ip.value = i` with an int `i`; no model function stands on the right, only the range test -/
theorem addr_set_value (a : Addr) (i : Int) :
    IPAddress_set_value a.ver a.val i =
      if 0 ≤ i ∧ i ≤ ((maxInt a.ver : Nat) : Int) then .ok i else .error .addrFormat := by
  simp only [tie_unfold, ite_not]

theorem net_set_value (n : Net) (i : Int) :
    IPNetwork_set_value n.ver n.val n.plen i = (setValue n (.int i)).map (fun r => ((r.val : Int), (r.plen : Int))) := by
  simp only [tie_unfold, ite_not, setValue]
  exact Py.ite_eq (·) (Except.map _) Iff.rfl
    (fun h => congrArg (fun x => Except.ok (x, _)) (Int.toNat_of_nonneg h.1).symm) fun _ => rfl

theorem net_set_prefixlen (n : Net) (i : Int) :
    IPNetwork_set_prefixlen n.ver n.val n.plen i = (setPrefixlen n (.int i)).map (fun r => ((r.val : Int), (r.plen : Int))) := by
  simp only [tie_unfold, ite_not, setPrefixlen]
  exact Py.ite_eq (·) (Except.map _) Iff.rfl
    (fun h => congrArg (fun x => Except.ok (_, x)) (Int.toNat_of_nonneg h.1).symm) fun _ => rfl

/-! `len()`: `sys.maxsize` is a parameter, as in `ListLike.len`. -/

theorem rng_size (r : Rng) : IPRange_size r.ver r.lo r.hi = ListLike.size (ListLike.ofRng r) := by
  simp only [tie_unfold, ListLike.size, ListLike.ofRng]

theorem rng_len (r : Rng) (maxsize : Nat) :
    IPRange_len r.ver r.lo r.hi (maxsize : Int) = ListLike.len maxsize (ListLike.ofRng r) := by
  have h := rng_size r
  simp only [IPRange_len, h, ListLike.len]

theorem net_len (n : Net) (maxsize : Nat) (hp : n.plen ≤ width n.ver) :
    IPNetwork_len n.ver n.val n.plen (maxsize : Int) = ListLike.len maxsize (ListLike.ofNet n) := by
  have h1 := net_first n.ver n.val n.plen hp
  have h2 := net_last n.ver n.val n.plen hp
  simp only [IPNetwork_len, IPNetwork_size, h1, h2, ListLike.len, ListLike.size, ListLike.ofNet, Net.first, Net.last]
  rfl

example : BaseIP_is_ipv4_mapped 6 0xffff01020304 = true ∧ BaseIP_is_ipv4_compat 6 0xffff01020304 = false ∧
    IPNetwork_set_prefixlen 4 5 24 33 = .error .addrFormat ∧ IPNetwork_set_prefixlen 4 5 24 32 = .ok (5, 32) := by decide

end NV.Tie
