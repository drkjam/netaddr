/-
Props/C19.lean — IANA and IEEE registry lookups are exact with respect to the shipped data.

properties.jsonl C19: for every address, `.info` returns exactly the IANA records whose published
block or range contains it (IPv4 space; IPv6 space; IPv6 unicast; multicast only for multicast
addresses); for every IEEE identifier the shipped index and registry agree (registered iff the
index has rows, each row's byte range is exactly the record, lookups return the organisation and
address lines of that record); index rows produced by netaddr's own parsers from any well-formed
registry text delimit every record exactly.

What is proved here (about the definitions the driver executes, `Model/Registry.lean`):
  * `query_exact`, `query_piecewise_const`            — the lookup, for every table and address;
  * `index_delimits_oui/_iab`, `index_rows_oui/_iab`, `index_no_record`, `oui_recKey`, `iab_recKey`,
    `iab_second_base16`, `specRows_total`              — the index parsers on every well-formed text;
  * `index_any_file`, `index_any_file_slices`         — on EVERY byte string the result is `specRows` of the file's
    one reading as header + records: the specified rows if every record's key can be computed, else the
    error of the first that cannot; no record = AttributeError;
  * `oui_key(_canonical)`, `iab_key(_canonical)`      — which identifier a row carries;
  * `parseLines_ok`, `parseLines_ok_iff`, `parseLines_err`, `registered_iff`, `lookup_spec`,
    `lookup_through_index_oui/_iab`
                                                        — record retrieval through the index.
What is data and tied by the harness only: the contents of the XML / idx / txt files, the SAX
loader and its normalisers, UTF-8 decoding, `csv`.
-/
import NetaddrVerif.Model.Registry
import NetaddrVerif.Lemmas.C19LLoad
import NetaddrVerif.Lemmas.C04L
import NetaddrVerif.Lemmas.StrLit
import NetaddrVerif.Gen.Iana
namespace NV.C19
open NV NV.Registry

/-! ## IANA lookup -/

/-- first address of the published block / range of a key (independent of netaddr's bit tricks) -/
def Key.first : Key → Nat
  | .net n => n.val / 2 ^ (width n.ver - n.plen) * 2 ^ (width n.ver - n.plen)
  | .rng r => r.lo
  | .addr a => a.val

def Key.last : Key → Nat
  | .net n => n.val / 2 ^ (width n.ver - n.plen) * 2 ^ (width n.ver - n.plen) + (2 ^ (width n.ver - n.plen) - 1)
  | .rng r => r.hi
  | .addr a => a.val

def Key.ver : Key → Nat
  | .net n => n.ver
  | .rng r => r.ver
  | .addr a => a.ver

def covers (k : Key) (a : Addr) : Prop := Key.ver k = a.ver ∧ Key.first k ≤ a.val ∧ a.val ≤ Key.last k

theorem withinBounds_iff (a : Addr) (k : Key) : withinBounds a k = true ↔ covers k a := by
  cases k with
  | net n =>
    refine (Contains.ver_guard fun _ => ?_).trans (and_congr_left' eq_comm)
    rw [beq_iff_eq, Nat.shiftRight_eq_div_pow, Nat.shiftRight_eq_div_pow, Contains.div_eq_block _ _ _ (Nat.two_pow_pos _)]
    rfl
  | rng r =>
    refine (Contains.ver_guard fun _ => ?_).trans (and_congr_left' eq_comm)
    simp only [Bool.and_eq_true, decide_eq_true_eq, ge_iff_le]
    rfl
  | addr b =>
    simp only [withinBounds, covers, Key.ver, Key.first, Key.last, Bool.and_eq_true, beq_iff_eq]
    constructor
    · rintro ⟨h1, h2⟩; omega
    · rintro ⟨h1, h2, h3⟩; omega

theorem mem_scan (a : Addr) (t : List Rec) (r : Rec) : r ∈ scan a t ↔ r ∈ t ∧ covers r.key a := by
  simp [scan, List.mem_filter, withinBounds_iff]

/-- the gate of the multicast registry is interval membership in `IPV4_MULTICAST` (whatever block
    the source defines: its edges are breakpoints of `query_piecewise_const`) -/
theorem isMulticast4_iff (v : Nat) : isMulticast4 v = true ↔ covers multicastNet ⟨4, v⟩ :=
  withinBounds_iff _ _

/-- `.info` returns exactly the records of each registry whose block or range
    contains the address — none missing, none extra; IPv4 addresses see the IPv4 registry and,
    iff they are multicast, the multicast registry; IPv6 addresses the two IPv6 registries. -/
theorem query_exact (T : Tables) (a : Addr) (r : Rec) :
    (r ∈ (query T a).ipv4 ↔ a.ver = 4 ∧ r ∈ T.ipv4 ∧ covers r.key a) ∧
    (r ∈ (query T a).mcast ↔ a.ver = 4 ∧ isMulticast4 a.val = true ∧ r ∈ T.mcast ∧ covers r.key a) ∧
    (r ∈ (query T a).ipv6 ↔ a.ver = 6 ∧ r ∈ T.ipv6 ∧ covers r.key a) ∧
    (r ∈ (query T a).ipv6u ↔ a.ver = 6 ∧ r ∈ T.ipv6u ∧ covers r.key a) := by
  unfold query
  by_cases h4 : a.ver = 4
  · simp only [h4, ↓reduceIte, true_and, mem_scan]
    by_cases hm : isMulticast4 a.val = true <;> simp [hm, mem_scan]
  · by_cases h6 : a.ver = 6
    · simp [h6, mem_scan]
    · simp [h4, h6]

/-- the answer lists records in table order, each at most as often as the table has it -/
theorem query_sublist (T : Tables) (a : Addr) :
    (query T a).ipv4.Sublist T.ipv4 ∧ (query T a).ipv6.Sublist T.ipv6 ∧
    (query T a).ipv6u.Sublist T.ipv6u ∧ (query T a).mcast.Sublist T.mcast := by
  unfold query scan
  split
  · refine ⟨List.filter_sublist, by simp, by simp, ?_⟩
    split
    · exact List.filter_sublist
    · simp
  · split
    · exact ⟨by simp, List.filter_sublist, List.filter_sublist, by simp⟩
    · simp

/-- the places where the answer may change: every record's first address and last+1, and the
    edges of the IPv4 multicast block that gates the multicast registry -/
def breakpoints (T : Tables) : List Nat :=
  (T.ipv4 ++ T.ipv6 ++ T.ipv6u ++ T.mcast).flatMap (fun r => [Key.first r.key, Key.last r.key + 1]) ++
    [Key.first multicastNet, Key.last multicastNet + 1]

theorem withinBounds_congr (k : Key) (a b : Addr) (hv : a.ver = b.ver) (hab : a.val ≤ b.val)
    (h1 : ¬ (a.val < Key.first k ∧ Key.first k ≤ b.val))
    (h2 : ¬ (a.val < Key.last k + 1 ∧ Key.last k + 1 ≤ b.val)) : withinBounds a k = withinBounds b k := by
  rw [Bool.eq_iff_iff, withinBounds_iff, withinBounds_iff, covers, covers, hv]
  omega

/-- between two consecutive breakpoints the answer does not change: if no record's first address or last+1 (and no edge of the multicast block) lies in
    `(a, b]`, the two addresses of one family get the same answer. -/
theorem query_piecewise_const (T : Tables) (a b : Addr) (hv : a.ver = b.ver) (hab : a.val ≤ b.val)
    (hno : ∀ p ∈ breakpoints T, ¬ (a.val < p ∧ p ≤ b.val)) : query T a = query T b := by
  have hrec : ∀ t : List Rec, (∀ r ∈ t, r ∈ T.ipv4 ++ T.ipv6 ++ T.ipv6u ++ T.mcast) → scan a t = scan b t := fun t ht =>
    List.filter_congr fun r hr =>
      have hbp : ∀ p ∈ [Key.first r.key, Key.last r.key + 1], p ∈ breakpoints T := fun p hp =>
        List.mem_append_left _ (List.mem_flatMap.mpr ⟨r, ht r hr, hp⟩)
      withinBounds_congr r.key a b hv hab (hno _ (hbp _ List.mem_cons_self))
        (hno _ (hbp _ (List.mem_cons_of_mem _ List.mem_cons_self)))
  have hm : isMulticast4 a.val = isMulticast4 b.val :=
    withinBounds_congr multicastNet ⟨4, a.val⟩ ⟨4, b.val⟩ rfl hab (hno _ (List.mem_append_right _ List.mem_cons_self))
      (hno _ (List.mem_append_right _ (List.mem_cons_of_mem _ List.mem_cons_self)))
  unfold query
  rw [← hv, ← hm]
  rw [hrec T.ipv4 (by intro r hr; simp [hr]), hrec T.ipv6 (by intro r hr; simp [hr]),
    hrec T.ipv6u (by intro r hr; simp [hr]), hrec T.mcast (by intro r hr; simp [hr])]

/-- `Key.first` / `Key.last` of a network key are netaddr's own `IPNetwork.first` / `.last`
    (the C02 model, `Model/Network.lean`) whenever the value fits the family width -/
theorem net_first_last (n : Net) (hv : n.val < 2 ^ width n.ver) :
    Key.first (.net n) = n.first ∧ Key.last (.net n) = n.last := by
  simp only [Key.first, Key.last, Net.first, Net.last, netFirst_eq _ _ _ hv, netLast_eq, and_self]

/-- a row `(kind, ver, x, y)` of Gen/Iana.lean is a key that can exist: kind 0 the network `x/y`, kind 1 the range `x..y`,
    kind 2 the single address `x` (read so by `Driver.C19.mkKey`) -/
def validRow (r : Nat × Nat × Nat × Nat) : Bool :=
  let (kind, ver, x, y) := r
  (ver == 4 || ver == 6) && x < 2 ^ width ver &&
    (if kind = 0 then y ≤ width ver else if kind = 1 then x ≤ y && y < 2 ^ width ver else kind == 2)

/-- the shipped tables (as loaded by netaddr at import, regenerated every run) consist of valid
    keys, so `net_first_last` applies to every network row -/
theorem shipped_tables_valid :
    (Gen.ianaIPv4.all validRow && Gen.ianaIPv6.all validRow &&
     Gen.ianaIPv6Unicast.all validRow && Gen.ianaMulticast.all validRow) = true := by decide +kernel

/-! ## index parsers -/

section generic
variable {K : Type} (start : Line → R K) (cont : K → Line → R K)

/-- hypotheses of "well-formed registry text": the file is `hd ++ rec_1 ++ … ++ rec_n` split
    into lines as `readline()` does; no header line has the `(hex)` marker; every record starts
    with a `(hex)` line and is otherwise free of it; there is at least one record. -/
structure WellFormed (hd : List Line) (recs : List (List Line)) : Prop where
  lines : Lines (hd ++ recs.flatten)
  header : ∀ l ∈ hd, hasHex l = false
  records : ∀ r ∈ recs, ∃ h t, r = h :: t ∧ hasHex h = true ∧ ∀ l ∈ t, hasHex l = false
  nonempty : recs ≠ []

theorem genIndex_delimits (hd : List Line) (recs : List (List Line)) (w : WellFormed hd recs) :
    genLoop start cont (pyLines (hd ++ recs.flatten).flatten) true none 0 0 =
      specRows start cont (lenSum hd) recs := by
  rw [pyLines_of_lines _ w.lines, genLoop_init start cont _ w.lines.ne_nil,
    decompose_reading hd recs w.header w.records, if_neg w.nonempty]

/-- the rows correspond one-to-one, in order, to the records; each row
    carries its record's identifier, `offset = |header| + Σ_{j<i} |rec_j|`, `size = |rec_i|`, and
    `text[offset : offset+size]` is exactly the record. -/
theorem genIndex_rows (hd : List Line) (recs : List (List Line)) (w : WellFormed hd recs)
    (rows : List (Row K))
    (h : genLoop start cont (pyLines (hd ++ recs.flatten).flatten) true none 0 0 = .ok rows) :
    All2 (fun (row : Row K) r => recKey start cont r = .ok row.1 ∧
        slice (hd ++ recs.flatten).flatten row.2.1 row.2.2 = r.flatten) rows recs ∧
      rows.map (fun row => row.2) = layout (lenSum hd) recs := by
  rw [genIndex_delimits start cont hd recs w] at h
  exact specRows_delimit start cont h

/-- the parser fails only if computing some record's identifier fails -/
theorem specRows_total (recs : List (List Line)) (hk : ∀ r ∈ recs, ∃ k, recKey start cont r = .ok k) :
    ∀ off, ∃ rows, specRows start cont off recs = .ok rows := by
  induction recs with
  | nil => intro off; exact ⟨[], rfl⟩
  | cons r rs ih =>
    intro off
    obtain ⟨k, hk1⟩ := hk r (by simp)
    obtain ⟨tail, ht⟩ := ih (fun x hx => hk x (by simp [hx])) (off + lenSum r)
    exact ⟨(k, off, lenSum r) :: tail, by rw [specRows, hk1, ht]; rfl⟩

end generic

theorem index_delimits_oui (hd : List Line) (recs : List (List Line)) (w : WellFormed hd recs) :
    ouiIndex (hd ++ recs.flatten).flatten = specRows ouiStart ouiCont (lenSum hd) recs :=
  genIndex_delimits ouiStart ouiCont hd recs w

theorem index_delimits_iab (hd : List Line) (recs : List (List Line)) (w : WellFormed hd recs) :
    iabIndex (hd ++ recs.flatten).flatten = specRows iabStart iabCont (lenSum hd) recs :=
  genIndex_delimits iabStart iabCont hd recs w

theorem index_rows_oui (hd : List Line) (recs : List (List Line)) (w : WellFormed hd recs)
    (rows : List (Row Int)) (h : ouiIndex (hd ++ recs.flatten).flatten = .ok rows) :
    All2 (fun (row : Row Int) r => recKey ouiStart ouiCont r = .ok row.1 ∧
        slice (hd ++ recs.flatten).flatten row.2.1 row.2.2 = r.flatten) rows recs ∧
      rows.map (fun row => row.2) = layout (lenSum hd) recs :=
  genIndex_rows ouiStart ouiCont hd recs w rows h

theorem index_rows_iab (hd : List Line) (recs : List (List Line)) (w : WellFormed hd recs)
    (rows : List (Row IabKey)) (h : iabIndex (hd ++ recs.flatten).flatten = .ok rows) :
    All2 (fun (row : Row IabKey) r => recKey iabStart iabCont r = .ok row.1 ∧
        slice (hd ++ recs.flatten).flatten row.2.1 row.2.2 = r.flatten) rows recs ∧
      rows.map (fun row => row.2) = layout (lenSum hd) recs :=
  genIndex_rows iabStart iabCont hd recs w rows h

/-- OUI identifier of a record: `int(first token of the (hex) line without hyphens, 16)`; the
    other lines do not matter -/
theorem oui_recKey (h : Line) (t : List Line) : recKey ouiStart ouiCont (h :: t) = ouiStart h := by
  simp only [recKey, foldlM_filter ouiCont (fun _ => false) (fun _ _ _ => rfl) t,
    List.filter_eq_nil_iff.mpr fun _ _ => Bool.false_ne_true, List.foldlM_nil]
  exact bind_pure _

/-- IAB identifier of a record with exactly one `(base 16)` line `b`: the hyphen-free first
    token of the `(hex)` line followed by the first token of `b` up to its hyphen, read as
    hexadecimal, shifted right by 12 -/
theorem iab_recKey (h b : Line) (t1 t2 : List Line)
    (h1 : ∀ l ∈ t1, hasBase16 l = false) (h2 : ∀ l ∈ t2, hasBase16 l = false) (hb : hasBase16 b = true) :
    recKey iabStart iabCont (h :: (t1 ++ b :: t2)) =
      (do let p ← firstTok h
          let tok ← firstTok b
          let v ← intHex (dropHyphens p ++ tok.takeWhile (· != 45))
          pure (IabKey.num (v >>> 12))) := by
  exact (C19L.iab_recKey_eq t1 t2 h1 h2 hb).trans (bind_congr fun p => iabCont_raw hb p)

/-- a second `(base 16)` line in one IAB record is rejected (AttributeError on the int) -/
theorem iab_second_base16 (n : Int) (b : Line) (hb : hasBase16 b = true) :
    iabCont (.num n) b = .error .other :=
  iabCont_int hb n

/-! ## index parsers on any file -/

/-- read the lines as `readline()` does and split them the only possible way into header (before
    the first `(hex)` line) and records (each from one `(hex)` line up to the next); then the parser
    raises AttributeError if there is no record, and otherwise returns `specRows` of that reading:
    the specified rows, provided every record's key can be computed (`specRows` is an `R`).  No
    well-formedness assumption. -/
theorem genIndex_any_file {K : Type} (start : Line → R K) (cont : K → Line → R K) (bs : List Nat) :
    genLoop start cont (pyLines bs) true none 0 0 =
      (if (decompose (pyLines bs)).2 = [] then .error .other
       else specRows start cont (lenSum (decompose (pyLines bs)).1) (decompose (pyLines bs)).2) :=
  genLoop_init start cont _ (pyLines_ne_nil bs)

theorem index_any_file (bs : List Nat) :
    ouiIndex bs = (if (decompose (pyLines bs)).2 = [] then .error .other
      else specRows ouiStart ouiCont (lenSum (decompose (pyLines bs)).1) (decompose (pyLines bs)).2) ∧
    iabIndex bs = (if (decompose (pyLines bs)).2 = [] then .error .other
      else specRows iabStart iabCont (lenSum (decompose (pyLines bs)).1) (decompose (pyLines bs)).2) :=
  ⟨genIndex_any_file ouiStart ouiCont bs, genIndex_any_file iabStart iabCont bs⟩

/-- a text without a `(hex)` line (no record): both parsers raise (AttributeError on `None`) -/
theorem index_no_record (hd : List Line) (hl : Lines hd) (hh : ∀ l ∈ hd, hasHex l = false) :
    ouiIndex hd.flatten = .error .other ∧ iabIndex hd.flatten = .error .other := by
  have h := index_any_file hd.flatten
  have hn := (decompose_nil_iff hd).2 hh
  rwa [pyLines_of_lines _ hl, if_pos hn, if_pos hn] at h

/-- the rows cut the file exactly: their byte ranges are the records, in order, and
    header + records is the whole file -/
theorem index_any_file_slices (bs : List Nat) :
    All2 (fun (os : Nat × Nat) r => slice bs os.1 os.2 = r.flatten)
      (layout (lenSum (decompose (pyLines bs)).1) (decompose (pyLines bs)).2) (decompose (pyLines bs)).2 ∧
    ((decompose (pyLines bs)).1 ++ (decompose (pyLines bs)).2.flatten).flatten = bs := by
  have hbs : ((decompose (pyLines bs)).1 ++ (decompose (pyLines bs)).2.flatten).flatten = bs := by
    rw [decompose_flatten, pyLines_flatten]
  have := layout_slices_file (decompose (pyLines bs)).1 (decompose (pyLines bs)).2
  rw [hbs] at this
  exact ⟨this, hbs⟩

/-! ## which identifier a row carries -/

/-- **OUI row key** (general form): `(hex)` line = optional whitespace, a token of hex digits and
    hyphens, then whitespace or end of line ⇒ the key is the token's hexadecimal value -/
theorem oui_key (pre tok rest : List Nat) (t : List Line) (hpre : ∀ b ∈ pre, isWsB b = true) (hid : IdTok tok)
    (hne : dropHyphens tok ≠ []) (hrest : rest = [] ∨ ∃ s r, rest = s :: r ∧ isWsB s = true) :
    recKey ouiStart ouiCont ((pre ++ tok ++ rest) :: t) = .ok (hexValue (dropHyphens tok) : Int) := by
  rw [oui_recKey, ouiStart_spec pre tok rest hpre hid hne hrest]

/-- **OUI row key** (the registry's own print format): a record whose first line starts with
    `XX-XX-XX` + whitespace is indexed under exactly that 24-bit identifier -/
theorem oui_key_canonical (p : Nat) (hp : p < 2 ^ 24) (s : Nat) (hs : isWsB s = true) (rest : List Nat)
    (t : List Line) : recKey ouiStart ouiCont ((fmtOui p ++ s :: rest) :: t) = .ok (p : Int) := by
  rw [oui_recKey, ouiStart_canonical p hp s hs rest]

/-- **IAB row key** (general form): `(hex)` line with identifier token `p`, exactly one
    `(base 16)` line whose first token is an identifier token `tok` ⇒ the key is
    `hex(p without hyphens ++ tok up to its first hyphen) >> 12` -/
theorem iab_key (pre1 p rest1 : List Nat) (pre2 tok rest2 : List Nat) (t1 t2 : List Line)
    (hpre1 : ∀ b ∈ pre1, isWsB b = true) (hp : IdTok p) (hpne : p ≠ [])
    (hrest1 : rest1 = [] ∨ ∃ s r, rest1 = s :: r ∧ isWsB s = true)
    (h1 : ∀ l ∈ t1, hasBase16 l = false) (h2 : ∀ l ∈ t2, hasBase16 l = false)
    (hb : hasBase16 (pre2 ++ tok ++ rest2) = true)
    (hpre2 : ∀ b ∈ pre2, isWsB b = true) (hid : IdTok tok) (htne : tok ≠ [])
    (hne : dropHyphens p ++ tok.takeWhile (· != 45) ≠ [])
    (hrest2 : rest2 = [] ∨ ∃ s r, rest2 = s :: r ∧ isWsB s = true) :
    recKey iabStart iabCont ((pre1 ++ p ++ rest1) :: (t1 ++ (pre2 ++ tok ++ rest2) :: t2)) =
      .ok (.num ((hexValue (dropHyphens p ++ tok.takeWhile (· != 45)) : Int) >>> 12)) := by
  rw [C19L.iab_recKey_eq t1 t2 h1 h2 hb, firstTok_spec pre1 p rest1 hpre1 hp.noWs hpne hrest1]
  exact (pure_bind _ _).trans (iabCont_spec p hp pre2 tok rest2 hb hpre2 hid htne hne hrest2)

/-- **IAB row key** (the registry's own print format): first line `XX-XX-XX` + whitespace,
    then the `(base 16)` line `YYYZZZ-…` + whitespace, then lines without `(base 16)`:
    the row is indexed under the 36-bit identifier `XXXXXXYYY` -/
theorem iab_key_canonical (q v : Nat) (hq : q < 2 ^ 24) (hv : v < 2 ^ 24) (tail : List Nat) (htail : IdTok tail)
    (s1 s2 : Nat) (hs1 : isWsB s1 = true) (hs2 : isWsB s2 = true) (rest1 rest2 : List Nat) (t2 : List Line)
    (hb : hasBase16 (fmtHex6 v ++ 45 :: tail ++ s2 :: rest2) = true) (h2 : ∀ l ∈ t2, hasBase16 l = false) :
    recKey iabStart iabCont ((fmtOui q ++ s1 :: rest1) :: (fmtHex6 v ++ 45 :: tail ++ s2 :: rest2) :: t2) =
      .ok (.num ((q * 4096 + v / 4096 : Nat) : Int)) := by
  refine (C19L.iab_recKey_eq [] t2 (fun _ h => nomatch h) h2 hb).trans ?_
  rw [show firstTok (fmtOui q ++ s1 :: rest1) = .ok (fmtOui q) from
    firstTok_spec [] _ _ (fun _ h => nomatch h) (fmtOui_idTok q).noWs (List.cons_ne_nil _ _)
      (Or.inr ⟨s1, rest1, rfl, hs1⟩)]
  exact (pure_bind _ _).trans (iabCont_canonical q v hq hv tail htail s2 hs2 rest2 hb)

/-! ## record retrieval (`_parse_data`) -/

/-- a stripped line that goes into `address` -/
def isAddrLine (l : List Char) : Bool := !l.isEmpty && !hasSubC hexMarkerC l && !hasSubC base16MarkerC l

def hexLines (ls : List (List Char)) : List (List Char) :=
  (ls.map strip).filter (fun l => !l.isEmpty && hasSubC hexMarkerC l)

theorem thirdField_err {s : List Char} {e : Err} (h : thirdField s = .error e) : e = .index := by
  dsimp only [thirdField] at h
  split at h
  · injection h with h; exact h.symm
  · cases h

theorem parseLines_hex (line : List Char) (rest : List (List Char)) (p : Parsed)
    (h : (!(strip line).isEmpty && hasSubC hexMarkerC (strip line)) = true) :
    parseLines (line :: rest) p = (thirdField (strip line) >>= fun o => parseLines rest ⟨some o, p.address⟩) ∧
    hexLines (line :: rest) = strip line :: hexLines rest ∧
    ((line :: rest).map strip).filter isAddrLine = (rest.map strip).filter isAddrLine := by
  simp only [Bool.and_eq_true, Bool.not_eq_true'] at h
  refine ⟨?_, ?_, ?_⟩
  · simp only [parseLines, h.1, h.2, Bool.false_eq_true, ↓reduceIte]
  · simp only [hexLines, List.map_cons, List.filter_cons, h.1, h.2, Bool.not_false, Bool.and_self, ↓reduceIte]
  · simp only [List.map_cons, List.filter_cons, isAddrLine, h.2, Bool.not_true, Bool.and_false, Bool.false_and,
      Bool.false_eq_true, ↓reduceIte]

theorem parseLines_other (line : List Char) (rest : List (List Char)) (p : Parsed)
    (h : (!(strip line).isEmpty && hasSubC hexMarkerC (strip line)) = false) :
    parseLines (line :: rest) p = parseLines rest ⟨p.org, p.address ++ [strip line].filter isAddrLine⟩ ∧
    hexLines (line :: rest) = hexLines rest ∧
    ((line :: rest).map strip).filter isAddrLine =
      [strip line].filter isAddrLine ++ (rest.map strip).filter isAddrLine := by
  refine ⟨?_, ?_, ?_⟩
  · simp only [parseLines, List.filter_cons, List.filter_nil, isAddrLine]
    by_cases he : (strip line).isEmpty = true
    · simp [he]
    · simp only [he, Bool.not_false, Bool.true_and] at h
      by_cases hb : hasSubC base16MarkerC (strip line) = true <;> simp [he, h, hb]
  · simp only [hexLines, List.map_cons, List.filter_cons, h, Bool.false_eq_true, ↓reduceIte]
  · rw [List.map_cons, ← List.filter_append]
    rfl

/-- `_parse_data` in closed form: the `mapM` is the error behaviour (the third field of every `(hex)` line is read, in order);
    its values are dropped because `org` is written as the fold over `toOption` in which `parseLines_ok` states it -/
theorem parseLines_eq (ls : List (List Char)) : ∀ p : Parsed,
    parseLines ls p = ((hexLines ls).mapM thirdField).map fun _ =>
      ⟨(hexLines ls).foldl (fun _ l => (thirdField l).toOption) p.org, p.address ++ (ls.map strip).filter isAddrLine⟩ := by
  induction ls with
  | nil => intro p; exact congrArg (fun a => (Except.ok ⟨p.org, a⟩ : R Parsed)) (List.append_nil _).symm
  | cons l rest ih =>
    intro p
    cases hx : (!(strip l).isEmpty && hasSubC hexMarkerC (strip l)) with
    | true =>
      obtain ⟨e1, e2, e3⟩ := parseLines_hex l rest p hx
      rw [e1, e2, e3, mapM_exc_cons, List.foldl_cons]
      cases thirdField (strip l) with
      | error e => rfl
      | ok o =>
        refine (ih _).trans ?_
        cases (hexLines rest).mapM thirdField <;> rfl
    | false =>
      obtain ⟨e1, e2, e3⟩ := parseLines_other l rest p hx
      rw [e1, e2, e3, ih, List.append_assoc]

/-- `address` = the stripped non-blank lines that carry neither marker, in order; `org` = third
    field of the last `(hex)` line (initial value if there is none) -/
theorem parseLines_ok (ls : List (List Char)) : ∀ (p q : Parsed), parseLines ls p = .ok q →
    q.address = p.address ++ (ls.map strip).filter isAddrLine ∧
    q.org = (hexLines ls).foldl (fun _ l => (thirdField l).toOption) p.org := by
  intro p q h
  rw [parseLines_eq] at h
  obtain ⟨_, _, rfl⟩ := Exc.map_eq_ok.1 h
  exact ⟨rfl, rfl⟩

/-- `_parse_data` fails exactly when some `(hex)` line has fewer than three fields (IndexError) -/
theorem parseLines_ok_iff (ls : List (List Char)) : ∀ (p : Parsed),
    (∃ q, parseLines ls p = .ok q) ↔ ∀ l ∈ hexLines ls, ∃ o, thirdField l = .ok o := by
  intro p
  rw [parseLines_eq, Exc.exists_map_eq_ok, mapM_ok_iff]

theorem parseLines_err (ls : List (List Char)) : ∀ (p : Parsed) (e : Err), parseLines ls p = .error e → e = .index := by
  intro p e h
  rw [parseLines_eq, Exc.map_eq_error] at h
  obtain ⟨_, _, hx⟩ := mapM_error_mem h
  exact thirdField_err hx

theorem parseRecord_err {data : List Char} {e : Err} (h : parseRecord data = .error e) : e = .index :=
  parseLines_err _ _ _ h

/-- once the index has a row for `v`, `OUI(v)` / `IAB(v)` can only fail in `_parse_data` (IndexError) -/
theorem lookup_err_of_rows {read : Nat → Nat → List Char} {index : List (Nat × Nat × Nat)} {v : Nat} {e : Err}
    (hne : lookupRows index v ≠ []) :
    (ouiRecords read index v = .error e → e = .index) ∧ (iabRecord read index v = .error e → e = .index) := by
  unfold ouiRecords iabRecord
  obtain ⟨x, xs, hl⟩ := List.exists_cons_of_ne_nil hne
  rw [hl]
  exact ⟨fun h => (mapM_error_mem h).elim fun y hy => parseRecord_err (Exc.map_eq_error.1 hy.2),
    fun h => parseRecord_err (Exc.map_eq_error.1 h)⟩

/-- **registered iff the index has rows** (`OUI(v)`, `IAB(v)`): NotRegisteredError is raised
    exactly when no index row carries the identifier -/
theorem registered_iff (read : Nat → Nat → List Char) (index : List (Nat × Nat × Nat)) (v : Nat) :
    (ouiRecords read index v = .error .notRegistered ↔ ∀ r ∈ index, r.1 ≠ v) ∧
    (iabRecord read index v = .error .notRegistered ↔ ∀ r ∈ index, r.1 ≠ v) := by
  rw [← lookupRows_nil_iff]
  by_cases hl : lookupRows index v = []
  · simp [ouiRecords, iabRecord, hl]
  · exact ⟨⟨fun h1 => (nomatch (lookup_err_of_rows hl).1 h1), fun h1 => absurd h1 hl⟩,
      ⟨fun h1 => (nomatch (lookup_err_of_rows hl).2 h1), fun h1 => absurd h1 hl⟩⟩

/-- the only errors of `OUI(v)` / `IAB(v)`: NotRegisteredError (no row) and IndexError (a record that does not parse) -/
theorem lookup_err {read : Nat → Nat → List Char} {index : List (Nat × Nat × Nat)} {v : Nat} {e : Err} :
    (ouiRecords read index v = .error e → e = .notRegistered ∨ e = .index) ∧
    (iabRecord read index v = .error e → e = .notRegistered ∨ e = .index) := by
  by_cases hl : lookupRows index v = []
  · simp only [ouiRecords, iabRecord, hl]
    exact ⟨fun h => by cases h; exact Or.inl rfl, fun h => by cases h; exact Or.inl rfl⟩
  · exact ⟨fun h1 => Or.inr ((lookup_err_of_rows hl).1 h1), fun h1 => Or.inr ((lookup_err_of_rows hl).2 h1)⟩

/-- **lookups return the record the row delimits**: `OUI(v)` yields one record per index row
    of `v`, in index order, with that row's offset and size and the parse of exactly the bytes
    the row delimits; `IAB(v)` does so for the first row. -/
theorem lookup_spec (read : Nat → Nat → List Char) (index : List (Nat × Nat × Nat)) (v : Nat) :
    (∀ recs, ouiRecords read index v = .ok recs →
      All2 (fun (row : Nat × Nat) (r : Nat × Nat × Parsed) =>
        r.1 = row.1 ∧ r.2.1 = row.2 ∧ parseRecord (read row.1 row.2) = .ok r.2.2) (lookupRows index v) recs) ∧
    (∀ r, iabRecord read index v = .ok r →
      ∃ rest, lookupRows index v = (r.1, r.2.1) :: rest ∧ parseRecord (read r.1 r.2.1) = .ok r.2.2) := by
  constructor
  · intro recs h
    unfold ouiRecords at h
    cases hl : lookupRows index v with
    | nil => rw [hl] at h; cases h
    | cons x xs =>
      rw [hl] at h
      refine All2.imp (mapM_ok h) ?_
      intro row r hr
      obtain ⟨p, hp, rfl⟩ := Exc.map_eq_ok.1 hr
      exact ⟨rfl, rfl, hp⟩
  · intro r h
    unfold iabRecord at h
    cases hl : lookupRows index v with
    | nil => rw [hl] at h; cases h
    | cons x xs =>
      rw [hl] at h
      obtain ⟨p, hp, rfl⟩ := Exc.map_eq_ok.1 h
      exact ⟨xs, rfl, hp⟩

/-! ## corollaries in the words of the property -/

/-- none missing, none extra: every row delimits one record of the
    text and carries its identifier; every record of the text has its row; as many rows as records -/
theorem index_rows_complete {K : Type} (start : Line → R K) (cont : K → Line → R K)
    (hd : List Line) (recs : List (List Line)) (w : WellFormed hd recs) (rows : List (Row K))
    (h : genLoop start cont (pyLines (hd ++ recs.flatten).flatten) true none 0 0 = .ok rows) :
    rows.length = recs.length ∧
    (∀ row ∈ rows, ∃ r ∈ recs, recKey start cont r = .ok row.1 ∧
      slice (hd ++ recs.flatten).flatten row.2.1 row.2.2 = r.flatten) ∧
    (∀ r ∈ recs, ∃ row ∈ rows, recKey start cont r = .ok row.1 ∧
      slice (hd ++ recs.flatten).flatten row.2.1 row.2.2 = r.flatten) := by
  have := (genIndex_rows start cont hd recs w rows h).1
  exact ⟨this.length_eq, this.left, this.right⟩

/-- **index then lookup (OUI)**: build the index of a well-formed registry text with the OUI
    parser, read each key as a natural (`Int.toNat`: NOT `load_index`, which is `ouiLoad` then `dictView` and drops a
    negative key where `toNat` files it under 0 — `lookup_exact_oui` in Props/C19Exact.lean goes through the real
    loader), look an identifier up with seek+read on the same text: every
    registration returned is the parse of exactly one record of the text, and that record's
    identifier is the one asked for. -/
theorem lookup_through_index_oui (hd : List Line) (recs : List (List Line)) (w : WellFormed hd recs)
    (rows : List (Row Int)) (h : ouiIndex (hd ++ recs.flatten).flatten = .ok rows)
    (decode : List Nat → List Char) (v : Nat) (out : List (Nat × Nat × Parsed))
    (hl : ouiRecords (fun o s => decode (slice (hd ++ recs.flatten).flatten o s))
            (rows.map (fun r => (r.1.toNat, r.2.1, r.2.2))) v = .ok out) :
    ∀ x ∈ out, ∃ r ∈ recs, (∃ k : Int, recKey ouiStart ouiCont r = .ok k ∧ k.toNat = v) ∧
      parseRecord (decode r.flatten) = .ok x.2.2 := by
  intro x hx
  obtain ⟨⟨o, s⟩, hrow, _, _, h3⟩ := ((lookup_spec _ _ v).1 out hl).right x hx
  obtain ⟨⟨k, o', s'⟩, hmem, hk⟩ := List.mem_map.mp (mem_lookupRows.mp hrow)
  cases hk
  obtain ⟨r, hr, hkey, hsl⟩ := (index_rows_oui hd recs w rows h).1.left _ hmem
  exact ⟨r, hr, ⟨k, hkey, rfl⟩, hsl ▸ h3⟩

/-- the integer-keyed rows of what the IAB parser wrote.  NOT `load_index`: the real `load_index` raises
    ValueError on a bytes key instead of skipping the row — see `Registry.iabLoad` and
    `lookup_through_index_iab_loaded` / `lookup_exact_iab` in Props/C19Exact.lean, which go through it. -/
def iabLoaded (rows : List (Row IabKey)) : List (Nat × Nat × Nat) :=
  rows.filterMap (fun r => match r.1 with
    | .num n => some (n.toNat, r.2.1, r.2.2)
    | .raw _ => none)

/-- the same for the IAB parser, with `iabLoaded` for the loader -/
theorem lookup_through_index_iab (hd : List Line) (recs : List (List Line)) (w : WellFormed hd recs)
    (rows : List (Row IabKey)) (h : iabIndex (hd ++ recs.flatten).flatten = .ok rows)
    (decode : List Nat → List Char) (v : Nat) (x : Nat × Nat × Parsed)
    (hl : iabRecord (fun o s => decode (slice (hd ++ recs.flatten).flatten o s)) (iabLoaded rows) v = .ok x) :
    ∃ r ∈ recs, (∃ k : Int, recKey iabStart iabCont r = .ok (.num k) ∧ k.toNat = v) ∧
      parseRecord (decode r.flatten) = .ok x.2.2 := by
  obtain ⟨rest, hrow, h3⟩ := (lookup_spec _ _ v).2 x hl
  have hmem : (x.1, x.2.1) ∈ lookupRows (iabLoaded rows) v := hrow ▸ List.mem_cons_self
  obtain ⟨⟨k, o, s⟩, hm, hk⟩ := List.mem_filterMap.mp (mem_lookupRows.mp hmem)
  cases k with
  | raw b => cases hk
  | num n =>
    cases hk
    obtain ⟨r, hr, hkey, hsl⟩ := (index_rows_iab hd recs w rows h).1.left _ hm
    exact ⟨r, hr, ⟨n, hkey, rfl⟩, hsl ▸ h3⟩

/-! ## non-vacuity: concrete instances -/

def bytes (s : String) : Line := s.toList.map Char.toNat

def properLineB (l : Line) : Bool := l.getLast? == some 10 && !(l.dropLast.contains 10)

theorem properLine_of_B (l : Line) (h : properLineB l = true) : ProperLine l := by
  simp only [properLineB, Bool.and_eq_true, beq_iff_eq, Bool.not_eq_true', List.contains_eq_mem,
    decide_eq_false_iff_not] at h
  refine ⟨l.dropLast, ?_, h.2⟩
  have hne : l ≠ [] := by intro hl; subst hl; simp at h
  have := List.dropLast_concat_getLast hne
  rw [List.getLast?_eq_some_getLast hne] at h
  injection h.1 with h1
  rw [← h1]; exact this.symm

def exHd : List Line := [bytes "OUI  Organization\r\n", bytes "\r\n"]
def exRecs : List (List Line) :=
  [[bytes "00-CA-FE   (hex)\t\tACME CORPORATION\r\n", bytes "00CAFE     (base 16)\t\tACME\r\n", bytes "\t\t1 MAIN STREET\r\n", bytes "\r\n"],
   [bytes "00-50-C2   (hex)\t\tOTHER\n", bytes "ABC000-ABCFFF     (base 16)\t\tOTHER\n", bytes "\t\tSPRINGFIELD"]]

/-- `bytes` of a literal read off the literal, without decoding it (cf. `decide_lit`); the examples below rewrite
    with this before they evaluate -/
theorem bytes_lit (l : List Char) : bytes (String.ofList l) = l.map Char.toNat := by
  rw [bytes, String.toList_ofList]

/-- the hypotheses of `index_delimits_*` are satisfiable: CRLF header, two records, mixed line
    ends, no final newline -/
example : WellFormed exHd exRecs := by
  rw [exHd, exRecs]
  repeat rw [bytes_lit]
  exact {
    lines := by
      refine ⟨?_, ?_, ?_, ?_, ?_, ?_, ?_, ?_, Or.inr ⟨by decide +kernel, by decide +kernel⟩⟩
      all_goals exact properLine_of_B _ (by decide +kernel)
    header := by decide +kernel
    records := by
      intro r hr
      simp only [List.mem_cons, List.not_mem_nil, or_false] at hr
      rcases hr with rfl | rfl
      · exact ⟨_, _, rfl, by decide +kernel, by decide +kernel⟩
      · exact ⟨_, _, rfl, by decide +kernel, by decide +kernel⟩
    nonempty := by decide +kernel }

/-- the print formats of `oui_key_canonical` / `iab_key_canonical` are the registry's -/
example : fmtOui 0xCAFE = bytes "00-CA-FE" ∧ fmtHex6 0xABC000 = bytes "ABC000" := by
  repeat rw [bytes_lit]
  decide +kernel
example : IdTok (bytes "ABCFFF") ∧
    hasBase16 (fmtHex6 0xABC000 ++ 45 :: bytes "ABCFFF" ++ 32 :: bytes "    (base 16)\t\tACME\r\n") = true := by
  repeat rw [bytes_lit]
  constructor
  · show ∀ b ∈ _, b = 45 ∨ b ∈ hexDigitsB
    decide +kernel
  · decide +kernel
example : recKey iabStart iabCont [bytes "00-50-C2   (hex)\t\tACME\r\n", bytes "ABC000-ABCFFF     (base 16)\t\tACME\r\n",
    bytes "\t\t1 MAIN STREET\r\n"] = .ok (.num 0x0050C2ABC) := by
  repeat rw [bytes_lit]
  decide +kernel

example : ouiIndex (exHd ++ exRecs.flatten).flatten = .ok [(0xCAFE, 21, 83), (0x50C2, 104, 72)] := by
  rw [exHd, exRecs]
  repeat rw [bytes_lit]
  decide +kernel
example : iabIndex (exRecs.drop 1).flatten.flatten = .ok [(.num 0x0050C2ABC, 0, 72)] := by
  rw [exRecs]
  repeat rw [bytes_lit]
  decide +kernel
example : ouiIndex exHd.flatten = .error .other := by
  rw [exHd]
  repeat rw [bytes_lit]
  decide +kernel
/-- the canonical reading of the example file is the header and the two records it was built from -/
example : decompose (pyLines (exHd ++ exRecs.flatten).flatten) = (exHd, exRecs) := by
  rw [exHd, exRecs]
  repeat rw [bytes_lit]
  decide +kernel

example : query ⟨[⟨0, .net ⟨4, 0x0A000000, 8⟩⟩], [], [], [⟨0, .rng ⟨4, 0xE0000100, 0xE00001FF⟩⟩, ⟨1, .addr ⟨4, 0xE0000101⟩⟩]⟩
    ⟨4, 0xE0000101⟩ = ⟨[], [], [], [⟨0, .rng ⟨4, 0xE0000100, 0xE00001FF⟩⟩, ⟨1, .addr ⟨4, 0xE0000101⟩⟩]⟩ := by decide +kernel

/-- the hypotheses of `query_piecewise_const` on a concrete table: no breakpoint in (224.0.1.2, 224.0.1.255] -/
example :
    let T : Tables := ⟨[⟨0, .net ⟨4, 0xE0000000, 8⟩⟩], [], [], [⟨0, .rng ⟨4, 0xE0000100, 0xE00001FF⟩⟩, ⟨1, .addr ⟨4, 0xE0000101⟩⟩]⟩
    query T ⟨4, 0xE0000102⟩ = query T ⟨4, 0xE00001FF⟩ :=
  query_piecewise_const _ _ _ rfl (by decide) (by decide)

example : parseRecord "00-50-C2   (hex)\t\tACME CORP\r\nABC000-ABCFFF     (base 16)\t\tACME CORP\r\n\t\t1 MAIN STREET\r\n\r\n\t\tUS\r\n".toList
    = .ok ⟨some "ACME CORP".toList, ["1 MAIN STREET".toList, "US".toList]⟩ := by
  decide_lit
example : parseRecord "00-50-C2   (hex)\r\n".toList = .error .index := by
  decide_lit

end NV.C19
