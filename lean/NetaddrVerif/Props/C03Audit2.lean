/-
Props/C03Audit2.lean — property C03, further clauses.

* `cidr_abbrev_to_verbose` on strings, exactly: a declarative relation `Abbrev s t`
  (three rules: one numeral; address part '/' prefix numeral; bare dotted pieces) with
  `abbrev_iff`: the function returns `t` iff a rule gives `t`, and returns its argument unchanged
  iff no rule applies.
* Non-str arguments of `cidr_abbrev_to_verbose` (`AbbrevArg`, Model/NetParseX.lean).
* Explicit-version mismatch and cross-family masks at constructor level.
* `repr(IPNetwork)` and its eval-free round trip.
-/
import NetaddrVerif.Props.C03c
import NetaddrVerif.Model.NetParseX
namespace NV.C03A2
open NV NV.Text4 NV.AddrParse NV.NetParse NV.C01L NV.C03L NV.C03L.Acc NV.C03L.Abbrev NV.C03

/-! ## `cidr_abbrev_to_verbose` on strings, exactly -/

/-- **The documented abbreviation rules, declaratively**: `Abbrev s t` = the abbreviated CIDR `s`
    expands to the verbose CIDR `t`.
    * `single`: `s` is one numeral `int()` reads as `n` in 0..255 ('10', ' 10 ', '+10', '1_0'):
      `n.0.0.0/<class prefix of n>`;
    * `slash`: `s = A/T` ('/' not in `A`, no ':' anywhere), `T` a numeral `int()` reads as `q` in
      0..32, `A` at most four '.'-pieces ('10/16', '128/8', '192.168/16'): `A` padded with "0"
      pieces, then '/' and `T` AS WRITTEN;
    * `bare`: `s` without '/' and ':', not a numeral, at most four '.'-pieces, the first of which
      `int()` reads as `o` in 0..255 ('192.168', '10.1.2'): `s` padded with "0" pieces, then the
      class prefix of `o`. -/
inductive Abbrev : List Char → List Char → Prop
  | single (s : List Char) (n : Int) (hpi : Py.pyInt 10 s = some n) (hn : 0 ≤ n ∧ n ≤ 255) :
      Abbrev s (dec n.toNat ++ ".0.0.0/".toList ++ dec (classOf n.toNat))
  | slash (A T : List Char) (q : Int) (hA : '/' ∉ A) (hc : ':' ∉ A ++ T) (hq : Py.pyInt 10 T = some q)
      (hr : 0 ≤ q ∧ q ≤ 32) (hl : (A.splitOn '.').length ≤ 4) :
      Abbrev (A ++ '/' :: T) (padded A ++ '/' :: T)
  | bare (s : List Char) (o : Int) (hs : '/' ∉ s) (hc : ':' ∉ s) (hpi : Py.pyInt 10 s = none)
      (hl : (s.splitOn '.').length ≤ 4) (ho : Py.pyInt 10 ((s.splitOn '.').headD []) = some o)
      (hr : 0 ≤ o ∧ o ≤ 255) :
      Abbrev s (padded s ++ '/' :: dec (classOf o.toNat))

/-- each rule is what the function computes -/
theorem abbrev_sound (s t : List Char) (h : Abbrev s t) : cidrAbbrevToVerbose s = t := by
  cases h with
  | single _ n hpi hn => exact abbrev_numeral s n hpi hn
  | slash A T q hA hc hq hr hl =>
    rw [abbrev_of_slash A T (contains_false_of_not_mem hA) (by simpa using hc), hq]
    exact if_pos ⟨hr, hl⟩
  | bare _ o hs hc hpi hl ho hr =>
    rw [abbrev_of_bare s (contains_false_of_not_mem hs) hc hpi, if_pos hl, ho]
    simp only [Option.bind_some, classful_of_range o hr]

/-- whenever the function changes its argument, a rule applies -/
theorem abbrev_complete (s : List Char) (hne : cidrAbbrevToVerbose s ≠ s) : Abbrev s (cidrAbbrevToVerbose s) := by
  have hcol : ':' ∉ s := fun hm => hne (abbrev_colon s hm)
  cases hpi : Py.pyInt 10 s with
  | some n =>
    by_cases hn : 0 ≤ n ∧ n ≤ 255
    · rw [abbrev_numeral s n hpi hn]; exact Abbrev.single s n hpi hn
    · exact absurd (by rw [abbrev_of_int s n hpi, classful_out_of_range n hn]) hne
  | none =>
    cases hs : s.contains '/' with
    | true =>
      obtain ⟨A, T, rfl, hA⟩ := first_slash s hs
      rw [abbrev_of_slash A T hA hcol] at hne ⊢
      cases hq : Py.pyInt 10 T with
      | none => rw [hq] at hne; exact absurd rfl hne
      | some q =>
        rw [hq] at hne
        simp only at hne ⊢
        by_cases h : (0 ≤ q ∧ q ≤ 32) ∧ (A.splitOn '.').length ≤ 4
        · rw [if_pos h]
          exact Abbrev.slash A T q (not_mem_of_contains_false hA) (by simpa using hcol) hq h.1 h.2
        · rw [if_neg h] at hne; exact absurd rfl hne
    | false =>
      rw [abbrev_of_bare s hs hcol hpi] at hne ⊢
      by_cases hl : (s.splitOn '.').length ≤ 4
      · rw [if_pos hl] at hne ⊢
        cases ho : Py.pyInt 10 ((s.splitOn '.').headD []) with
        | none => rw [ho] at hne; exact absurd rfl hne
        | some o =>
          rw [ho] at hne
          simp only [Option.bind_some] at hne ⊢
          by_cases hr : 0 ≤ o ∧ o ≤ 255
          · rw [classful_of_range o hr]
            exact Abbrev.bare s o (not_mem_of_contains_false hs) hcol hpi hl ho hr
          · rw [classful_out_of_range _ hr] at hne; exact absurd rfl hne
      · rw [if_neg hl] at hne; exact absurd rfl hne

theorem abbrev_functional (s t t' : List Char) (h : Abbrev s t) (h' : Abbrev s t') : t = t' := by
  rw [← abbrev_sound s t h, ← abbrev_sound s t' h']

/-- **`cidr_abbrev_to_verbose` on strings, exactly.**  The function returns `t` exactly when a
    documented rule expands `s` to `t`, or no rule applies to `s` at all and `t` is `s` itself
    ("the original value if it was not recognised as a supported abbreviation"). -/
theorem abbrev_iff (s t : List Char) :
    cidrAbbrevToVerbose s = t ↔ Abbrev s t ∨ (t = s ∧ ¬ ∃ t', Abbrev s t') := by
  constructor
  · intro h
    by_cases hex : ∃ t', Abbrev s t'
    · obtain ⟨t', ht'⟩ := hex
      left
      rw [← h, abbrev_sound s t' ht']; exact ht'
    · right
      refine ⟨?_, hex⟩
      apply Classical.byContradiction
      intro hne
      apply hex
      refine ⟨cidrAbbrevToVerbose s, abbrev_complete s ?_⟩
      rw [h]; exact hne
  · rintro (h | ⟨rfl, hno⟩)
    · exact abbrev_sound s t h
    · apply Classical.byContradiction
      intro hne
      exact hno ⟨_, abbrev_complete t hne⟩

/-- **Exactly when the text comes back unchanged**: no rule applies, or the `slash` rule applies
    and pads nothing (`Abbrev s s`: four '.'-pieces already, as in '1.2.3.4/24') -/
theorem abbrev_unchanged_iff (s : List Char) :
    cidrAbbrevToVerbose s = s ↔ Abbrev s s ∨ ¬ ∃ t, Abbrev s t := by
  rw [abbrev_iff]
  constructor
  · rintro (h | ⟨_, h⟩)
    · exact Or.inl h
    · exact Or.inr h
  · rintro (h | h)
    · exact Or.inl h
    · exact Or.inr ⟨rfl, h⟩

/-- which rule can apply to which text (inversion) -/
theorem abbrev_inv (s t : List Char) (h : Abbrev s t) :
    (∃ n, Py.pyInt 10 s = some n ∧ (0 ≤ n ∧ n ≤ 255)) ∨
    (∃ A T q, s = A ++ '/' :: T ∧ '/' ∉ A ∧ Py.pyInt 10 T = some q ∧ (0 ≤ q ∧ q ≤ 32) ∧ (A.splitOn '.').length ≤ 4) ∨
    (∃ o, '/' ∉ s ∧ Py.pyInt 10 s = none ∧ (s.splitOn '.').length ≤ 4 ∧
      Py.pyInt 10 ((s.splitOn '.').headD []) = some o ∧ (0 ≤ o ∧ o ≤ 255)) := by
  cases h with
  | single _ n hpi hn => exact Or.inl ⟨n, hpi, hn⟩
  | slash A T q hA hc hq hr hl => exact Or.inr (Or.inl ⟨A, T, q, rfl, hA, hq, hr, hl⟩)
  | bare _ o hs hc hpi hl ho hr => exact Or.inr (Or.inr ⟨o, hs, hpi, hl, ho, hr⟩)

theorem split_unique (A T A' T' : List Char) (hA : '/' ∉ A) (hA' : '/' ∉ A')
    (h : A ++ '/' :: T = A' ++ '/' :: T') : A = A' ∧ T = T' :=
  append_cons_inj hA hA' h

/-- **The four ways a text is left alone** (beside texts with ':' and the empty text):
    (a) `A/T` where `T` is not a numeral, or a numeral outside 0..32 ('10/33', '10/x');
    (b) a '/'-free text with more than four '.'-pieces ('1.2.3.4.5');
    (c) one numeral outside 0..255 ('256', '-1');
    (d) a '/'-free text that is no numeral whose first '.'-piece is not a numeral in 0..255
        ('x.1', '300.1'). -/
theorem abbrev_unchanged (s : List Char) :
    (∀ A T, s = A ++ '/' :: T → '/' ∉ A → (∀ q, Py.pyInt 10 T = some q → ¬ (0 ≤ q ∧ q ≤ 32)) →
      cidrAbbrevToVerbose s = s) ∧
    ('/' ∉ s → (s.splitOn '.').length > 4 → cidrAbbrevToVerbose s = s) ∧
    (∀ n, Py.pyInt 10 s = some n → ¬ (0 ≤ n ∧ n ≤ 255) → cidrAbbrevToVerbose s = s) ∧
    ('/' ∉ s → Py.pyInt 10 s = none →
      (∀ o, Py.pyInt 10 ((s.splitOn '.').headD []) = some o → ¬ (0 ≤ o ∧ o ≤ 255)) → cidrAbbrevToVerbose s = s) := by
  -- each clause is one of the input-form equations `abbrev_colon`, `abbrev_of_int`, `abbrev_of_slash`, `abbrev_of_bare`
  refine ⟨?_, ?_, ?_, ?_⟩
  · rintro A T rfl hA hT
    by_cases hc : ':' ∈ A ++ '/' :: T
    · exact abbrev_colon _ hc
    · rw [abbrev_of_slash A T (contains_false_of_not_mem hA) hc]
      cases hq : Py.pyInt 10 T with
      | none => rfl
      | some q => exact if_neg fun h => hT q hq h.1
  · intro hsl hlen
    by_cases hc : ':' ∈ s
    · exact abbrev_colon s hc
    · cases hpi : Py.pyInt 10 s with
      | some n =>
        -- a numeral has no '.', hence one piece
        rw [List.splitOn_eq_singleton (pyInt_some_clean s n hpi).1] at hlen
        exact absurd hlen (Nat.not_lt.mpr (Nat.le_add_left 1 3))
      | none =>
        rw [abbrev_of_bare s (contains_false_of_not_mem hsl) hc hpi]
        exact if_neg (Nat.not_le_of_lt hlen)
  · intro n hpi hn
    rw [abbrev_of_int s n hpi, classful_out_of_range n hn]
  · intro hsl hpi ho
    by_cases hc : ':' ∈ s
    · exact abbrev_colon s hc
    · rw [abbrev_of_bare s (contains_false_of_not_mem hsl) hc hpi]
      split
      · cases hh : Py.pyInt 10 ((s.splitOn '.').headD []) with
        | none => rfl
        | some o => rw [Option.bind_some, classful_out_of_range o (ho o hh)]
      · rfl

/-- **'10/16' → '10.0.0.0/16', '128/8' → '128.0.0.0/8', '192.168/16' → '192.168.0.0/16', for all
    such texts**: one to four '.'-free, ':'-free, '/'-free pieces joined by '.', then '/' and a
    decimal prefix `p ≤ 32` — the pieces are padded with "0" pieces, the prefix is kept (NOT
    replaced by the class prefix). -/
theorem abbrev_slash_dec (os : List (List Char)) (p : Nat) (hne : os ≠ []) (hlen : os.length ≤ 4)
    (hclean : ∀ o ∈ os, '.' ∉ o ∧ ':' ∉ o ∧ '/' ∉ o) (hp : p ≤ 32) :
    cidrAbbrevToVerbose (['.'].intercalate os ++ '/' :: dec p) =
      ['.'].intercalate (os ++ List.replicate (4 - os.length) ['0']) ++ '/' :: dec p := by
  obtain ⟨hsplit, hcol, hA⟩ := clean_join os hne hclean
  have hc : ':' ∉ ['.'].intercalate os ++ dec p := fun h =>
    (List.mem_append.mp h).elim hcol (not_mem_toDigits_ten (by decide) p)
  have ab := Abbrev.slash (['.'].intercalate os) (dec p) p hA hc (pyInt_dec p) (by omega) (by rw [hsplit]; exact hlen)
  rw [abbrev_sound _ _ ab]
  simp only [padded, hsplit]

example : cidrAbbrevToVerbose "10/16".toList = "10.0.0.0/16".toList := by decide_lit
example : cidrAbbrevToVerbose "128/8".toList = "128.0.0.0/8".toList := by decide_lit
example : cidrAbbrevToVerbose "192.168/16".toList = "192.168.0.0/16".toList := by decide_lit
example : cidrAbbrevToVerbose "10/33".toList = "10/33".toList := by decide_lit
example : cidrAbbrevToVerbose "1.2.3.4.5".toList = "1.2.3.4.5".toList := by decide_lit
example : cidrAbbrevToVerbose "256".toList = "256".toList := by decide_lit
example : cidrAbbrevToVerbose "x.1".toList = "x.1".toList := by decide_lit
example : Abbrev "10/16".toList "10.0.0.0/16".toList := by
  repeat rw [String.toList_ofList]
  exact Abbrev.slash ['1', '0'] ['1', '6'] 16 (by decide +kernel) (by decide +kernel) (by decide +kernel)
    (by decide +kernel) (by decide +kernel)
example : Abbrev "1.2.3.4/24".toList "1.2.3.4/24".toList := by
  repeat rw [String.toList_ofList]
  exact Abbrev.slash ['1', '.', '2', '.', '3', '.', '4'] ['2', '4'] 24 (by decide +kernel) (by decide +kernel)
    (by decide +kernel) (by decide +kernel) (by decide +kernel)

/-! ## non-str arguments of `cidr_abbrev_to_verbose` -/

theorem small_lt_limit : 1000 ≤ 10 ^ intMaxStrDigits := by
  have h : 10 ^ 3 ≤ 10 ^ intMaxStrDigits := Nat.pow_le_pow_right (by decide) (by decide)
  have : (10 : Nat) ^ 3 = 1000 := rfl
  omega

/-- **An int argument** (`type(x) is int`): `i` in 0..255 gives the text `i.0.0.0/<class prefix>`
    (10 → '10.0.0.0/8', 128 → '128.0.0.0/16', 224 → '224.0.0.0/4'); every other int below the
    interpreter's int-to-str digit limit comes back as the argument itself (256, -1); beyond that
    limit (|i| ≥ 10^4300) the int cannot be formatted (ValueError inside the `try`) and a
    TypeError leaves the function from the ValueError handler. -/
theorem abbrev_int (i : Int) :
    (0 ≤ i ∧ i ≤ 255 →
      cidrAbbrevToVerboseX (.int i) = .ok (.text (dec i.toNat ++ ".0.0.0/".toList ++ dec (classOf i.toNat)))) ∧
    (¬ (0 ≤ i ∧ i ≤ 255) → i.natAbs < 10 ^ intMaxStrDigits → cidrAbbrevToVerboseX (.int i) = .ok .same) ∧
    (10 ^ intMaxStrDigits ≤ i.natAbs → cidrAbbrevToVerboseX (.int i) = .error .type_) := by
  refine ⟨?_, ?_, ?_⟩
  · intro h
    obtain ⟨hs, _⟩ := showInt_of_range i h
    simp only [cidrAbbrevToVerboseX, abbrevOfInt, classful_of_range i h, hs]
  · intro h hlt
    have : ¬ (i.natAbs ≥ 10 ^ intMaxStrDigits) := by omega
    simp only [cidrAbbrevToVerboseX, abbrevOfInt, classful_out_of_range i h, if_neg this]
  · intro hge
    have h256 := small_lt_limit
    have h : ¬ (0 ≤ i ∧ i ≤ 255) := by omega
    have : i.natAbs ≥ 10 ^ intMaxStrDigits := hge
    simp only [cidrAbbrevToVerboseX, abbrevOfInt, classful_out_of_range i h, if_pos this]

theorem abbrev_int_eq_str (a : Nat) (ha : a < 256) :
    cidrAbbrevToVerboseX (.int a) = cidrAbbrevToVerboseX (.str (dec a)) := by
  have h : (0 : Int) ≤ (a : Int) ∧ (a : Int) ≤ 255 := by omega
  rw [(abbrev_int a).1 h]
  have := abbrev_numeral (dec a) a (pyInt_dec a) h
  simp only [cidrAbbrevToVerboseX, this, Int.toNat_natCast]

/-- **bool, float, None**: `True` / `False` behave as the ints 1 / 0 ('1.0.0.0/8', '0.0.0.0/8'); a
    finite float behaves as its truncation `int(x)` (1.5 → '1.0.0.0/8', -0.5 → '0.0.0.0/8', 256.0
    and -1.0 come back unchanged); `None` (and every object `int()` refuses with TypeError) comes
    back unchanged.  (The float and None clauses are how the model reads `int(abbrev_cidr)`; what
    they add is the tie to the real function through the driver op `abbrev_x`.) -/
theorem abbrev_nonstr :
    cidrAbbrevToVerboseX (.bool true) = .ok (.text "1.0.0.0/8".toList) ∧
    cidrAbbrevToVerboseX (.bool false) = .ok (.text "0.0.0.0/8".toList) ∧
    (∀ t, cidrAbbrevToVerboseX (.float t) = cidrAbbrevToVerboseX (.int t)) ∧
    cidrAbbrevToVerboseX .none = .ok .same := by
  repeat rw [String.toList_ofList]
  exact ⟨by decide +kernel, by decide +kernel, fun _ => rfl, rfl⟩

example : cidrAbbrevToVerboseX (.int 10) = .ok (.text "10.0.0.0/8".toList) := by decide_lit
example : cidrAbbrevToVerboseX (.int 256) = .ok .same ∧ cidrAbbrevToVerboseX (.int (-1)) = .ok .same := by
  have h := small_lt_limit
  have e1 : (256 : Int).natAbs = 256 := rfl
  have e2 : (-1 : Int).natAbs = 1 := rfl
  exact ⟨(abbrev_int 256).2.1 (by omega) (by omega), (abbrev_int (-1)).2.1 (by omega) (by omega)⟩

/-! ## one family per text, at constructor level -/

/-- **No text builds a network in both families**: a string accepted under `version=4` is refused
    with AddrFormatError under `version=6` and vice versa (`IPNetwork('1.2.3.4/24', version=6)`,
    `IPNetwork('::1/64', version=4)`), for every implicit_prefix and flags. -/
theorem version_mismatch_rejects (be : Backend) (s : List Char) (i : Bool) (fl : Nat) :
    ((∃ n, ipNetwork be (.str s) i (some 4) fl = .ok n) → ipNetwork be (.str s) i (some 6) fl = .error .addrFormat) ∧
    ((∃ n, ipNetwork be (.str s) i (some 6) fl = .ok n) → ipNetwork be (.str s) i (some 4) fl = .error .addrFormat) := by
  rw [net_eq be s i (some 4) fl (Or.inr (Or.inl rfl)), net_eq be s i (some 6) fl (Or.inr (Or.inr rfl)), denote_some,
    denote_some]
  cases h4 : spell be 4 (pre i s) with
  | none => exact ⟨fun h => h.elim fun _ h => (nomatch h), fun _ => rfl⟩
  | some r => rw [spell_excl be _ r h4]; exact ⟨fun _ => rfl, fun h => h.elim fun _ h => (nomatch h)⟩

/-- … in particular for every printed network: `IPNetwork(str(n), version=<the other family>)` is
    AddrFormatError -/
theorem version_mismatch_printed (be : Backend) (n : Net) (hn : n.WF) (i : Bool) (fl : Nat) :
    ipNetwork be (.str (netStr be n)) i (some (10 - n.ver)) fl = .error .addrFormat := by
  have hrt := str_roundtrip_all be n hn (some n.ver) (Or.inr rfl) fl i
  rcases hn.1 with e | e
  · rw [e] at hrt ⊢
    exact (version_mismatch_rejects be _ i fl).1 ⟨_, hrt⟩
  · rw [e] at hrt ⊢
    exact (version_mismatch_rejects be _ i fl).2 ⟨_, hrt⟩

/-- **Address part and mask part must be of one family.**  `A/M` ('/' not in `A`): an address part
    with ':' followed by a ':'-free mask text that is no numeral (`'::1/255.255.255.0'`,
    `'::1/0.0.0.255'`, `'::1/0.0.0.0'`), or a ':'-free address part followed by a mask text with
    ':' (`'1.2.3.4/ffff::'`, `'1.2.3.4/::ff'`, `'1.2.3.4/::ffff:ff00'`), is AddrFormatError — whatever
    integer the mask text would denote in its own family (contiguous or not), for version
    None / 4 / 6, every implicit_prefix and flags. -/
theorem cross_family_mask_rejects (be : Backend) (A M : List Char) (hA : '/' ∉ A) (i : Bool) (pver : Option Nat)
    (hpver : pver = none ∨ pver = some 4 ∨ pver = some 6) (fl : Nat) :
    (':' ∈ A → ':' ∉ M → Py.pyInt 10 M = none → ipNetwork be (.str (A ++ '/' :: M)) i pver fl = .error .addrFormat) ∧
    (':' ∉ A → ':' ∈ M → ipNetwork be (.str (A ++ '/' :: M)) i pver fl = .error .addrFormat) := by
  have hAc : A.contains '/' = false := contains_false_of_not_mem hA
  constructor
  · intro hcA hcM hpi
    apply net_slash_err be pver hpver A M hAc i fl
    rintro ver (rfl | rfl) _
    · exact Or.inl (addrVal4_colon be hcA)
    · exact Or.inr (plenVal_refused be 6 (Or.inr rfl) M hpi fun m hip => hcM (colon_of_strict6 be M _ hip))
  · intro hcA hcM
    apply net_slash_err be pver hpver A M hAc i fl
    rintro ver (rfl | rfl) _
    · exact Or.inr (plenVal_refused be 4 (Or.inl rfl) M (pyInt_colon M hcM) fun m hip =>
        nocolon_of_strict4 be M _ hip hcM)
    · exact Or.inl (addrVal6_nocolon be hcA)

example : ipNetwork .platform (.str "::1/255.255.255.0".toList) false none 0 = .error .addrFormat ∧
    ipNetwork .platform (.str "::1/0.0.0.255".toList) false (some 6) 0 = .error .addrFormat ∧
    ipNetwork .platform (.str "1.2.3.4/ffff::".toList) false none 0 = .error .addrFormat ∧
    ipNetwork .platform (.str "1.2.3.4/::ffff:ff00".toList) true (some 4) 0 = .error .addrFormat ∧
    ipNetwork .platform (.str "1.2.3.4/24".toList) false (some 6) 0 = .error .addrFormat ∧
    ipNetwork .platform (.str "::1/64".toList) false (some 4) 0 = .error .addrFormat := by decide_lit

/-! ## `repr(IPNetwork)` -/

theorem unquoteNet_frame (m : List Char) : unquoteNetRepr (netReprPrefix ++ (m ++ netReprSuffix)) = some m :=
  unframe _ _ m

/-- **`repr(IPNetwork)` and its `eval`-free round trip.**  `repr(n)` is `IPNetwork('` + `str(n)` +
    `')`; removing that frame gives back `str(n)`, and constructing from it — version None or the
    network's own, implicit_prefix or not — gives back `n` (host bits included; with NOHOST the
    host bits are cleared, as for `str(n)` itself). -/
theorem netRepr_roundtrip (be : Backend) (n : Net) (hn : n.WF) (pver : Option Nat)
    (hpver : pver = none ∨ pver = some n.ver) (i : Bool) (fl : Nat) :
    netRepr be n = "IPNetwork('".toList ++ (intToStr be n.ver n.val ++ ['/'] ++ dec n.plen ++ "')".toList) ∧
    unquoteNetRepr (netRepr be n) = some (netStr be n) ∧
    ∀ q, unquoteNetRepr (netRepr be n) = some q →
      ipNetwork be (.str q) i pver fl = .ok ⟨n.ver, stored n.ver fl n.val n.plen, n.plen⟩ ∧
      (hasFlag fl NOHOST = false → ipNetwork be (.str q) i pver fl = .ok n) := by
  have hu : unquoteNetRepr (netRepr be n) = some (netStr be n) := unquoteNet_frame _
  refine ⟨rfl, hu, ?_⟩
  intro q hq
  rw [hu] at hq
  injection hq with hq
  subst hq
  have hrt := str_roundtrip_all be n hn pver hpver fl i
  refine ⟨hrt, ?_⟩
  intro hf
  rw [hrt]
  simp [stored, hf]

example : netRepr .platform ⟨4, 0x01020304, 24⟩ = "IPNetwork('1.2.3.4/24')".toList := by decide_lit
example : netRepr .platform ⟨6, 0xffff01020304, 100⟩ = "IPNetwork('::ffff:1.2.3.4/100')".toList := by decide_lit

end NV.C03A2
