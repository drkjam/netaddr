/-
Props/C03.lean — C03: all network notations denote the same network; str() round-trips.

Property (properties.jsonl): for every address a and prefix p, the strings 'a/p',
'a/<netmask of p>', 'a/<hostmask of p>', the tuple (int(a), p) and copy-construction all build the
same IPNetwork (same version, same stored address including host bits, same prefix); str() of
any IPNetwork parses back to an identical one; a bare address gets the full-width prefix; NOHOST
clears exactly the host bits; partial / classful IPv4 abbreviations expand by the documented
octet-padding and class rules; a prefix outside 0..width, a non-contiguous mask or a malformed
address raises AddrFormatError.

Reading of the `p ∈ {0, width}` corner (DESIGN.md, C03): the all-zeros / all-ones mask strings
are netmasks first, so the hostmask spelling of /0 reads as /width and vice versa.

The theorems are about `NV.NetParse.ipNetwork` / `parseIpNetwork` / `netStr` /
`cidrAbbrevToVerbose` / `expandPartialAddress` (Model/NetParse.lean), for both back ends.

This file states the property clause by clause at flags 0 / NOHOST (`rejects`: every flags value),
implicit_prefix as in the clause, canonical decimal octets; each clause is an instance of the
general theorems in Props/C03b.lean (acceptance, all spellings, tuples) and Props/C03c.lean
(partial and classful forms, rejections).
-/
import NetaddrVerif.Props.C03c
namespace NV.C03
open NV NV.Text4 NV.AddrParse NV.NetParse NV.C01L NV.C03L

/-- **All spellings agree.**  For every family, value `v` and prefix `p`: 'a/p', 'a/<netmask of p>',
    'a/<hostmask of p>', the tuple `(v, p)` and copy construction build `⟨ver, v, p⟩` — host bits
    kept — with explicit or detected version; the hostmask spelling at `p ∈ {0, width}` is the
    all-ones / all-zeros mask and reads as the netmask of `width - p` (netmask precedence). -/
theorem spellings_agree (be : Backend) (ver : Nat) (hver : VerOK ver) (v : Nat) (hv : v < 2 ^ width ver)
    (p : Nat) (hp : p ≤ width ver) (pver : Option Nat) (hpver : pver = none ∨ pver = some ver) :
    let a := intToStr be ver v
    let w := width ver
    ipNetwork be (.str (a ++ '/' :: dec p)) false pver 0 = .ok ⟨ver, v, p⟩ ∧
    ipNetwork be (.str (a ++ '/' :: intToStr be ver (netNetmask w p))) false pver 0 = .ok ⟨ver, v, p⟩ ∧
    ipNetwork be (.str (a ++ '/' :: intToStr be ver (netHostmask w p))) false pver 0
      = .ok ⟨ver, v, if p = 0 ∨ p = w then w - p else p⟩ ∧
    ipNetwork be (.tuple v p) false (some ver) 0 = .ok ⟨ver, v, p⟩ ∧
    ipNetwork be (.copyNet ⟨ver, v, p⟩) false pver 0 = .ok ⟨ver, v, p⟩ := by
  intro a w
  exact spellings_agree_all be ver hver v hv p hp pver hpver 0 false

example : VerOK 6 ∧ (0xfe80 <<< 112 ||| 5) < 2 ^ width 6 ∧ 10 ≤ width 6 := ⟨Or.inr rfl, by decide +kernel, by decide +kernel⟩

/-- **str() round trip.**  `IPNetwork(str(n)) = n` (version, value with host bits, prefix), with
    or without an explicit version, on both back ends. -/
theorem str_roundtrip (be : Backend) (n : Net) (hn : n.WF) (pver : Option Nat) (hpver : pver = none ∨ pver = some n.ver) :
    ipNetwork be (.str (netStr be n)) false pver 0 = .ok n :=
  str_roundtrip_all be n hn pver hpver 0 false

example : (⟨4, 0xC0A80105, 24⟩ : Net).WF := by simp [Net.WF, width]

/-- **A bare address gets the full-width prefix** (string or IPAddress copy). -/
theorem bare_gets_width (be : Backend) (ver : Nat) (hver : VerOK ver) (v : Nat) (hv : v < 2 ^ width ver)
    (pver : Option Nat) (hpver : pver = none ∨ pver = some ver) :
    ipNetwork be (.str (intToStr be ver v)) false pver 0 = .ok ⟨ver, v, width ver⟩ ∧
    ipNetwork be (.copyAddr ⟨ver, v⟩) false pver 0 = .ok ⟨ver, v, width ver⟩ :=
  have h := bare_all be ver hver v hv pver hpver 0
  ⟨h.1, h.2.2.2 false⟩

/-- **NOHOST clears exactly the host bits**: the stored value becomes `v / 2^(w-p) * 2^(w-p)`
    (prefix kept), for the string and the tuple form. -/
theorem nohost_clears_exactly (be : Backend) (ver : Nat) (hver : VerOK ver) (v : Nat) (hv : v < 2 ^ width ver)
    (p : Nat) (hp : p ≤ width ver) (pver : Option Nat) (hpver : pver = none ∨ pver = some ver) :
    ipNetwork be (.str (intToStr be ver v ++ '/' :: dec p)) false pver NOHOST
      = .ok ⟨ver, v / 2 ^ (width ver - p) * 2 ^ (width ver - p), p⟩ ∧
    ipNetwork be (.tuple v p) false (some ver) NOHOST
      = .ok ⟨ver, v / 2 ^ (width ver - p) * 2 ^ (width ver - p), p⟩ := by
  have h := spellings_agree_all be ver hver v hv p hp pver hpver NOHOST false
  rw [← (nohost_every_spelling ver v hv p hp).1]
  exact ⟨h.1, h.2.2.2.1⟩

example : (0xC0A80105 : Nat) / 2 ^ (32 - 24) * 2 ^ (32 - 24) = 0xC0A80100 := rfl

theorem tuple_implicit (be : Backend) (v p : Nat) :
    (v < 2 ^ 32 → p ≤ 32 → ipNetwork be (.tuple v p) false none 0 = .ok ⟨4, v, p⟩) ∧
    (v < 2 ^ 128 → p ≤ 128 → ¬ (v < 2 ^ 32 ∧ p ≤ 32) → ipNetwork be (.tuple v p) false none 0 = .ok ⟨6, v, p⟩) := by
  have h := (tuple_all be v p false 0).2
  constructor
  · intro hv hp
    rw [h, if_pos (by rw [fits4_iff]; omega)]; rfl
  · intro hv hp hno
    rw [h, if_neg (by rw [fits4_iff]; omega), if_pos (by rw [fits6_iff]; omega)]; rfl

/-- **Rejections.**  (1) a decimal prefix beyond the width, (2) a tuple whose value or prefix is
    out of range (negative or too large), (3) a mask text that is neither a netmask nor a
    hostmask: each raises AddrFormatError, with explicit or detected version (the tuple: explicit). -/
theorem rejects (be : Backend) (ver : Nat) (hver : VerOK ver) (v : Nat) (hv : v < 2 ^ width ver)
    (pver : Option Nat) (hpver : pver = none ∨ pver = some ver) (fl : Nat) :
    (∀ q, q > width ver →
      ipNetwork be (.str (intToStr be ver v ++ '/' :: dec q)) false pver fl = .error .addrFormat) ∧
    (∀ value prefixlen : Int, ¬ (0 ≤ value ∧ value ≤ (maxInt ver : Int)) ∨ ¬ (0 ≤ prefixlen ∧ prefixlen ≤ (width ver : Int)) →
      ipNetwork be (.tuple value prefixlen) false (some ver) fl = .error .addrFormat) ∧
    (∀ m, m < 2 ^ width ver → isNetmask (width ver) m = false → isHostmask m = false →
      ipNetwork be (.str (intToStr be ver v ++ '/' :: intToStr be ver m)) false pver fl = .error .addrFormat) := by
  have hns := addr_noslash be ver hver v hv
  have hpver' := pver_of ver hver pver hpver
  refine ⟨?_, ?_, ?_⟩
  · intro q hq
    obtain ⟨r1, r2, r3⟩ := rejects_numeral be _ (dec q) (q : Int) hns (pyInt_dec q) false fl
    rcases hpver with e | e <;> subst e
    · rcases hver with r | r <;> subst r
      · exact r3 (colon_not_in_ntoa v) (by have : width 4 = 32 := rfl; omega)
      · exact r2 (by have : width 6 = 128 := rfl; omega)
    · exact r1 ver hver (by omega)
  · intro value prefixlen h
    rw [(tuple_all be value prefixlen false fl).1 ver hver, if_neg]
    intro hf
    rcases h with h | h
    · exact h hf.1
    · exact h hf.2
  · intro m hm hn hh
    exact rejects_bad_mask be ver hver _ hns m hm hn hh pver hpver' false fl

example : isNetmask 32 0xff00ff00 = false ∧ isHostmask 0xff00ff00 = false ∧ 0xff00ff00 < 2 ^ width 4 :=
  ⟨rfl, rfl, by decide⟩

theorem join_dec (a b c : Nat) :
    ['.'].intercalate ([a].map dec) = dec a ∧
    ['.'].intercalate ([a, b].map dec) = dec a ++ '.' :: dec b ∧
    ['.'].intercalate ([a, b, c].map dec) = dec a ++ '.' :: (dec b ++ '.' :: dec c) := by
  simp [List.intercalate]

theorem quadVal_nat (a b c : Nat) :
    Acc.quadVal ([a].map (fun d : Nat => (d : Int))) = a * 16777216 ∧
    Acc.quadVal ([a, b].map (fun d : Nat => (d : Int))) = a * 16777216 + b * 65536 ∧
    Acc.quadVal ([a, b, c].map (fun d : Nat => (d : Int))) = a * 16777216 + b * 65536 + c * 256 :=
  have h := quadVal_octs a b c 0
  ⟨h.1, h.2.1, h.2.2.1⟩

/-- a single octet `a` abbreviates `a.0.0.0/<class prefix>`; with `implicit_prefix=True` the
    network is `⟨4, a·2^24, class prefix⟩` -/
theorem abbrev_single (be : Backend) (a : Nat) (ha : a < 256) :
    cidrAbbrevToVerbose (dec a) = dec a ++ ".0.0.0/".toList ++ dec (classOf a) ∧
    ipNetwork be (.str (dec a)) true (some 4) 0 = .ok ⟨4, a * 16777216, classOf a⟩ := by
  constructor
  · exact abbrev_numeral (dec a) a (pyInt_dec a) (by omega)
  · have h := (classful_canonical be [a] (by simp) (by simp) (by simpa using ha) (some 4) (Or.inr rfl) 0).1
    rw [(join_dec a 0 0).1, (quadVal_nat a 0 0).1] at h
    exact h

example : classOf 10 = 8 ∧ classOf 128 = 16 ∧ classOf 192 = 24 ∧ classOf 224 = 4 ∧ classOf 240 = 32 :=
  ⟨rfl, rfl, rfl, rfl, rfl⟩

/-- **Partial IPv4 addresses expand by octet padding**: one, two or three decimal octets
    (`a`, `a.b`, `a.b.c`) followed by '/p' denote `a.0.0.0/p`, `a.b.0.0/p`, `a.b.c.0/p`. -/
theorem partial_expands (be : Backend) (a b c p : Nat) (ha : a < 256) (hb : b < 256) (hc : c < 256) (hp : p ≤ 32) :
    ipNetwork be (.str (dec a ++ '/' :: dec p)) false (some 4) 0 = .ok ⟨4, a * 16777216, p⟩ ∧
    ipNetwork be (.str (dec a ++ '.' :: dec b ++ '/' :: dec p)) false (some 4) 0
      = .ok ⟨4, a * 16777216 + b * 65536, p⟩ ∧
    ipNetwork be (.str (dec a ++ '.' :: (dec b ++ '.' :: dec c) ++ '/' :: dec p)) false (some 4) 0
      = .ok ⟨4, a * 16777216 + b * 65536 + c * 256, p⟩ := by
  obtain ⟨j1, j2, j3⟩ := join_dec a b c
  obtain ⟨q1, q2, q3⟩ := quadVal_nat a b c
  have h1 := (classful_canonical be [a] (by simp) (by simp) (by simpa using ha) (some 4) (Or.inr rfl) 0).2.2 p false hp
  have h2 := (classful_canonical be [a, b] (by simp) (by simp) (by simp; exact ⟨ha, hb⟩) (some 4) (Or.inr rfl) 0).2.2 p false hp
  have h3 := (classful_canonical be [a, b, c] (by simp) (by simp) (by simp; exact ⟨ha, hb, hc⟩) (some 4) (Or.inr rfl) 0).2.2 p false hp
  rw [j1, q1] at h1
  rw [j2, q2] at h2
  rw [j3, q3] at h3
  exact ⟨h1, h2, h3⟩

example : (192 : Nat) * 16777216 + 168 * 65536 = 0xC0A80000 := rfl

/-- `cidr_abbrev_to_verbose` on 2-4 dotted decimal octets without a prefix: pad with zero octets,
    append the class prefix of the first octet -/
theorem abbrev_tokens (os : List Nat) (a : Nat) (rest : List Nat) (hos : os = a :: rest) (ha : a < 256)
    (hlen : 2 ≤ os.length ∧ os.length ≤ 4) :
    cidrAbbrevToVerbose (['.'].intercalate (os.map dec)) =
      ['.'].intercalate (os.map dec ++ List.replicate (4 - os.length) ['0']) ++ ['/'] ++ dec (classOf a) := by
  subst hos
  have h := abbrev_many ((a :: rest).map dec) (dec a) (rest.map dec) rfl
    (by
      intro o ho
      obtain ⟨n, _, rfl⟩ := List.mem_map.mp ho
      exact ⟨not_mem_toDigits_ten (by decide) n, not_mem_toDigits_ten (by decide) n, not_mem_toDigits_ten (by decide) n⟩)
    (by simpa using hlen) (a : Int) (pyInt_dec a) (by omega)
  rw [h, List.length_map, Int.toNat_natCast, List.append_assoc]
  rfl

/-- **Classful abbreviations with `implicit_prefix=True`**: `a.b` is `a.b.0.0/<class of a>` and
    `a.b.c` is `a.b.c.0/<class of a>`. -/
theorem abbrev_multi (be : Backend) (a b c : Nat) (ha : a < 256) (hb : b < 256) (hc : c < 256) :
    ipNetwork be (.str (dec a ++ '.' :: dec b)) true (some 4) 0 = .ok ⟨4, a * 16777216 + b * 65536, classOf a⟩ ∧
    ipNetwork be (.str (dec a ++ '.' :: (dec b ++ '.' :: dec c))) true (some 4) 0
      = .ok ⟨4, a * 16777216 + b * 65536 + c * 256, classOf a⟩ := by
  obtain ⟨_, j2, j3⟩ := join_dec a b c
  obtain ⟨_, q2, q3⟩ := quadVal_nat a b c
  have h2 := (classful_canonical be [a, b] (by simp) (by simp) (by simp; exact ⟨ha, hb⟩) (some 4) (Or.inr rfl) 0).1
  have h3 := (classful_canonical be [a, b, c] (by simp) (by simp) (by simp; exact ⟨ha, hb, hc⟩) (some 4) (Or.inr rfl) 0).1
  rw [j2, q2] at h2
  rw [j3, q3] at h3
  exact ⟨h2, h3⟩

example : classOf 192 = 24 ∧ (192 : Nat) * 16777216 + 168 * 65536 = 0xC0A80000 := ⟨rfl, rfl⟩

example : (match ipNetwork .platform (.str "1.2.3.4//".toList) false none 0 with | .error .addrFormat => true | _ => false) = true := by
  decide +kernel

end NV.C03
