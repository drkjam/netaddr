/-
Props/C02.lean — property C02 "Every network's derived attributes satisfy the CIDR bit
identities".  Helper lemmas are in Lemmas/NetworkL, Lemmas/NetBlock and Lemmas/Bitwise; the property's clauses on the mask
predicates, `netmask_bits` and the generated tables stand in Lemmas/NetworkL (as `C02.…`), which the lemma files of other
properties import.

Statement (properties.jsonl): hostmask = 2^(width-p)-1, netmask its complement, network =
value AND netmask, first = int(network), last = first + hostmask, size = last-first+1 =
2^(width-p), broadcast = last (None for IPv4 /31, /32), ip = stored value, cidr = same block
with host bits cleared and the same prefix.  Assigning value / prefixlen / netmask keeps
these identities or raises (AddrFormatError/ValueError/TypeError) leaving the object
unchanged; is_netmask / is_hostmask / netmask_bits hold exactly for contiguous masks and
invert the prefix tables.
-/
import NetaddrVerif.Lemmas.NetBlock
namespace NV.C02
open NV

/-- The CIDR identities, for every width `w`, value `v < 2^w` and prefix `p ≤ w`
    (IPv4: w = 32, IPv6: w = 128); `2^(w-p)` is the block size. -/
theorem identities (w v p : Nat) (hv : v < 2 ^ w) (hp : p ≤ w) :
    netHostmask w p = 2 ^ (w - p) - 1 ∧
    netNetmask w p = 2 ^ w - 1 - netHostmask w p ∧
    netNetwork w v p = v / 2 ^ (w - p) * 2 ^ (w - p) ∧
    netFirst w v p = netNetwork w v p ∧
    netLast w v p = netFirst w v p + netHostmask w p ∧
    netSize w v p = 2 ^ (w - p) ∧
    netFirst w v p ≤ v ∧ v ≤ netLast w v p ∧ netLast w v p < 2 ^ w ∧
    netFirst w v p % 2 ^ (w - p) = 0 := by
  have hH := Nat.two_pow_pos (w - p)
  have hm := netHostmask_eq w p
  have hl := netLast_eq_add w v p hv
  have hb := val_between w v p hv
  refine ⟨hm, ?_, netFirst_eq w v p hv, rfl, ?_, netSize_eq w v p hv, hb.1, hb.2, netLast_lt w v p hv, blkOf_aligned w v p hv⟩
  · rw [hm, Nat.sub_sub_sub_cancel_right hH]; exact netNetmask_eq w p
  · rw [hl, hm]

/-- broadcast is `last`, except that IPv4 /31 and /32 have none -/
theorem broadcast_spec (ver w v p : Nat) :
    netBroadcast ver w v p = if ver = 4 ∧ w - p ≤ 1 then none else some (netLast w v p) := rfl

/-- `cidr` keeps version and prefix, clears exactly the host bits, and denotes the same block -/
theorem cidr_spec (n : Net) (h : n.WF) :
    (netCidr n).ver = n.ver ∧ (netCidr n).plen = n.plen ∧
    (netCidr n).val = n.first ∧ (netCidr n).val % 2 ^ (width n.ver - n.plen) = 0 ∧
    (netCidr n).first = n.first ∧ (netCidr n).last = n.last ∧ (netCidr n).WF := by
  obtain ⟨hver, hv, hp⟩ := h
  exact ⟨rfl, rfl, rfl, blkOf_aligned _ _ _ hv, netFirst_idem _ _ _ hv, netLast_netFirst _ _ _ hv, hver,
    netFirst_lt _ _ _ hv, hp⟩

/-! ### setters -/

/-- a rejected assignment raises one of the three documented classes -/
theorem setter_error_class (n : Net) (op : SetOp) (e : Err) (h : applySet n op = .error e) :
    e = .addrFormat ∨ e = .value ∨ e = .type_ := by
  have store : ∀ {B upd x}, storeBounded B upd x = .error e → e = .addrFormat ∨ e = .value ∨ e = .type_ :=
    fun h => (storeBounded_err h).imp_right Or.inr
  have plen : ∀ {x}, setPrefixlen n x = .error e → e = .addrFormat ∨ e = .value ∨ e = .type_ := fun h => by
    rw [setPrefixlen_eq] at h; exact store h
  cases op with
  | value x =>
    have h : setValue n x = .error e := h
    rw [setValue_eq] at h; exact store h
  | prefixlen x => exact plen h
  | netmask x =>
    have h : setNetmask n x = .error e := h
    rcases setNetmask_cases n x with hc | hc | ⟨bits, hc⟩ <;> rw [hc] at h
    · exact .inl (Except.error.inj h).symm
    · exact .inr (.inl (Except.error.inj h).symm)
    · exact plen h

/-- what a successful assignment does: exactly the assigned field changes, and stays in range -/
theorem setter_ok (n n' : Net) (op : SetOp) (hn : n.WF) (h : applySet n op = .ok n') :
    n'.WF ∧ n'.ver = n.ver ∧
    (match op with
     | .value _ => n'.plen = n.plen
     | .prefixlen _ => n'.val = n.val
     | .netmask _ => n'.val = n.val) := by
  obtain ⟨hver, hv, hp⟩ := hn
  have plen : ∀ {x}, setPrefixlen n x = .ok n' → n'.WF ∧ n'.ver = n.ver ∧ n'.val = n.val := fun h => by
    rw [setPrefixlen_eq] at h
    obtain ⟨p, _, hp', rfl⟩ := (storeBounded_ok_iff _ _ _ _).1 h
    exact ⟨⟨hver, hv, hp'⟩, rfl, rfl⟩
  cases op with
  | value x =>
    have h : setValue n x = .ok n' := h
    rw [setValue_eq] at h
    obtain ⟨v, _, hv', rfl⟩ := (storeBounded_ok_iff _ _ _ _).1 h
    exact ⟨⟨hver, lt_of_le_maxInt hv', hp⟩, rfl, rfl⟩
  | prefixlen x => exact plen h
  | netmask x =>
    have h : setNetmask n x = .ok n' := h
    rcases setNetmask_cases n x with hc | hc | ⟨bits, hc⟩ <;> rw [hc] at h
    · cases h
    · cases h
    · exact plen h

/-- one assignment on a live object: well-formedness is kept, and a failing assignment
    leaves the object exactly as it was -/
theorem stepSet_spec (n : Net) (op : SetOp) (hn : n.WF) :
    (stepSet n op).1.WF ∧ ((stepSet n op).2 ≠ none → (stepSet n op).1 = n) := by
  unfold stepSet
  cases h : applySet n op with
  | ok n' => exact ⟨(setter_ok n n' op hn h).1, fun h => absurd rfl h⟩
  | error e => exact ⟨hn, fun _ => rfl⟩

/-- every setter sequence on a live object keeps it well-formed (so `identities` keeps
    applying to it): induction over the sequence -/
theorem setters_preserve (ops : List SetOp) (n : Net) (hn : n.WF) :
    (ops.foldl (fun s o => (stepSet s o).1) n).WF := by
  induction ops generalizing n with
  | nil => exact hn
  | cons o os ih => exact ih _ (stepSet_spec n o hn).1

/-! ### non-vacuity: the hypotheses are met by concrete non-trivial objects -/
example : (⟨4, 3232235777, 24⟩ : Net).WF := by simp [Net.WF, width]
example : netFirst 32 3232235777 24 = 3232235776 ∧ netLast 32 3232235777 24 = 3232236031 := by decide
example : applySet ⟨4, 5, 24⟩ (.netmask (.int 4294901760)) = .ok ⟨4, 5, 16⟩ := by decide +kernel
example : applySet ⟨4, 5, 24⟩ (.prefixlen (.int 33)) = .error .addrFormat := by decide
example : isNetmask 32 4294901760 = true ∧ isNetmask 32 4294901761 = false := by decide

end NV.C02
