/-
Props/C17Audit2.lean — property C17 (nmap part): the generator when no item is asked for.

`iter_nmap_range` (nmap.py:104-117) is a generator: nothing of its body — not even the parse of
the first target spec — runs before the first `next()`, and `itertools.islice(gen, 0)` never
calls `next()`.  So `list(islice(iter_nmap_range('bad'), 0)) == []`.  `Nmap.iterNmapRange F fuel`
is the generator advanced at least once (`fuel ≥ 1`); the theorems of Props/C17.lean and
Props/C17Nmap.lean that assert an exception (or equate the result with the parse phase)
carry `0 < fuel`.  Here: the function for every `fuel`, `Nmap.isliceNmapRange` (driver op
`nmap_take`, which the harness also sends with `fuel = 0`), and its relation to
`iterNmapRange`, to the parse phase and to the whole-call model `isliceNmapRanges`.
-/
import NetaddrVerif.Props.C17Nmap
namespace NV.C17A2
open NV NV.Nmap NV.C17 NV.C17L.Plan

/-- **Nothing asked, nothing run**: with `fuel = 0` the answer is `[]` and no exception, whatever
    the spec(s) — malformed ones included, for one spec and for any argument list -/
theorem nmap_take_zero (F : Foreign) (spec : List Char) (specs : List (List Char)) :
    isliceNmapRange F 0 spec = .ok [] ∧ isliceNmapRanges F 0 specs = ([], none) := by
  refine ⟨rfl, ?_⟩
  cases specs with
  | nil => rfl
  | cons s r => simp [isliceNmapRanges]

/-- from the first item on it is `iterNmapRange`, about which C17 / C17Nmap speak -/
theorem nmap_take_pos (F : Foreign) (fuel : Nat) (hf : 0 < fuel) (spec : List Char) :
    isliceNmapRange F fuel spec = iterNmapRange F fuel spec := by
  unfold isliceNmapRange; rw [if_neg (by omega)]

/-- **Errors at the first `next()`, not before** (the statement of `C17.nmap_errors_in_parse` for
    every `fuel`): no items asked — `[]`; otherwise an error exactly when the parse phase fails,
    with that error, else the first `fuel` items of the plan -/
theorem nmap_take_errors (F : Foreign) (fuel : Nat) (spec : List Char) :
    isliceNmapRange F fuel spec =
      if fuel = 0 then .ok [] else (parsePlan F spec).map (Plan.items fuel) := by
  unfold isliceNmapRange
  split
  · rfl
  · exact parseTargetSpec_eq_plan F fuel spec

/-- the one-spec function is the whole-call model `isliceNmapRanges` on a one-element argument
    list, for every `fuel` (so the driver ops `nmap_take` and `nmap_islice` agree) -/
theorem nmap_take_eq_islice (F : Foreign) (fuel : Nat) (s : List Char) :
    isliceNmapRanges F fuel [s] =
      match isliceNmapRange F fuel s with
      | .ok l => (l, none)
      | .error e => ([], some e) := by
  rw [nmap_take_errors]
  by_cases h0 : fuel = 0
  · subst h0; simp [isliceNmapRanges]
  · rw [if_neg h0]
    cases hp : parsePlan F s with
    | error e => simp [isliceNmapRanges, h0, hp, Except.map]
    | ok p => simp [isliceNmapRanges, h0, hp, Except.map]

/-- a malformed spec: an exception from one item on, none at zero -/
example : isliceNmapRange (realForeign .platform) 0 "1.2.3".toList = .ok [] ∧
    isliceNmapRange (realForeign .platform) 1 "1.2.3".toList = .error .addrFormat ∧
    isliceNmapRange (realForeign .platform) 0 "10.0.0.0/33".toList = .ok [] ∧
    isliceNmapRange (realForeign .platform) 2 "10.0.0.0/33".toList = .error .addrFormat ∧
    isliceNmapRange (realForeign .platform) 2 "10.0.0.0/31".toList = .ok [⟨4, 167772160⟩, ⟨4, 167772161⟩] ∧
    isliceNmapRanges (realForeign .platform) 0 ["x/y".toList, "::".toList] = ([], none) := by
  decide_lit

end NV.C17A2
