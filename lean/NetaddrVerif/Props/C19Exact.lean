/-
Props/C19Exact.lean — C19: the dict `.info` wraps, `load_index`, and lookups through the loaded index on every text.

  * `queryD_exact`, `info_access`       — the dict `.info` wraps: which keys exist (a registry without a hit has
                                          NO key: `info['IPv6']` is `None`, `info.IPv6` raises AttributeError), and
                                          what a present key maps to (never `[]`);
  * `loadIndex_ok_iff`, `iabLoad_raw`, `iabPipeline_ok_iff`, `ouiPipeline_ok_iff`
                                        — `load_index` is `int(key)` row by row: ValueError exactly when the IAB
                                          parser left a bytes key, i.e. some record has no `(base 16)` line;
  * `lookup_exact_oui`, `lookup_exact_iab`, `lookup_through_index_iab_loaded`
                                        — parser → index file → `load_index` → `OUI(v)` / `IAB(v)` with seek+read on
                                          the same text, for EVERY text: the registrations returned are the parses of
                                          exactly the records of the text that carry `v`, all of them, in file order
                                          (IAB: the first of them), NotRegisteredError iff there is none;
  * `shipped_rows_delimit_iab/_oui`     — IF an index file's rows are what the (model) parser yields on a text
                                          THEN every row's byte range is exactly that identifier's record in the
                                          text, rows and records correspond one to one in order, and an
                                          identifier is registered iff it has a row iff a record carries it.
-/
import NetaddrVerif.Props.C19
import NetaddrVerif.Lemmas.C19LLoad
namespace NV.C19
open NV NV.Registry NV.C19L

/-! ## the dict `.info` wraps -/

/-- what one entry of the dict must be: absent iff no record of the registry `table` qualifies
    (`P`); otherwise present, non-empty, in table order, with exactly the qualifying records -/
def EntryExact (e : Option (List Rec)) (table : List Rec) (P : Rec → Prop) : Prop :=
  (e = none ↔ ∀ r ∈ table, ¬ P r) ∧
  (∀ l, e = some l → l ≠ [] ∧ l.Sublist table ∧ ∀ r, r ∈ l ↔ r ∈ table ∧ P r)

theorem entryExact_of {l table : List Rec} {P : Rec → Prop} (hs : l.Sublist table)
    (h : ∀ r, r ∈ l ↔ r ∈ table ∧ P r) : EntryExact (toEntry l) table P := by
  constructor
  · rw [toEntry_none_iff, List.eq_nil_iff_forall_not_mem]
    exact forall_congr' fun r => (not_congr (h r)).trans not_and
  · intro m hm
    obtain ⟨rfl, hne⟩ := (toEntry_some_iff l m).mp hm
    exact ⟨hne, hs, h⟩

/-- `query_exact` for the dict as it is: per registry key of `IPAddress(a).info` — the key is
    absent iff no record of that registry contains the address (for `Multicast`: or the address is
    not IPv4 multicast; keys of the other family are always absent); a present key maps to a
    NON-EMPTY list, in registry order, of exactly the records whose block or range contains the
    address.  An empty list is never stored. -/
theorem queryD_exact (T : Tables) (a : Addr) :
    EntryExact (queryD T a).ipv4 T.ipv4 (fun r => a.ver = 4 ∧ covers r.key a) ∧
    EntryExact (queryD T a).mcast T.mcast (fun r => a.ver = 4 ∧ isMulticast4 a.val = true ∧ covers r.key a) ∧
    EntryExact (queryD T a).ipv6 T.ipv6 (fun r => a.ver = 6 ∧ covers r.key a) ∧
    EntryExact (queryD T a).ipv6u T.ipv6u (fun r => a.ver = 6 ∧ covers r.key a) := by
  rw [queryD_eq]
  have hq := query_exact T a
  have hs := query_sublist T a
  -- `query_exact` with the membership in the table moved to the front
  exact ⟨entryExact_of hs.1 fun r => (hq r).1.trans and_left_comm,
    entryExact_of hs.2.2.2 fun r =>
      (hq r).2.1.trans ((and_congr_right fun _ => and_left_comm).trans and_left_comm),
    entryExact_of hs.2.1 fun r => (hq r).2.2.1.trans and_left_comm,
    entryExact_of hs.2.2.1 fun r => (hq r).2.2.2.trans and_left_comm⟩

/-- the list view used by `query_exact` is the dict with absent keys read as `[]` -/
theorem queryD_query (T : Tables) (a : Addr) :
    ((queryD T a).ipv4.getD [] = (query T a).ipv4 ∧ (queryD T a).ipv6.getD [] = (query T a).ipv6) ∧
    ((queryD T a).ipv6u.getD [] = (query T a).ipv6u ∧ (queryD T a).mcast.getD [] = (query T a).mcast) := by
  rw [queryD_eq]
  have : ∀ l : List Rec, (toEntry l).getD [] = l := by
    intro l; cases l <;> simp [toEntry]
  simp [this]

/-- `info[k]` never raises and is `None` exactly for an absent key; `info.k` raises AttributeError
    exactly for an absent key -/
theorem info_access (e : Option (List Rec)) :
    (getItem e = none ↔ e = none) ∧ (getAttr e = .error .other ↔ e = none) ∧
    (∀ l, getAttr e = .ok l ↔ e = some l) ∧ (∀ err, getAttr e = .error err → err = .other) := by
  cases e <;> simp [getItem, getAttr]

/-! ## `load_index` -/

/-- loading succeeds iff every key cell is an integer, and then the loaded rows are
    the notified rows with `int(key)`, in order -/
theorem loadIndex_ok_iff {K : Type} (key : K → R Int) (rows : List (Row K)) :
    ((∃ idx, loadRows key rows = .ok idx) ↔ ∀ r ∈ rows, ∃ n, key r.1 = .ok n) ∧
    (∀ idx, loadRows key rows = .ok idx →
      All2 (fun (row : Row K) (i : Int × Nat × Nat) => key row.1 = .ok i.1 ∧ i.2 = row.2) rows idx) ∧
    (∀ e, loadRows key rows = .error e → ∃ r ∈ rows, key r.1 = .error e) :=
  ⟨loadRows_ok_iff key rows, loadRows_ok key rows, loadRows_err key rows⟩

/-- an index the OUI parser wrote always loads -/
theorem ouiLoad_total (rows : List (Row Int)) : ∃ idx, ouiLoad rows = .ok idx :=
  (loadRows_ok_iff ouiKeyCell rows).mpr (fun r _ => ⟨r.1, rfl⟩)

theorem iabKeyCell_ok {k : IabKey} {n : Int} : iabKeyCell k = .ok n ↔ k = .num n := by
  cases k <;> simp [iabKeyCell]

theorem iabKeyCell_err {k : IabKey} {e : Err} (h : iabKeyCell k = .error e) : e = .value ∧ ∃ b, k = .raw b := by
  cases k with
  | raw b => cases h; exact ⟨rfl, b, rfl⟩
  | num n => cases h

/-- an index the IAB parser wrote loads iff no row kept a bytes key; otherwise `load_index` raises
    ValueError (nothing else) -/
theorem iabLoad_raw (rows : List (Row IabKey)) :
    ((∃ idx, iabLoad rows = .ok idx) ↔ ∀ r ∈ rows, ∃ n, r.1 = .num n) ∧
    (∀ e, iabLoad rows = .error e → e = .value ∧ ∃ r ∈ rows, ∃ b, r.1 = .raw b) := by
  constructor
  · rw [iabLoad, loadRows_ok_iff]
    simp only [iabKeyCell_ok]
  · intro e he
    obtain ⟨r, hr, hk⟩ := loadRows_err iabKeyCell rows e he
    exact ⟨(iabKeyCell_err hk).1, r, hr, (iabKeyCell_err hk).2⟩

/-! ## rows of the (loaded) index ↔ records of the text, for every text

One relation carries this section.  An index `idx` (rows `(key, offset, size)`, keys as loaded) DELIMITS THE RECORDS of a
text `bs` when rows and records correspond one to one, in order, each row filed under its record's key and cutting
exactly that record out of the text:

    All2 (fun i r => recKeyInt start cont key r = .ok i.1 ∧ slice bs i.2.1 i.2.2 = r.flatten) idx (recordsOf bs)

(for the parser's own rows: `recKey start cont r = .ok row.1` in place of `recKeyInt`).  It is what building an index
establishes and all that a lookup needs.  `Delimits start cont key bs idx` is this relation by definition; most statements spell it
out, and a proof of one form is a proof of the other. -/

section generic
variable {K : Type} (start : Line → R K) (cont : K → Line → R K) (key : K → R Int)

/-- the integer under which `load_index` files a record: the parser's key, then `int()` of its csv cell -/
def recKeyInt (r : List Line) : R Int :=
  match recKey start cont r with
  | .ok k => key k
  | .error e => .error e

variable {start cont key} in
theorem recKeyInt_of_ok {r : List Line} {k : K} (h : recKey start cont r = .ok k) :
    recKeyInt start cont key r = key k := by
  rw [recKeyInt, h]

/-- the records of a text, as the only possible reading of its lines (`Registry.decompose`) -/
def recordsOf (bs : List Nat) : List (List Line) := (decompose (pyLines bs)).2

def Delimits (bs : List Nat) (idx : List (Int × Nat × Nat)) : Prop :=
  All2 (fun (i : Int × Nat × Nat) r => recKeyInt start cont key r = .ok i.1 ∧ slice bs i.2.1 i.2.2 = r.flatten)
    idx (recordsOf bs)

/-- on ANY text: if the parser returns rows, there is at least one record, and rows and records
    correspond one to one in order — each row carries its record's key and its byte range is the record -/
theorem rows_delimit (bs : List Nat) (rows : List (Row K))
    (h : genLoop start cont (pyLines bs) true none 0 0 = .ok rows) :
    recordsOf bs ≠ [] ∧
    All2 (fun (row : Row K) r => recKey start cont r = .ok row.1 ∧ slice bs row.2.1 row.2.2 = r.flatten)
      rows (recordsOf bs) := by
  rw [genIndex_any_file] at h
  unfold recordsOf
  split at h
  · cases h
  · rename_i hne
    have := (specRows_delimit start cont h).1
    rw [(index_any_file_slices bs).2] at this
    exact ⟨hne, this⟩

theorem loaded_delimit (bs : List Nat) (rows : List (Row K)) (idx : List (Int × Nat × Nat))
    (h : genLoop start cont (pyLines bs) true none 0 0 = .ok rows) (hl : loadRows key rows = .ok idx) :
    recordsOf bs ≠ [] ∧
    All2 (fun (i : Int × Nat × Nat) r => recKeyInt start cont key r = .ok i.1 ∧ slice bs i.2.1 i.2.2 = r.flatten)
      idx (recordsOf bs) := by
  obtain ⟨hne, hr⟩ := rows_delimit start cont bs rows h
  refine ⟨hne, ?_⟩
  have := All2.join_left (loadRows_ok key rows idx hl) hr
  apply All2.imp this
  rintro i r ⟨row, ⟨hk, hi⟩, hrk, hsl⟩
  refine ⟨?_, ?_⟩
  · exact (recKeyInt_of_ok hrk).trans hk
  · rw [hi]; exact hsl

/-- the parser accepts a text iff it has a record and every record's identifier parses -/
theorem index_ok_iff (bs : List Nat) :
    (∃ rows, genLoop start cont (pyLines bs) true none 0 0 = .ok rows) ↔
      (recordsOf bs ≠ [] ∧ ∀ r ∈ recordsOf bs, ∃ k, recKey start cont r = .ok k) := by
  constructor
  · rintro ⟨rows, h⟩
    obtain ⟨hne, hrel⟩ := rows_delimit start cont bs rows h
    exact ⟨hne, fun r hr => (hrel.right r hr).elim fun row h => ⟨row.1, h.2.1⟩⟩
  · rintro ⟨hne, hk⟩
    rw [genIndex_any_file, if_neg (show ¬ (decompose (pyLines bs)).2 = [] from hne)]
    exact specRows_total start cont _ hk _

variable {start cont key} in
theorem pipeline_delimit {bs : List Nat} {idx : List (Int × Nat × Nat)}
    (h : (genLoop start cont (pyLines bs) true none 0 0 >>= loadRows key) = .ok idx) : Delimits start cont key bs idx := by
  obtain ⟨rows, hr, hl⟩ := Exc.bind_eq_ok.mp h
  exact (loaded_delimit start cont key bs rows idx hr hl).2

/-- the record carries the identifier `v` (as the loaded index sees it) -/
def carries (v : Nat) (r : List Line) : Bool :=
  match recKeyInt start cont key r with
  | .ok k => k == (v : Int)
  | .error _ => false

variable {start cont key} in
theorem carries_iff {v : Nat} {r : List Line} :
    carries start cont key v r = true ↔ recKeyInt start cont key r = .ok (v : Int) := by
  unfold carries
  cases recKeyInt start cont key r <;> simp

def carrying (bs : List Nat) (v : Nat) : List (List Line) := (recordsOf bs).filter (carries start cont key v)

/-- An index (`Int` keys, as loaded) that delimits the records of `bs` one to one, looked
    up for `v` as `OUI(v)` / `IAB(v)` do: the rows found are, in order, the byte ranges of exactly
    the records carrying `v`. -/
theorem lookupRows_delimit (bs : List Nat) (idx : List (Int × Nat × Nat))
    (hd : All2 (fun (i : Int × Nat × Nat) r => recKeyInt start cont key r = .ok i.1 ∧ slice bs i.2.1 i.2.2 = r.flatten)
      idx (recordsOf bs)) (v : Nat) :
    All2 (fun (os : Nat × Nat) r => slice bs os.1 os.2 = r.flatten)
      (lookupRows (dictView idx) v) (carrying start cont key bs v) := by
  rw [lookupRows_dictView]
  apply All2.map_left
  unfold carrying
  have := All2.filter (fun (i : Int × Nat × Nat) => i.1 == (v : Int)) (carries start cont key v) hd
    (by rintro i r ⟨hk, _⟩; simp only [carries, hk])
  exact All2.imp this (fun i r h => h.2)

/-- `OUI(v)` through a delimiting index: NotRegisteredError iff no record of the text
    carries `v`; otherwise one registration per carrying record, all of them, in file order, each the
    parse of exactly that record's bytes (IndexError iff one of them does not parse); the
    offset/size reported with each registration cut exactly that record out of the text. -/
theorem ouiRecords_exact (bs : List Nat) (idx : List (Int × Nat × Nat))
    (hd : All2 (fun (i : Int × Nat × Nat) r => recKeyInt start cont key r = .ok i.1 ∧ slice bs i.2.1 i.2.2 = r.flatten)
      idx (recordsOf bs)) (decode : List Nat → List Char) (v : Nat) :
    (ouiRecords (fun o s => decode (slice bs o s)) (dictView idx) v).map (List.map (fun x => x.2.2)) =
      (if carrying start cont key bs v = [] then .error .notRegistered
       else (carrying start cont key bs v).mapM (fun r => parseRecord (decode r.flatten))) ∧
    (∀ out, ouiRecords (fun o s => decode (slice bs o s)) (dictView idx) v = .ok out →
      All2 (fun (x : Nat × Nat × Parsed) r => slice bs x.1 x.2.1 = r.flatten ∧
        parseRecord (decode r.flatten) = .ok x.2.2) out (carrying start cont key bs v)) := by
  have hrel := lookupRows_delimit start cont key bs idx hd v
  constructor
  · unfold ouiRecords
    cases hl : lookupRows (dictView idx) v with
    | nil =>
      rw [hl] at hrel
      rw [All2.nil_left hrel]; rfl
    | cons x xs =>
      rw [hl] at hrel
      have hne : carrying start cont key bs v ≠ [] := by
        intro hc; rw [hc] at hrel; cases hrel
      simp only [hne, ↓reduceIte]
      -- reading a found row and reading the record it delimits parse the same bytes
      refine mapM_sync hrel fun os r (e : slice bs os.1 os.2 = r.flatten) => ?_
      simp only [e]
      cases parseRecord (decode r.flatten) <;> rfl
  · intro out hout
    have hall := (lookup_spec _ _ v).1 out hout
    apply All2.imp (All2.join_left hall hrel)
    rintro x r ⟨row, ⟨e1, e2, e3⟩, hr⟩
    rw [e1, e2]
    exact ⟨hr, by rw [← hr]; exact e3⟩

/-- `IAB(v)` through a delimiting index: NotRegisteredError iff no record carries `v`;
    otherwise the registration is the parse of the FIRST record of the text carrying `v`, with that
    record's byte range. -/
theorem iabRecord_exact (bs : List Nat) (idx : List (Int × Nat × Nat))
    (hd : All2 (fun (i : Int × Nat × Nat) r => recKeyInt start cont key r = .ok i.1 ∧ slice bs i.2.1 i.2.2 = r.flatten)
      idx (recordsOf bs)) (decode : List Nat → List Char) (v : Nat) :
    (iabRecord (fun o s => decode (slice bs o s)) (dictView idx) v).map (fun x => x.2.2) =
      (match carrying start cont key bs v with
       | [] => .error .notRegistered
       | r :: _ => parseRecord (decode r.flatten)) ∧
    (∀ x, iabRecord (fun o s => decode (slice bs o s)) (dictView idx) v = .ok x →
      ∃ r rest, carrying start cont key bs v = r :: rest ∧ slice bs x.1 x.2.1 = r.flatten) := by
  have hrel := lookupRows_delimit start cont key bs idx hd v
  unfold iabRecord
  cases hl : lookupRows (dictView idx) v with
  | nil =>
    rw [hl] at hrel
    rw [All2.nil_left hrel]
    exact ⟨rfl, fun x hx => by cases hx⟩
  | cons x xs =>
    rw [hl] at hrel
    obtain ⟨off, size⟩ := x
    generalize carrying start cont key bs v = cs at hrel ⊢
    cases hrel with
    | @cons _ r _ rest hr _ =>
      simp only at hr ⊢
      rw [hr]
      constructor
      · cases parseRecord (decode r.flatten) <;> rfl
      · intro y hy
        obtain ⟨p, _, rfl⟩ := Exc.map_eq_ok.1 hy
        exact ⟨r, rest, rfl, hr⟩

/-- registered iff a row iff a record: for an index that delimits the records of the text -/
theorem registered_iff_record (bs : List Nat) (idx : List (Int × Nat × Nat))
    (hd : All2 (fun (i : Int × Nat × Nat) r => recKeyInt start cont key r = .ok i.1 ∧ slice bs i.2.1 i.2.2 = r.flatten)
      idx (recordsOf bs)) (read : Nat → Nat → List Char) (v : Nat) :
    ((ouiRecords read (dictView idx) v = .error .notRegistered ↔ ∀ i ∈ idx, i.1 ≠ (v : Int)) ∧
     (iabRecord read (dictView idx) v = .error .notRegistered ↔ ∀ i ∈ idx, i.1 ≠ (v : Int))) ∧
    ((∀ i ∈ idx, i.1 ≠ (v : Int)) ↔ ∀ r ∈ recordsOf bs, recKeyInt start cont key r ≠ .ok (v : Int)) := by
  have hreg := registered_iff read (dictView idx) v
  have hrows : (∀ r ∈ dictView idx, r.1 ≠ v) ↔ ∀ i ∈ idx, i.1 ≠ (v : Int) := by
    rw [← lookupRows_nil_iff, lookupRows_dictView]
    simp [List.filter_eq_nil_iff]
  rw [hrows] at hreg
  exact ⟨hreg, All2.forall_ne (f := fun i : Int × Nat × Nat => i.1) (All2.imp hd fun _ _ h => h.1) v⟩

/-- An index file whose rows are what the parser yields on `text`, with the keys written as naturals: `inj`
    reads a natural back as the parser key that `load_index` files under that same number.  The rows delimit the
    records one to one, a number has a row iff a record carries it, and the file loads to a delimiting index. -/
theorem shipped_delimit (inj : Nat → K) (hinj : ∀ a b, inj a = inj b → a = b) (hkey : ∀ n, key (inj n) = .ok (n : Int))
    (text : List Nat) (shipped : List (Nat × Nat × Nat))
    (hrows : genLoop start cont (pyLines text) true none 0 0 = .ok (shipped.map (fun r => (inj r.1, r.2.1, r.2.2)))) :
    All2 (fun (row : Nat × Nat × Nat) r => recKey start cont r = .ok (inj row.1) ∧
        slice text row.2.1 row.2.2 = r.flatten) shipped (recordsOf text) ∧
    (∀ v, (∀ row ∈ shipped, row.1 ≠ v) ↔ ∀ r ∈ recordsOf text, recKey start cont r ≠ .ok (inj v)) ∧
    Delimits start cont key text (shipped.map (fun r => ((r.1 : Int), r.2.1, r.2.2))) := by
  have hrel := All2.of_map_left _ (rows_delimit start cont text _ hrows).2
  refine ⟨hrel, fun v => ?_, All2.map_left _ (All2.imp hrel ?_)⟩
  · have := All2.forall_ne (f := fun row : Nat × Nat × Nat => inj row.1) (All2.imp hrel fun _ _ h => h.1) (inj v)
    exact (forall₂_congr fun _ _ => not_congr ⟨congrArg inj, hinj _ _⟩).trans this
  · rintro row r ⟨hk, hs⟩
    exact ⟨(recKeyInt_of_ok hk).trans (hkey _), hs⟩

end generic

/-! ## the two pipelines, in the words of the property -/

/-- the identifier of an OUI record as the loaded index files it -/
abbrev ouiKeyOf := recKeyInt ouiStart ouiCont ouiKeyCell
/-- the identifier of an IAB record as the loaded index files it (ValueError when the record has no `(base 16)` line) -/
abbrev iabKeyOf := recKeyInt iabStart iabCont iabKeyCell

theorem iabKeyOf_ok (r : List Line) (n : Int) : iabKeyOf r = .ok n ↔ recKey iabStart iabCont r = .ok (.num n) := by
  unfold iabKeyOf recKeyInt
  cases recKey iabStart iabCont r <;> simp [iabKeyCell_ok]

/-- index, load, look up (OUI), for every text the pipeline accepts: parser → csv → `load_index` →
    `OUI(v)` with seek+read on the same text. -/
theorem lookup_exact_oui (bs : List Nat) (idx : List (Int × Nat × Nat)) (h : ouiPipeline bs = .ok idx)
    (decode : List Nat → List Char) (v : Nat) :
    (ouiRecords (fun o s => decode (slice bs o s)) (dictView idx) v).map (List.map (fun x => x.2.2)) =
      (if carrying ouiStart ouiCont ouiKeyCell bs v = [] then .error .notRegistered
       else (carrying ouiStart ouiCont ouiKeyCell bs v).mapM (fun r => parseRecord (decode r.flatten))) ∧
    (∀ out, ouiRecords (fun o s => decode (slice bs o s)) (dictView idx) v = .ok out →
      All2 (fun (x : Nat × Nat × Parsed) r => slice bs x.1 x.2.1 = r.flatten ∧
        parseRecord (decode r.flatten) = .ok x.2.2) out (carrying ouiStart ouiCont ouiKeyCell bs v)) :=
  ouiRecords_exact _ _ _ bs idx (pipeline_delimit h) decode v

/-- the same for IAB, for every text on which loading succeeded -/
theorem lookup_exact_iab (bs : List Nat) (idx : List (Int × Nat × Nat)) (h : iabPipeline bs = .ok idx)
    (decode : List Nat → List Char) (v : Nat) :
    (iabRecord (fun o s => decode (slice bs o s)) (dictView idx) v).map (fun x => x.2.2) =
      (match carrying iabStart iabCont iabKeyCell bs v with
       | [] => .error .notRegistered
       | r :: _ => parseRecord (decode r.flatten)) ∧
    (∀ x, iabRecord (fun o s => decode (slice bs o s)) (dictView idx) v = .ok x →
      ∃ r rest, carrying iabStart iabCont iabKeyCell bs v = r :: rest ∧ slice bs x.1 x.2.1 = r.flatten) :=
  iabRecord_exact _ _ _ bs idx (pipeline_delimit h) decode v

/-- on every text the IAB parser accepts, `load_index`
    returns normally iff every record has a `(base 16)` line after its `(hex)` line; otherwise it
    raises ValueError. -/
theorem iabLoad_ok_iff_base16 (bs : List Nat) (rows : List (Row IabKey)) (h : iabIndex bs = .ok rows) :
    ((∃ idx, iabLoad rows = .ok idx) ↔ ∀ r ∈ recordsOf bs, ∃ l ∈ r.tail, hasBase16 l = true) ∧
    (∀ e, iabLoad rows = .error e → e = .value) := by
  refine ⟨?_, fun e he => ((iabLoad_raw rows).2 e he).1⟩
  rw [(iabLoad_raw rows).1]
  -- row by row: a row carries its record's key, and that is an int iff the record has the line
  refine (rows_delimit iabStart iabCont bs rows h).2.forall_iff fun row r ⟨hk, _⟩ => ?_
  cases r with
  | nil => cases hk
  | cons hd t => exact iab_recKey_kind hd t row.1 hk

/-- the whole IAB pipeline on every text: it yields a loaded index iff the text has a record,
    every record's identifier parses, and every record has its `(base 16)` line -/
theorem iabPipeline_ok_iff (bs : List Nat) :
    (∃ idx, iabPipeline bs = .ok idx) ↔
      (recordsOf bs ≠ [] ∧ (∀ r ∈ recordsOf bs, ∃ k, recKey iabStart iabCont r = .ok k) ∧
        ∀ r ∈ recordsOf bs, ∃ l ∈ r.tail, hasBase16 l = true) := by
  rw [← and_assoc, ← index_ok_iff]
  simp only [iabPipeline, Exc.bind_eq_ok]
  constructor
  · rintro ⟨idx, rows, hr, hl⟩
    exact ⟨⟨rows, hr⟩, (iabLoad_ok_iff_base16 bs rows hr).1.mp ⟨idx, hl⟩⟩
  · rintro ⟨⟨rows, hr⟩, hb⟩
    obtain ⟨idx, hl⟩ := (iabLoad_ok_iff_base16 bs rows hr).1.mpr hb
    exact ⟨idx, rows, hr, hl⟩

/-- the whole OUI pipeline on every text: it yields a loaded index iff the text has a record and
    every record's identifier parses -/
theorem ouiPipeline_ok_iff (bs : List Nat) :
    (∃ idx, ouiPipeline bs = .ok idx) ↔
      (recordsOf bs ≠ [] ∧ ∀ r ∈ recordsOf bs, ∃ k, recKey ouiStart ouiCont r = .ok k) := by
  rw [← index_ok_iff]
  simp only [ouiPipeline, Exc.bind_eq_ok]
  constructor
  · rintro ⟨idx, rows, hr, _⟩
    exact ⟨rows, hr⟩
  · rintro ⟨rows, hr⟩
    obtain ⟨idx, hl⟩ := ouiLoad_total rows
    exact ⟨idx, rows, hr, hl⟩

/-- `lookup_through_index_iab` with the real `load_index` (`iabLoad`) in place of `iabLoaded`, which
    skips bytes keys: for a well-formed text whose index loads,
    `IAB(v)` returns the parse of a record of the text that carries `v` — the first such record. -/
theorem lookup_through_index_iab_loaded (hd : List Line) (recs : List (List Line)) (_w : WellFormed hd recs)
    (rows : List (Row IabKey)) (h : iabIndex (hd ++ recs.flatten).flatten = .ok rows)
    (idx : List (Int × Nat × Nat)) (hload : iabLoad rows = .ok idx)
    (decode : List Nat → List Char) (v : Nat) (x : Nat × Nat × Parsed)
    (hl : iabRecord (fun o s => decode (slice (hd ++ recs.flatten).flatten o s)) (dictView idx) v = .ok x) :
    ∃ r rest, carrying iabStart iabCont iabKeyCell (hd ++ recs.flatten).flatten v = r :: rest ∧
      r ∈ recordsOf (hd ++ recs.flatten).flatten ∧
      recKey iabStart iabCont r = .ok (.num (v : Int)) ∧
      slice (hd ++ recs.flatten).flatten x.1 x.2.1 = r.flatten ∧
      parseRecord (decode r.flatten) = .ok x.2.2 := by
  have hrel := (loaded_delimit iabStart iabCont iabKeyCell _ rows idx h hload).2
  obtain ⟨h1, h2⟩ := iabRecord_exact iabStart iabCont iabKeyCell _ idx hrel decode v
  obtain ⟨r, rest, hc, hs⟩ := h2 x hl
  rw [hl, hc] at h1
  have hmem : r ∈ carrying iabStart iabCont iabKeyCell (hd ++ recs.flatten).flatten v := by rw [hc]; simp
  simp only [carrying, List.mem_filter] at hmem
  exact ⟨r, rest, hc, hmem.1, (iabKeyOf_ok r v).mp (carries_iff.mp hmem.2), hs, h1.symm⟩

/-! ## from "the shipped index equals the parser's rows" to the property's clause -/

/-- for EVERY text — IF the rows `(identifier, offset, size)` of an
    index file are exactly what the parser yields on the text (this is what the harness observes
    for the shipped iab.idx / iab.txt, case `file`: `iab_index(text)` printed = the idx rows) THEN
    rows and records of the text correspond one to one in order, every row's byte range is exactly
    that identifier's record, an identifier is registered (`IAB(v)`, `OUI(v)`-style lookup) iff it
    has a row iff some record of the text carries it, and `IAB(v)` returns the parse of the first
    record carrying `v`. -/
theorem shipped_rows_delimit_iab (text : List Nat) (shipped : List (Nat × Nat × Nat))
    (hrows : iabIndex text = .ok (shipped.map (fun r => (IabKey.num (r.1 : Int), r.2.1, r.2.2)))) :
    All2 (fun (row : Nat × Nat × Nat) r => recKey iabStart iabCont r = .ok (.num (row.1 : Int)) ∧
        slice text row.2.1 row.2.2 = r.flatten) shipped (recordsOf text) ∧
    (∀ (read : Nat → Nat → List Char) (v : Nat),
      (iabRecord read shipped v = .error .notRegistered ↔ ∀ row ∈ shipped, row.1 ≠ v) ∧
      ((∀ row ∈ shipped, row.1 ≠ v) ↔ ∀ r ∈ recordsOf text, recKey iabStart iabCont r ≠ .ok (.num (v : Int)))) ∧
    (∀ (decode : List Nat → List Char) (v : Nat),
      (iabRecord (fun o s => decode (slice text o s)) shipped v).map (fun x => x.2.2) =
        (match carrying iabStart iabCont iabKeyCell text v with
         | [] => .error .notRegistered
         | r :: _ => parseRecord (decode r.flatten))) := by
  obtain ⟨h1, h2, h3⟩ := shipped_delimit iabStart iabCont iabKeyCell (fun n => .num n)
    (fun _ _ h => Int.ofNat.inj (IabKey.num.inj h)) (fun _ => rfl) text shipped hrows
  refine ⟨h1, fun read v => ⟨(registered_iff read shipped v).2, h2 v⟩, fun decode v => ?_⟩
  have := (iabRecord_exact iabStart iabCont iabKeyCell text _ h3 decode v).1
  rwa [dictView_ofNat] at this

/-- the same for an OUI index and `OUI(v)` (all records carrying
    `v`, in file order).  (The sandbox's oui.txt is empty, so the harness cannot establish the
    hypothesis for the shipped oui.idx; it does for generated registries.) -/
theorem shipped_rows_delimit_oui (text : List Nat) (shipped : List (Nat × Nat × Nat))
    (hrows : ouiIndex text = .ok (shipped.map (fun r => ((r.1 : Int), r.2.1, r.2.2)))) :
    All2 (fun (row : Nat × Nat × Nat) r => recKey ouiStart ouiCont r = .ok (row.1 : Int) ∧
        slice text row.2.1 row.2.2 = r.flatten) shipped (recordsOf text) ∧
    (∀ (read : Nat → Nat → List Char) (v : Nat),
      (ouiRecords read shipped v = .error .notRegistered ↔ ∀ row ∈ shipped, row.1 ≠ v) ∧
      ((∀ row ∈ shipped, row.1 ≠ v) ↔ ∀ r ∈ recordsOf text, recKey ouiStart ouiCont r ≠ .ok (v : Int))) ∧
    (∀ (decode : List Nat → List Char) (v : Nat),
      (ouiRecords (fun o s => decode (slice text o s)) shipped v).map (List.map (fun x => x.2.2)) =
        (if carrying ouiStart ouiCont ouiKeyCell text v = [] then .error .notRegistered
         else (carrying ouiStart ouiCont ouiKeyCell text v).mapM (fun r => parseRecord (decode r.flatten)))) := by
  obtain ⟨h1, h2, h3⟩ := shipped_delimit ouiStart ouiCont ouiKeyCell (fun n => (n : Int))
    (fun _ _ h => Int.ofNat.inj h) (fun _ => rfl) text shipped hrows
  refine ⟨h1, fun read v => ⟨(registered_iff read shipped v).1, h2 v⟩, fun decode v => ?_⟩
  have := (ouiRecords_exact ouiStart ouiCont ouiKeyCell text _ h3 decode v).1
  rwa [dictView_ofNat] at this

/-! ## non-vacuity -/

/-- a multicast address: two keys present, the IPv6 keys absent (not `[]`) -/
example : queryD ⟨[⟨0, .net ⟨4, 0xE0000000, 8⟩⟩], [⟨0, .net ⟨6, 0, 8⟩⟩], [], [⟨0, .rng ⟨4, 0xE0000100, 0xE00001FF⟩⟩, ⟨1, .addr ⟨4, 0xE0000101⟩⟩]⟩
    ⟨4, 0xE0000101⟩ = ⟨some [⟨0, .net ⟨4, 0xE0000000, 8⟩⟩], none, none,
      some [⟨0, .rng ⟨4, 0xE0000100, 0xE00001FF⟩⟩, ⟨1, .addr ⟨4, 0xE0000101⟩⟩]⟩ := by decide +kernel
/-- an IPv4 address no record contains: the dict is empty -/
example : queryD ⟨[⟨0, .net ⟨4, 0xE0000000, 8⟩⟩], [], [], []⟩ ⟨4, 5⟩ = ⟨none, none, none, none⟩ := by decide +kernel
example : getAttr (queryD ⟨[⟨0, .net ⟨4, 0xE0000000, 8⟩⟩], [], [], []⟩ ⟨4, 5⟩).ipv4 = .error .other := by decide +kernel

/-- a two-record IAB text whose second record has no `(base 16)` line: the parser accepts it, the
    key of the second row stays bytes, and `load_index` raises ValueError -/
def exNoBase16 : List Nat :=
  (bytes "00-50-C2   (hex)\t\tACME\nABC000-ABCFFF     (base 16)\t\tACME\n\t\tX\n" ++ bytes "00-50-C3   (hex)\t\tNOBASE\n\t\tY\n")
example : iabIndex exNoBase16 = .ok [(.num 0x0050C2ABC, 0, 61), (.raw (bytes "00-50-C3"), 61, 29)] := by
  rw [exNoBase16]
  repeat rw [bytes_lit]
  decide +kernel
example : iabPipeline exNoBase16 = .error .value := by
  rw [exNoBase16]
  repeat rw [bytes_lit]
  decide +kernel
/-- hypotheses of `lookup_exact_iab` / `_oui` hold on the running example of Props/C19 -/
example : iabPipeline (exRecs.drop 1).flatten.flatten = .ok [(0x0050C2ABC, 0, 72)] := by
  rw [exRecs]
  repeat rw [bytes_lit]
  decide +kernel
example : ouiPipeline (exHd ++ exRecs.flatten).flatten = .ok [(0xCAFE, 21, 83), (0x50C2, 104, 72)] := by
  rw [exHd, exRecs]
  repeat rw [bytes_lit]
  decide +kernel
example : carrying ouiStart ouiCont ouiKeyCell (exHd ++ exRecs.flatten).flatten 0x50C2 = [exRecs[1]] := by
  unfold exHd exRecs
  repeat rw [bytes_lit]
  decide +kernel
/-- hypothesis of `shipped_rows_delimit_iab` on a concrete index -/
example : iabIndex (exRecs.drop 1).flatten.flatten =
    .ok ([(0x0050C2ABC, 0, 72)].map (fun (r : Nat × Nat × Nat) => (IabKey.num (r.1 : Int), r.2.1, r.2.2))) := by
  rw [exRecs]
  repeat rw [bytes_lit]
  decide +kernel

end NV.C19
