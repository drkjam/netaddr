/-
Props/C17.lean — property C17: glob and nmap range notations denote exactly their address sets.

  "valid_glob accepts exactly the strings of four dot-separated octets written as plain decimal
   values 0-255, with at most one hyphenated x-y octet (x<y) and only asterisks after a hyphen or
   asterisk, and every string it accepts converts (glob_to_iprange / glob_to_iptuple / IPGlob /
   glob_to_cidrs) to exactly the addresses whose octets match it; iprange_to_globs(start, end)
   returns valid globs that tile [start, end] exactly (a single glob when the range is
   glob-shaped) and cidr_to_glob is the exact one-glob form of any IPv4 CIDR.
   valid_nmap_range(spec) is True exactly when iter_nmap_range(spec) succeeds, and iteration
   yields, ascending and without duplicates, exactly the addresses whose every octet belongs to
   that octet's comma/hyphen list (or the addresses of the IPv4 CIDR / the single IPv6 address
   given)."

Spec vocabulary.  Lemmas/C17LGlob.lean: `Oct` (lit n | hyp a b | star), `parseOct` (the octet
grammar: `*`, plain decimal 0..255 without leading zero, `x-y` with plain decimal x < y ≤ 255),
`shapeOk` (literals, then at most one hyphenated octet, then only asterisks), `globParse`,
`GlobGrammar`.  The tiling vocabulary is in Lemmas/C17LTile.lean, the octet lists of nmap in Lemmas/C17LNmap.lean,
the rest in this file.  Model: Model/Glob.lean, Model/Nmap.lean.
-/
import NetaddrVerif.Lemmas.C17LBlock
import NetaddrVerif.Lemmas.C17LTile
import NetaddrVerif.Lemmas.C17LPlan
import NetaddrVerif.Props.C05
import NetaddrVerif.Lemmas.StrLit
namespace NV.C17
open NV NV.Glob

/-! ## valid_glob -/

theorem valid_glob_iff (s : List Char) : validGlob s = true ↔ GlobGrammar s := by
  rw [validGlob_eq]
  rfl

example : GlobGrammar "192.0.2-3.*".toList := by decide_lit
example : ¬ GlobGrammar "010.0.0.*".toList := by decide_lit      -- a leading zero is refused (`plainNum`)
example : ¬ GlobGrammar " 1.2.3.4".toList := by decide_lit       -- so is a blank
example : ¬ GlobGrammar "1.2.*.4".toList := by decide_lit
example : ¬ GlobGrammar "1.2-3.4-5.*".toList := by decide_lit
example : ¬ GlobGrammar "1.2.3.5-5".toList := by decide_lit

/-- every string `valid_glob` rejects is rejected by all conversions with AddrFormatError -/
theorem invalid_glob_rejected (s : List Char) (h : ¬ GlobGrammar s) :
    globToIptuple s = .error .addrFormat ∧ globToIprange s = .error .addrFormat ∧
    globToCidrs s = .error .addrFormat ∧ ipGlob s = .error .addrFormat := by
  have hv : validGlob s = false := Bool.eq_false_iff.2 fun hh => h ((valid_glob_iff s).1 hh)
  have h1 : globToIptuple s = .error .addrFormat := by simp [globToIptuple, hv]
  refine ⟨h1, by simp [globToIprange, hv], by simp [globToCidrs, h1], by simp [ipGlob, h1]⟩

/-- an address matches a glob: the glob parses to four octets and every octet of the address
    lies in the corresponding octet's range -/
def GlobMatches (s : List Char) (a : Nat) : Prop :=
  ∃ o0 o1 o2 o3, globParse s = some [o0, o1, o2, o3] ∧ a < 2 ^ 32 ∧
    o0.matches (a / 2 ^ 24 % 256) ∧ o1.matches (a / 2 ^ 16 % 256) ∧ o2.matches (a / 2 ^ 8 % 256) ∧
    o3.matches (a % 256)

/-- every accepted string converts, `glob_to_iptuple` and `glob_to_iprange` agree, and the
    resulting interval is exactly the set of addresses whose octets match the glob -/
theorem glob_denotes (s : List Char) (h : validGlob s = true) :
    ∃ lo hi, globToIptuple s = .ok (lo, hi) ∧ globToIprange s = .ok ⟨4, lo, hi⟩ ∧
      lo ≤ hi ∧ hi < 2 ^ 32 ∧ ∀ a, (lo ≤ a ∧ a ≤ hi) ↔ GlobMatches s a := by
  obtain ⟨os, hp⟩ := (validGlob_iff_parse s).1 h
  obtain ⟨o0, o1, o2, o3, lo, hi, rfl, hip, hle, hlt, hm, -⟩ := parse_interval hp
  refine ⟨lo, hi, hip, ?_, hle, hlt, ?_⟩
  · rw [globToIprange_eq, hip]
    exact if_neg (Nat.not_lt.2 hle)
  · intro a
    constructor
    · intro ha
      have ha32 : a < 2 ^ 32 := Nat.lt_of_le_of_lt ha.2 hlt
      exact ⟨o0, o1, o2, o3, hp, ha32, (hm a ha32).1 ha⟩
    · rintro ⟨p0, p1, p2, p3, hp', ha32, hm'⟩
      rw [hp] at hp'
      simp only [Option.some.injEq, List.cons.injEq, and_true] at hp'
      obtain ⟨rfl, rfl, rfl, rfl⟩ := hp'
      exact (hm a ha32).2 hm'

/-- what `glob_to_iptuple / glob_to_iprange` hand to `IPAddress(...)` after `valid_glob`: always
    four plain decimal octets 0..255 without leading zeros (so reading them as a decimal dotted
    quad, as the model does, is what `inet_aton` does too — no octal, no hex, no short forms) -/
theorem glob_conv_total (s : List Char) (h : validGlob s = true) :
    ∃ t0 t1 t2 t3 u0 u1 u2 u3,
      (startEndStrings s).1 = ['.'].intercalate [t0, t1, t2, t3] ∧
      (startEndStrings s).2 = ['.'].intercalate [u0, u1, u2, u3] ∧
      ∀ t ∈ [t0, t1, t2, t3, u0, u1, u2, u3], plainNum t = true ∧ numVal t ≤ 255 := by
  obtain ⟨os, hp⟩ := (validGlob_iff_parse s).1 h
  obtain ⟨t0, t1, t2, t3, o0, o1, o2, o3, hsp, -, p0, p1, p2, p3, -⟩ := globParse_four hp
  refine ⟨(octetTokens t0).1, (octetTokens t1).1, (octetTokens t2).1, (octetTokens t3).1,
    (octetTokens t0).2, (octetTokens t1).2, (octetTokens t2).2, (octetTokens t3).2, ?_, ?_, ?_⟩
  · simp only [startEndStrings, hsp, List.map_cons, List.map_nil]
  · simp only [startEndStrings, hsp, List.map_cons, List.map_nil]
  · simp only [List.forall_mem_cons, List.not_mem_nil, false_implies, implies_true, and_true]
    exact ⟨(octet_tokens p0).1, (octet_tokens p1).1, (octet_tokens p2).1, (octet_tokens p3).1,
      (octet_tokens p0).2.1, (octet_tokens p1).2.1, (octet_tokens p2).2.1, (octet_tokens p3).2.1⟩

example : globToIptuple "192.0.2-3.*".toList = .ok (3221225984, 3221226495) := by decide_lit
example : GlobMatches "192.0.2-3.*".toList 3221226000 := by
  exact ⟨.lit 192, .lit 0, .hyp 2 3, .star, by decide_lit, by decide,
    ⟨by decide, by decide⟩, ⟨by decide, by decide⟩, ⟨by decide, by decide⟩, ⟨by decide, by decide⟩⟩

/-! ## iprange_to_globs, cidr_to_glob, glob_to_cidrs, IPGlob -/

/-- the single-glob attempt of `iprange_to_globs` (inner function + validity re-check): whenever
    it succeeds, the glob is valid and denotes exactly `[lo, hi]`, and it is the whole result -/
theorem single_glob_exact (lo hi : Nat) (hlo : lo < 2 ^ 32) (hhi : hi < 2 ^ 32) (g : List Char)
    (h : singleGlob lo hi = .ok g) :
    iprangeToGlobs ⟨4, lo⟩ ⟨4, hi⟩ = .ok [g] ∧ validGlob g = true ∧ globToIptuple g = .ok (lo, hi) := by
  refine ⟨by simp [iprangeToGlobs, h], ?_⟩
  rw [singleGlob_eq] at h
  split at h
  · next hc =>
    simp only [Except.ok.injEq] at h; subst h
    exact joined_denotes lo hi hlo hhi hc
  · exact absurd h (by simp)

/-- the attempt can only fail with AddrConversionError (which selects the per-CIDR fallback) -/
theorem single_glob_error (lo hi : Nat) (e : Err) (h : singleGlob lo hi = .error e) : e = .addrConversion := by
  rw [singleGlob_eq] at h
  split at h
  · exact absurd h (by simp)
  · simp only [Except.error.injEq] at h; exact h.symm

/-- "a single glob when the range is glob-shaped": every range that some valid glob denotes is
    converted to exactly one valid glob denoting that same range (on the bounds themselves, glob-shaped is
    `GlobShaped lo hi`, and the criterion is `singleGlob_ok_iff`) -/
theorem single_when_shaped (s : List Char) (lo hi : Nat) (hv : validGlob s = true)
    (hc : globToIptuple s = .ok (lo, hi)) :
    ∃ g, iprangeToGlobs ⟨4, lo⟩ ⟨4, hi⟩ = .ok [g] ∧ validGlob g = true ∧ globToIptuple g = .ok (lo, hi) := by
  obtain ⟨os, hp⟩ := (validGlob_iff_parse s).1 hv
  obtain ⟨-, -, -, -, lo', hi', -, hip, hle, hlt, -, hsh⟩ := parse_interval hp
  cases hip.symm.trans hc
  exact ⟨_, single_glob_exact _ _ (Nat.lt_of_le_of_lt hle hlt) hlt _ ((singleGlob_eq _ _).trans (if_pos hsh))⟩

example : iprangeToGlobs ⟨4, 3221225984⟩ ⟨4, 3221226495⟩ = .ok ["192.0.2-3.*".toList] := by decide_lit

/-- `cidr_to_glob` is the exact one-glob form of any IPv4 CIDR (host bits allowed in the argument) -/
theorem cidr_to_glob_exact (n : Net) (hver : n.ver = 4) (hv : n.val < 2 ^ 32) (hp : n.plen ≤ 32) :
    ∃ g, cidrToGlob n = .ok g ∧ validGlob g = true ∧ globToIptuple g = .ok (n.first, n.last) := by
  obtain ⟨ver, v, p⟩ := n
  simp only at hver hv hp
  subst hver
  obtain ⟨g, h1, _, h3, h4⟩ := block_glob v p hv hp
  have hw : width 4 = 32 := by decide
  refine ⟨g, ?_, h3, by simpa [Net.first, Net.last, hw] using h4⟩
  simp [cidrToGlob, Net.first, Net.last, hw, iprangeToGlobs, h1]

example : cidrToGlob ⟨4, 167772165, 9⟩ = .ok "10.0-127.*.*".toList := by decide_lit

theorem v6_rejected (s e : Addr) (n : Net) (hs : s.ver ≠ 4) (he : e.ver ≠ 4) (hn : n.ver ≠ 4) :
    iprangeToGlobs s e = .error .addrConversion ∧ cidrToGlob n = .error .addrConversion := by
  simp [iprangeToGlobs, cidrToGlob, hs, he, hn]

/-- globs `gs` are valid and denote the intervals `ivs`, one by one -/
def GlobsDenote : List (List Char) → List (Nat × Nat) → Prop
  | [], [] => True
  | g :: gs, iv :: ivs => (validGlob g = true ∧ globToIptuple g = .ok iv) ∧ GlobsDenote gs ivs
  | _, _ => False

theorem blocks_globs : ∀ (bs : List Pfx), (∀ b ∈ bs, b.val < 2 ^ 32 ∧ b.plen ≤ 32) →
    ∃ gs, bs.mapM (fun c => iprangeToGlob (c.first 32) (c.last 32)) = .ok gs ∧
      GlobsDenote gs (bs.map (fun b => (b.first 32, b.last 32))) := by
  intro bs
  induction bs with
  | nil => intro _; exact ⟨[], rfl, trivial⟩
  | cons b r ih =>
    intro h
    obtain ⟨gs, h1, h2⟩ := ih (fun x hx => h x (List.mem_cons_of_mem _ hx))
    obtain ⟨hv, hp⟩ := h b (List.mem_cons_self ..)
    obtain ⟨g, _, g2, g3, g4⟩ := block_glob b.val b.plen hv hp
    refine ⟨g :: gs, ?_, ⟨g3, g4⟩, h2⟩
    rw [mapM_exc_cons]
    simp only [Pfx.first, Pfx.last, g2]
    simp only [Pfx.first, Pfx.last] at h1
    rw [h1]

/-- the tiling statement relative to a tiling of `[lo, hi]` by `iprange_to_cidrs` (needed only when
    the single-glob attempt fails) -/
theorem range_to_globs_tiles_of_tile (lo hi : Nat) (hle : lo ≤ hi) (hhi : hi < 2 ^ 32)
    (hT : (∀ g, singleGlob lo hi ≠ .ok g) → CidrsTile lo hi) :
    ∃ gs ivs, iprangeToGlobs ⟨4, lo⟩ ⟨4, hi⟩ = .ok gs ∧ GlobsDenote gs ivs ∧ Tiles ivs lo hi := by
  cases hsg : singleGlob lo hi with
  | ok g =>
    obtain ⟨h1, h2, h3⟩ := single_glob_exact lo hi (by omega) hhi g hsg
    exact ⟨[g], [(lo, hi)], h1, ⟨⟨h2, h3⟩, trivial⟩, rfl, hle, Nat.le_refl _, rfl⟩
  | error e =>
    have he := single_glob_error lo hi e hsg
    subst he
    obtain ⟨hb, ht⟩ := hT (fun g hg => by rw [hsg] at hg; exact absurd hg (by simp))
    obtain ⟨gs, h1, h2⟩ := blocks_globs _ hb
    exact ⟨gs, _, by simp [iprangeToGlobs, hsg, h1], h2, ht⟩

theorem c05RangeOK (lo hi : Nat) (hle : lo ≤ hi) (hhi : hi < 2 ^ 32) : C05RangeOK lo hi :=
  have h := NV.C05.iprange_to_cidrs_addr 32 lo hi hle hhi
  ⟨h.canon, h.den, h.wf⟩

/-- `range_to_globs_tiles` (below) with the conclusion of C05's theorem `NV.C05.iprange_to_cidrs_addr`, spelled in the
    vocabulary of Lemmas/Canon as `C05RangeOK lo hi`, as a hypothesis; `range_to_globs_tiles` discharges it. -/
theorem range_to_globs_tiles_partial (lo hi : Nat) (hle : lo ≤ hi) (hhi : hi < 2 ^ 32)
    (hC05 : C05RangeOK lo hi) :
    ∃ gs ivs, iprangeToGlobs ⟨4, lo⟩ ⟨4, hi⟩ = .ok gs ∧ GlobsDenote gs ivs ∧ Tiles ivs lo hi :=
  range_to_globs_tiles_of_tile lo hi hle hhi (fun _ => cidrsTile_of_c05 lo hi hle hhi hC05)

/-- **`iprange_to_globs` tiles every IPv4 interval exactly**: valid globs whose denotations are
    consecutive intervals covering `[lo, hi]` in ascending order (the C05 hypothesis of
    `range_to_globs_tiles_partial` discharged by `NV.C05.iprange_to_cidrs_addr`). -/
theorem range_to_globs_tiles (lo hi : Nat) (hle : lo ≤ hi) (hhi : hi < 2 ^ 32) :
    ∃ gs ivs, iprangeToGlobs ⟨4, lo⟩ ⟨4, hi⟩ = .ok gs ∧ GlobsDenote gs ivs ∧ Tiles ivs lo hi :=
  range_to_globs_tiles_partial lo hi hle hhi (c05RangeOK lo hi hle hhi)

/-- every CIDR block converts, through the inner function alone, to a valid glob denoting it
    (this is what the fallback path emits per block) -/
theorem cidr_block_glob (v p : Nat) (hv : v < 2 ^ 32) (hp : p ≤ 32) :
    ∃ g, iprangeToGlob (netFirst 32 v p) (netLast 32 v p) = .ok g ∧ validGlob g = true ∧
      globToIptuple g = .ok (netFirst 32 v p, netLast 32 v p) := by
  obtain ⟨g, _, h2, h3, h4⟩ := block_glob v p hv hp
  exact ⟨g, h2, h3, h4⟩

example : iprangeToGlobs ⟨4, 255⟩ ⟨4, 257⟩ = .ok ["0.0.0.255".toList, "0.0.1.0-1".toList] := by
  decide_lit

/-- `glob_to_cidrs` of a valid glob is `iprange_to_cidrs` of its exact bounds -/
theorem glob_to_cidrs_eq (s : List Char) (lo hi : Nat) (hc : globToIptuple s = .ok (lo, hi)) :
    globToCidrs s = .ok (iprangeToCidrs 32 ⟨lo, 32⟩ ⟨hi, 32⟩) := by
  simp [globToCidrs, hc]

/-- `glob_to_cidrs` of a valid glob tiles exactly the addresses matching the glob (full statement) -/
theorem glob_to_cidrs_tiles (s : List Char) (hv : validGlob s = true) :
    ∃ lo hi bs, globToIptuple s = .ok (lo, hi) ∧ (∀ a, (lo ≤ a ∧ a ≤ hi) ↔ GlobMatches s a) ∧
      globToCidrs s = .ok bs ∧ (∀ b ∈ bs, b.val < 2 ^ 32 ∧ b.plen ≤ 32) ∧
      Tiles (bs.map (fun b => (b.first 32, b.last 32))) lo hi := by
  obtain ⟨lo, hi, h1, _, hle, hhi, hm⟩ := glob_denotes s hv
  obtain ⟨hb, ht⟩ := cidrsTile_of_c05 lo hi hle hhi (c05RangeOK lo hi hle hhi)
  exact ⟨lo, hi, _, h1, hm, glob_to_cidrs_eq s lo hi h1, hb, ht⟩

/-- `glob_to_cidrs` of a valid glob: IPv4 blocks tiling exactly the glob's address set, ascending
    (`glob_to_cidrs_tiles` in the shape of `range_to_globs_tiles_partial`; the C05 hypothesis is
    not used) -/
theorem glob_to_cidrs_tiles_partial (s : List Char) (hv : validGlob s = true) :
    ∃ lo hi, globToIptuple s = .ok (lo, hi) ∧ (∀ a, (lo ≤ a ∧ a ≤ hi) ↔ GlobMatches s a) ∧
      (C05RangeOK lo hi → ∃ bs, globToCidrs s = .ok bs ∧ (∀ b ∈ bs, b.val < 2 ^ 32 ∧ b.plen ≤ 32) ∧
        Tiles (bs.map (fun b => (b.first 32, b.last 32))) lo hi) := by
  obtain ⟨lo, hi, bs, h1, hm, h⟩ := glob_to_cidrs_tiles s hv
  exact ⟨lo, hi, h1, hm, fun _ => ⟨bs, h⟩⟩

/-- `IPGlob(s)` of a valid glob: an object over exactly the denoted range whose printed glob is
    valid and denotes that same range -/
theorem ipglob_exact (s : List Char) (hv : validGlob s = true) :
    ∃ lo hi g, globToIptuple s = .ok (lo, hi) ∧ ipGlob s = .ok ⟨lo, hi, g⟩ ∧ validGlob g = true ∧
      globToIptuple g = .ok (lo, hi) := by
  obtain ⟨lo, hi, h1, _, hle, _, _⟩ := glob_denotes s hv
  obtain ⟨g, g1, g2, g3⟩ := single_when_shaped s lo hi hv h1
  refine ⟨lo, hi, g, h1, ?_, g2, g3⟩
  have : ¬ lo > hi := by omega
  simp [ipGlob, h1, this, g1, setGlob, g3]

/-- assigning `.glob = s` on an existing `IPGlob`: same result as constructing it; an invalid
    string is rejected with AddrFormatError before anything is assigned -/
theorem set_glob_exact (s : List Char) :
    (validGlob s = true → ∃ lo hi g, globToIptuple s = .ok (lo, hi) ∧ setGlob s = .ok ⟨lo, hi, g⟩ ∧
      validGlob g = true ∧ globToIptuple g = .ok (lo, hi)) ∧
    (¬ GlobGrammar s → setGlob s = .error .addrFormat) := by
  constructor
  · intro hv
    obtain ⟨lo, hi, h1, _, _, _, _⟩ := glob_denotes s hv
    obtain ⟨g, g1, g2, g3⟩ := single_when_shaped s lo hi hv h1
    exact ⟨lo, hi, g, h1, by simp [setGlob, h1, g1], g2, g3⟩
  · intro h
    simp [setGlob, (invalid_glob_rejected s h).1]

example : ipGlob "10.0.0-255.*".toList = .ok ⟨167772160, 167837695, "10.0.*.*".toList⟩ := by decide_lit

/-! ## nmap target specifications -/
open NV.Nmap

/-- the exception classes `valid_nmap_range` catches -/
def caught (e : Err) : Prop := e = .type_ ∨ e = .value ∨ e = .addrFormat
instance (e : Err) : Decidable (caught e) := by unfold caught; infer_instance

/-- `valid_nmap_range(spec)` is True exactly when `iter_nmap_range(spec)` succeeds (for every
    pair of foreign parsers, every spec, every positive number of items taken): it is False
    exactly when iteration raises one of the caught classes, and it lets the same exception
    through otherwise. -/
theorem nmap_valid_iff_iter_ok (F : Foreign) (fuel : Nat) (hf : 0 < fuel) (spec : List Char) :
    validNmapRange F spec =
      match iterNmapRange F fuel spec with
      | .ok _ => .ok true
      | .error e => if caught e then .ok false else .error e := by
  rw [C17L.Plan.validNmapRange_eq, C17L.Plan.iter_eq_plan]
  cases parsePlan F spec <;> rfl

/-- the same equation for every `fuel` (the parse phase does not look at it).  It stands below the theorem above on
    purpose: the two statements share their `match`, and Lean names the auxiliary matcher after the first declared. -/
theorem valid_eq_iter (F : Foreign) (fuel : Nat) (spec : List Char) :
    validNmapRange F spec =
      match iterNmapRange F fuel spec with
      | .ok _ => .ok true
      | .error e => if caught e then .ok false else .error e := by
  rw [C17L.Plan.validNmapRange_eq, C17L.Plan.iter_eq_plan]
  cases parsePlan F spec <;> rfl

theorem valid_of_iter_ok {F : Foreign} {fuel : Nat} {spec : List Char} {l : List Addr}
    (h : iterNmapRange F fuel spec = .ok l) : validNmapRange F spec = .ok true := by
  rw [valid_eq_iter F fuel, h]

theorem valid_of_iter_err {F : Foreign} {fuel : Nat} {spec : List Char} {e : Err}
    (h : iterNmapRange F fuel spec = .error e) :
    validNmapRange F spec = if caught e then .ok false else .error e := by
  rw [valid_eq_iter F fuel, h]

/-- the octet-list form is well formed (said with `elemBounds`; the independent grammar is `OctetsSpec`,
    `octetsWF_iff_grammar`): non-empty, four dot-separated comma/hyphen lists,
    every element an in-range `n`, `a-b`, `-b`, `a-` or `-` -/
def NmapOctetsWF (spec : List Char) : Prop :=
  spec ≠ [] ∧ ∃ t0 t1 t2 t3, spec.splitOn '.' = [t0, t1, t2, t3] ∧ OctetWF t0 ∧ OctetWF t1 ∧ OctetWF t2 ∧ OctetWF t3

/-- address `a` belongs to the octet-list spec: every octet of `a` belongs to that octet's list -/
def NmapDen (spec : List Char) (a : Nat) : Prop :=
  ∃ t0 t1 t2 t3, spec.splitOn '.' = [t0, t1, t2, t3] ∧ a < 2 ^ 32 ∧ OctetDen t0 (a / 2 ^ 24 % 256) ∧
    OctetDen t1 (a / 2 ^ 16 % 256) ∧ OctetDen t2 (a / 2 ^ 8 % 256) ∧ OctetDen t3 (a % 256)

theorem nmapDen_iff {spec t0 t1 t2 t3 : List Char} (hsp : spec.splitOn '.' = [t0, t1, t2, t3]) (a : Nat) :
    NmapDen spec a ↔ a < 2 ^ 32 ∧ OctetDen t0 (a / 2 ^ 24 % 256) ∧ OctetDen t1 (a / 2 ^ 16 % 256) ∧
      OctetDen t2 (a / 2 ^ 8 % 256) ∧ OctetDen t3 (a % 256) := by
  constructor
  · rintro ⟨u0, u1, u2, u3, hsp', h⟩
    cases hsp.symm.trans hsp'
    exact h
  · exact fun h => ⟨t0, t1, t2, t3, hsp, h⟩

/-- octet-list form, well formed: iteration yields the first `fuel` items of a non-empty, strictly
    ascending (hence duplicate-free) list whose members are exactly the IPv4 addresses all of whose
    octets belong to the corresponding octet list -/
theorem nmap_yields (F : Foreign) (fuel : Nat) (spec : List Char)
    (h1 : '/' ∉ spec) (h2 : ':' ∉ spec) (hwf : NmapOctetsWF spec) :
    ∃ full : List Nat, iterNmapRange F fuel spec = .ok ((full.take fuel).map (fun v => ⟨4, v⟩)) ∧
      full ≠ [] ∧ full.Pairwise (· < ·) ∧ ∀ a, a ∈ full ↔ NmapDen spec a := by
  obtain ⟨hne, t0, t1, t2, t3, hsp, w0, w1, w2, w3⟩ := hwf
  obtain ⟨n0, s0, b0, d0⟩ := vals_spec w0
  obtain ⟨n1, s1, b1, d1⟩ := vals_spec w1
  obtain ⟨n2, s2, b2, d2⟩ := vals_spec w2
  obtain ⟨n3, s3, b3, d3⟩ := vals_spec w3
  refine ⟨fullProduct (vals t0) (vals t1) (vals t2) (vals t3), ?_, fullProduct_ne_nil n0 n1 n2 n3,
    fullProduct_sorted _ _ _ _ s0 s1 s2 s3 b1 b2 b3, ?_⟩
  · rw [C17L.Plan.iter_eq_plan, C17L.Plan.parsePlan_octets F h1 h2, generate_eq,
      if_neg hne, hsp, if_neg (fun h => h rfl), if_pos (forall_mem_four.2 ⟨w0, w1, w2, w3⟩)]
    simp only [List.map_cons, List.map_nil, Except.map, Plan.items, product4_eq]
  · intro a
    rw [mem_fullProduct b0 b1 b2 b3, d0, d1, d2, d3, nmapDen_iff hsp]

/-- foreign parsers that reject everything (the octet-list form never calls them) -/
def noForeign : Foreign := ⟨fun _ => .error .other, fun _ => .error .other⟩

example : NmapOctetsWF "10.0.0-1.1,3-5,-2".toList := by
  rw [String.toList_ofList]
  exact ⟨by decide, ['1', '0'], ['0'], ['0', '-', '1'], ['1', ',', '3', '-', '5', ',', '-', '2'], by decide +kernel,
    by decide +kernel, by decide +kernel, by decide +kernel, by decide +kernel⟩
example : iterNmapRange noForeign 4096 "10.0.0-1.4,2-3,3".toList =
    .ok [⟨4, 167772162⟩, ⟨4, 167772163⟩, ⟨4, 167772164⟩, ⟨4, 167772418⟩, ⟨4, 167772419⟩, ⟨4, 167772420⟩] := by
  decide_lit
example : ¬ OctetWF "3-2".toList := by decide_lit
example : ¬ OctetWF "1,256".toList := by decide_lit
example : validNmapRange noForeign "10.0.0.3-2".toList = .ok false := by decide_lit

/-- octet-list form, malformed (empty spec, not four lists, or a malformed element): iteration
    raises ValueError or AddrFormatError before the first item, and `valid_nmap_range` is False.
    `0 < fuel`: without it the statement is false of the code — `iter_nmap_range` is a generator,
    nothing of it runs before the first `next()`, so `list(islice(iter_nmap_range('bad'), 0)) == []`;
    `Nmap.iterNmapRange` is the generator advanced at least once (`fuel ≥ 1`), the `fuel = 0` case
    is `Nmap.isliceNmapRange` / `C17A2.nmap_take_zero`. -/
theorem nmap_rejects (F : Foreign) (fuel : Nat) (_hf : 0 < fuel) (spec : List Char)
    (h1 : '/' ∉ spec) (h2 : ':' ∉ spec) (hwf : ¬ NmapOctetsWF spec) :
    (∃ e, iterNmapRange F fuel spec = .error e ∧ (e = .value ∨ e = .addrFormat)) ∧
      validNmapRange F spec = .ok false := by
  have hgen : ∃ e, generateOctetRanges spec = .error e ∧ (e = .value ∨ e = .addrFormat) :=
    (generate_cases spec).resolve_right fun ⟨t0, t1, t2, t3, hne, hsp, w, _⟩ => hwf ⟨hne, t0, t1, t2, t3, hsp, w⟩
  obtain ⟨e, hg, hc⟩ := hgen
  have he : iterNmapRange F fuel spec = .error e := by
    rw [C17L.Plan.iter_eq_plan, C17L.Plan.parsePlan_octets F h1 h2, hg]; rfl
  refine ⟨⟨e, he, hc⟩, ?_⟩
  rw [valid_of_iter_err he]
  have : caught e := by rcases hc with h | h <;> simp [caught, h]
  simp [this]

/-- CIDR form (`/` in the spec): the prefix text must be an `int()` in 1..32 (else ValueError /
    AddrFormatError), the foreign `IPNetwork(spec)` must accept it as IPv4 (else its error /
    AddrFormatError); iteration then yields, ascending, exactly the addresses `first..last` of
    that network.
    (The equation holds of the model function at every `fuel`; at `fuel = 0` its error branches say
    something the Python generator does not do, so the property statement, `nmap_cidr` below, is
    this equation under `0 < fuel`.) -/
theorem nmap_cidr_model (F : Foreign) (fuel : Nat) (spec : List Char) (h1 : '/' ∈ spec) :
    iterNmapRange F fuel spec =
      match Py.pyInt 10 (split1 '/' spec).2 with
      | none => .error .value
      | some p =>
        if ¬ (0 < p ∧ p < 33) then .error .addrFormat
        else match F.ipNetwork spec with
          | .error e => .error e
          | .ok net =>
            if net.ver ≠ 4 then .error .addrFormat
            else .ok ((((List.range (net.last + 1 - net.first)).map (net.first + ·)).take fuel).map (fun v => ⟨4, v⟩)) := by
  rw [C17L.Plan.iter_eq_plan, C17L.Plan.parsePlan_slash F h1]
  cases Py.pyInt 10 (split1 '/' spec).2 with
  | none => rfl
  | some p =>
    simp only
    split
    · rfl
    · cases F.ipNetwork spec with
      | error e => rfl
      | ok net =>
        simp only
        split
        · rfl
        · exact congrArg Except.ok ((C17L.Plan.items_eq_take (.cidr net) fuel).trans List.map_take.symm)

/-- **CIDR form**: the equation of `nmap_cidr_model` for every positive number of items asked for
    (at `fuel = 0` the generator has not started and `islice(gen, 0)` is `[]` whatever the spec, so
    the error branches are false of the code). -/
theorem nmap_cidr (F : Foreign) (fuel : Nat) (_hf : 0 < fuel) (spec : List Char) (h1 : '/' ∈ spec) :
    iterNmapRange F fuel spec =
      match Py.pyInt 10 (split1 '/' spec).2 with
      | none => .error .value
      | some p =>
        if ¬ (0 < p ∧ p < 33) then .error .addrFormat
        else match F.ipNetwork spec with
          | .error e => .error e
          | .ok net =>
            if net.ver ≠ 4 then .error .addrFormat
            else .ok ((((List.range (net.last + 1 - net.first)).map (net.first + ·)).take fuel).map (fun v => ⟨4, v⟩)) :=
  nmap_cidr_model F fuel spec h1

theorem cidr_block_members (first last a : Nat) :
    a ∈ (List.range (last + 1 - first)).map (first + ·) ↔ first ≤ a ∧ a ≤ last :=
  mem_closedRange first last a

theorem cidr_block_sorted (first n : Nat) : ((List.range n).map (first + ·)).Pairwise (· < ·) := by
  rw [List.pairwise_map]
  exact List.pairwise_lt_range.imp (fun h => by omega)

/-- address form (`:` and no `/` in the spec): exactly the one address the foreign
    `IPAddress(spec)` returns, or its error -/
theorem nmap_addr (F : Foreign) (fuel : Nat) (hf : 0 < fuel) (spec : List Char) (h1 : '/' ∉ spec) (h2 : ':' ∈ spec) :
    iterNmapRange F fuel spec = (F.ipAddress spec).map (fun a => [a]) := by
  rw [C17L.Plan.iter_eq_plan, C17L.Plan.parsePlan_colon F h1 h2]
  cases F.ipAddress spec with
  | error e => rfl
  | ok a =>
    cases fuel with
    | zero => omega
    | succ n => simp [Except.map, Plan.items]

end NV.C17
