/-
Props/C01b.lean — C01, constructor-level characterisations for ALL strings:

* default mode: `IPAddress(s, 4)` / `IPAddress(s)` accept exactly the BSD `inet_aton` texts
  (`AtonG.AtonText`, a declarative grammar proved equal to the modelled `inet_aton`), resp. those
  or else the RFC 4291 texts; every 1-4 part shorthand gets its conventional value
  (`default4_eq`, `default_none_eq`, `default4_api`, `default_none_api`, `shorthand_api`,
  `shorthand_reject`);
* strict mode (INET_PTON): `IPAddress(s, 4, INET_PTON)` accepts exactly the dotted quads
  `C01G.IsQuad` (four decimal octets 0..255 of 1-3 digits, NO leading zero), i.e. exactly the
  strings `int_to_str` prints (`strict4_api`);
* ZEROFILL: the exact relation `IPAddress(s, v, ZEROFILL|f) = IPAddress(rewrite s, v, f)` with
  `rewrite` = per-part `'%d' % int(part)`, for all strings, and what happens when a part does
  not convert (`zerofill_rewrite`); 1-4 part forms with any `int()`-acceptable spelling of the
  parts are read in decimal (`zerofill_shorthand`, with its case of four zero-padded decimal octets,
  `C01.zerofill`, at the end of the file); a negative part is refused (`zerofill_negative`);
* `valid_ipv4` / `valid_ipv6` on all non-empty strings, including those with '/'
  (`valid_iff_all`) — with the one place where `valid_ipv4` and the constructor differ;
* `repr` and its `eval`-free round trip (`repr_roundtrip`).

All of these are read off one description of the constructor (Lemmas/C01LCtor.lean): for version
4, 6 or None, `IPAddress(s, version, flags)` is the '/' refusal followed by a partial reader
(`Raw.ctor`), the IPv4 reader being `Raw.body4`, which a mode turns into `inet_aton`, `inet_pton`
or either of them after the ZEROFILL rewrite (`Raw.body4_default`, `Raw.body4_strict`, `Raw.body4_zf`).
-/
import NetaddrVerif.Props.C01
namespace NV.C01b
open NV NV.Text4 NV.AddrParse NV.C01L NV.C01L.AtonG NV.C01L.Zf

example : DefaultMode 0 ∧ DefaultMode NOHOST ∧ StrictMode INET_PTON ∧ StrictMode (INET_PTON ||| NOHOST) := by
  unfold DefaultMode StrictMode; decide +kernel

/-- results can be compared by `decide` in the examples below -/
local instance decEqExcept {ε α : Type} [DecidableEq ε] [DecidableEq α] : DecidableEq (Except ε α) := fun a b =>
  match a, b with
  | .ok x, .ok y => if h : x = y then isTrue (by rw [h]) else isFalse (by intro e; cases e; exact h rfl)
  | .error x, .error y => if h : x = y then isTrue (by rw [h]) else isFalse (by intro e; cases e; exact h rfl)
  | .ok _, .error _ => isFalse (by intro e; cases e)
  | .error _, .ok _ => isFalse (by intro e; cases e)

theorem strToInt4_default (be : Backend) (s : List Char) (fl : Nat) (h : DefaultMode fl) :
    strToInt4 be s fl = match Text4.aton s with | some v => .ok v | none => .error .addrFormat := by
  rw [Raw.strToInt4_eq, Raw.body4_default be s fl h]; rfl

/-- **Default mode, explicit version 4, as an equation for every string**: '/' → ValueError;
    otherwise exactly `inet_aton`'s verdict.  (`Raw.ipAddress_some4` with `Raw.ctor` and the mode written out; so
    are `default_none_eq`, `strict4_eq`, `strict_none_eq` below.) -/
theorem default4_eq (be : Backend) (s : List Char) (fl : Nat) (h : DefaultMode fl) :
    ipAddress be s (some 4) fl =
      if s.contains '/' then .error .value else
      match Text4.aton s with | some v => .ok ⟨4, v⟩ | none => .error .addrFormat := by
  rw [Raw.ipAddress_some4, Raw.body4_default be s fl h]
  cases Text4.aton s <;> rfl

/-- **Default mode, version None, as an equation for every string**: '/' → ValueError; otherwise
    `inet_aton`'s reading if there is one, else the IPv6 reading, else AddrFormatError. -/
theorem default_none_eq (be : Backend) (s : List Char) (fl : Nat) (h : DefaultMode fl) :
    ipAddress be s none fl =
      if s.contains '/' then .error .value else
      match Text4.aton s with
      | some v => .ok ⟨4, v⟩
      | none => match inetPton6 be s with | some v => .ok ⟨6, v⟩ | none => .error .addrFormat := by
  rw [Raw.ipAddress_none, Raw.body4_default be s fl h]
  cases Text4.aton s <;> cases inetPton6 be s <;> rfl

/-- **Default mode, `IPAddress(s, 4)`: accepted strings characterised.**  The constructor yields
    an address exactly for the BSD `inet_aton` texts without '/' (`AtonText`: 1-4 dot-separated
    C literals in decimal / octal / hex within their ranges, optionally followed by whitespace
    and anything), with `inet_aton`'s value; ValueError exactly when '/' occurs; AddrFormatError
    exactly for the remaining strings. -/
theorem default4_api (be : Backend) (s : List Char) (fl : Nat) (h : DefaultMode fl) :
    (∀ a, ipAddress be s (some 4) fl = .ok a ↔ a.ver = 4 ∧ '/' ∉ s ∧ Text4.aton s = some a.val) ∧
    (∀ a, ipAddress be s (some 4) fl = .ok a ↔ a.ver = 4 ∧ '/' ∉ s ∧ AtonText s a.val) ∧
    (∀ e, ipAddress be s (some 4) fl = .error e ↔
      (e = .value ∧ '/' ∈ s) ∨ (e = .addrFormat ∧ '/' ∉ s ∧ ¬ ∃ v, AtonText s v)) := by
  refine ⟨fun a => ?_, fun a => ?_, fun e => ?_⟩
  · rw [Raw.ipAddress4_ok, Raw.body4_default be s fl h]
  · rw [Raw.ipAddress4_ok, Raw.body4_default be s fl h, aton_iff]
  · rw [Raw.ipAddress4_error, Raw.body4_default be s fl h, none_iff (aton_iff s)]

example : ipAddress .platform "0x7f.1 junk".toList (some 4) 0 = .ok ⟨4, 0x7f000001⟩ := by decide_lit

/-- **Default mode, `IPAddress(s)`: accepted strings characterised.**  The result is the IPv4
    address `v` exactly for the `inet_aton` texts of `v`, the IPv6 address `v` exactly for the
    RFC 4291 texts of `v` (the two families of texts are disjoint), ValueError exactly when '/'
    occurs, AddrFormatError exactly for the remaining strings. -/
theorem default_none_api (be : Backend) (s : List Char) (fl : Nat) (h : DefaultMode fl) :
    (∀ a, ipAddress be s none fl = .ok a ↔
      '/' ∉ s ∧ ((a.ver = 4 ∧ AtonText s a.val) ∨ (a.ver = 6 ∧ C01G.Rfc4291 s a.val))) ∧
    (∀ e, ipAddress be s none fl = .error e ↔
      (e = .value ∧ '/' ∈ s) ∨
      (e = .addrFormat ∧ '/' ∉ s ∧ (¬ ∃ v, AtonText s v) ∧ ¬ ∃ v, C01G.Rfc4291 s v)) := by
  refine ⟨fun a => ?_, fun e => ?_⟩
  · rw [Raw.ipAddressNone_iff, Raw.body4_default be s fl h, aton_iff, C01.strict6_iff]
  · rw [Raw.ipAddressNone_error, Raw.body4_default be s fl h, none_iff (aton_iff s), none_iff (C01.strict6_iff be s)]

example : ipAddress .fallback "::1".toList none 0 = .ok ⟨6, 1⟩ ∧ ipAddress .fallback "1".toList none 0 = .ok ⟨4, 1⟩ := by
  decide_lit

theorem body_not_mem (b : List Char) (v : Nat) (h : Body b v) (c : Char) (h1 : isHexC c = false) (h2 : c ≠ 'x')
    (h3 : c ≠ 'X') (h4 : c ≠ '.') : c ∉ b := by
  intro hc
  rcases body_chars b v h c hc with e | e | e | e
  · rw [h1] at e; cases e
  · exact h2 e
  · exact h3 e
  · exact h4 e

theorem atonText_of_body (b : List Char) (v : Nat) (h : Body b v) : AtonText b v :=
  ⟨body_not_mem b v h _ (by decide) (by decide) (by decide) (by decide), b, [], by simp, h, Or.inl rfl⟩

/-- **BSD shorthand at the constructor (default mode).**  For every 1-4 part `inet_aton`
    spelling — each part a C literal in decimal, octal (leading 0) or hex (0x / 0X), non-last
    parts at most 255, the last part within the remaining 32 / 24 / 16 / 8 bits (`AtonG.Body`) —
    `IPAddress(s)` and `IPAddress(s, 4)` return the IPv4 address with the value `inet_aton`
    defines, on both back ends. -/
theorem shorthand_api (be : Backend) (body : List Char) (v : Nat) (hb : Body body v) (ver : Option Nat)
    (hver : ver = none ∨ ver = some 4) (fl : Nat) (h : DefaultMode fl) :
    ipAddress be body ver fl = .ok ⟨4, v⟩ := by
  have ht := atonText_of_body body v hb
  have hs : '/' ∉ body := body_not_mem body v hb _ (by decide) (by decide) (by decide) (by decide)
  rcases hver with rfl | rfl
  · exact ((default_none_api be body fl h).1 ⟨4, v⟩).mpr ⟨hs, Or.inl ⟨rfl, ht⟩⟩
  · exact ((default4_api be body fl h).2.1 ⟨4, v⟩).mpr ⟨rfl, hs, ht⟩

/-- the hypotheses are satisfiable: `0x7f.1`, `0300.0250.513`, `1.2.3.4`, `4294967295` -/
example : Body "0x7f.1".toList 0x7f000001 := by
  rw [String.toList_ofList]
  exact Body.two ['0', 'x', '7', 'f'] ['1'] 127 1 (IsCLit.hex 'x' ['7', 'f'] (Or.inl rfl) (by decide) (by decide))
    (IsCLit.dec '1' [] (by decide) (by decide) (by decide)) (by decide) (by decide)

example : ipAddress .platform "0300.0250.513".toList none 0 = .ok ⟨4, 0xC0A80201⟩ := by decide_lit

/-- **Out-of-range shorthand parts are refused (default mode)** with AddrFormatError — never
    wrapped around, never read as some other address: a last part beyond its 32 / 24 / 16 / 8
    bits, or a non-last part above 255. -/
theorem shorthand_reject (be : Backend) (l0 l1 l2 l3 : List Char) (a b c d : Nat)
    (h0 : IsCLit l0 a) (h1 : IsCLit l1 b) (h2 : IsCLit l2 c) (h3 : IsCLit l3 d)
    (ver : Option Nat) (hver : ver = none ∨ ver = some 4) (fl : Nat) (h : DefaultMode fl) :
    (a > 0xffffffff → ipAddress be l0 ver fl = .error .addrFormat) ∧
    (a ≤ 255 → b > 0xffffff → ipAddress be (l0 ++ '.' :: l1) ver fl = .error .addrFormat) ∧
    (a ≤ 255 → b ≤ 255 → c > 0xffff → ipAddress be (l0 ++ '.' :: (l1 ++ '.' :: l2)) ver fl = .error .addrFormat) ∧
    (a ≤ 255 → b ≤ 255 → c ≤ 255 → d > 255 →
      ipAddress be (l0 ++ '.' :: (l1 ++ '.' :: (l2 ++ '.' :: l3))) ver fl = .error .addrFormat) ∧
    (a > 255 → ipAddress be (l0 ++ '.' :: l1) ver fl = .error .addrFormat ∧
      ipAddress be (l0 ++ '.' :: (l1 ++ '.' :: l2)) ver fl = .error .addrFormat ∧
      ipAddress be (l0 ++ '.' :: (l1 ++ '.' :: (l2 ++ '.' :: l3))) ver fl = .error .addrFormat) := by
  obtain ⟨_, s2, _, s4, _, s6, _, s8, s9⟩ := C01.aton_shorthand l0 l1 l2 l3 a b c d h0 h1 h2 h3
  -- a text of literals and dots has neither '/' nor ':', so `inet_aton`'s refusal is the constructor's
  have rej : ∀ t, (∀ x ∈ t, LitChar x) → Text4.aton t = none → ipAddress be t ver fl = .error .addrFormat :=
    fun t ht ha => Raw.reject be t ver hver fl ((Raw.body4_default be t fl h).trans ha)
      (fun hm => absurd (ht _ hm) (by decide)) (fun hm => absurd (ht _ hm) (by decide))
  have c0 := lit_chars l0 a h0
  have c3 := litChar_dot (lit_chars l2 c h2) (lit_chars l3 d h3)
  have t2 := litChar_dot c0 (lit_chars l1 b h1)
  have t3 := litChar_dot c0 (litChar_dot (lit_chars l1 b h1) (lit_chars l2 c h2))
  have t4 := litChar_dot c0 (litChar_dot (lit_chars l1 b h1) c3)
  exact ⟨fun ha => rej _ c0 (s2 ha), fun ha hb => rej _ t2 (s4 ha hb), fun ha hb hc => rej _ t3 (s6 ha hb hc),
    fun ha hb hc hd => rej _ t4 (s8 ha hb hc hd),
    fun ha => ⟨rej _ t2 (s9 ha _), rej _ t3 (s9 ha _), rej _ t4 (s9 ha _)⟩⟩

example : ipAddress .platform "1.2.65536".toList (some 4) 0 = .error .addrFormat ∧
    ipAddress .platform "256.1".toList none 0 = .error .addrFormat := by decide_lit

theorem quad_iff_ntoa (s : List Char) (v : Nat) : C01G.IsQuad s v ↔ v < 2 ^ 32 ∧ s = ntoa v :=
  C01G.quad_iff_ntoa s v

theorem inetPton4_iff_quad (be : Backend) (s : List Char) (v : Nat) : inetPton4 be s = some v ↔ C01G.IsQuad s v := by
  rw [C01.strict4_iff, quad_iff_ntoa]

theorem quad_no_slash (s : List Char) (v : Nat) (h : C01G.IsQuad s v) : '/' ∉ s := by
  obtain ⟨hv, rfl⟩ := (quad_iff_ntoa s v).mp h
  exact not_mem_of_contains_false (slash_not_in_ntoa v)

theorem strict4_eq (be : Backend) (s : List Char) (fl : Nat) (h : StrictMode fl) :
    ipAddress be s (some 4) fl =
      if s.contains '/' then .error .value else
      match inetPton4 be s with | some v => .ok ⟨4, v⟩ | none => .error .addrFormat := by
  rw [Raw.ipAddress_some4, Raw.body4_strict be s fl h]
  cases inetPton4 be s <;> rfl

theorem strict_none_eq (be : Backend) (s : List Char) (fl : Nat) (h : StrictMode fl) :
    ipAddress be s none fl =
      if s.contains '/' then .error .value else
      match inetPton4 be s with
      | some v => .ok ⟨4, v⟩
      | none => match inetPton6 be s with | some v => .ok ⟨6, v⟩ | none => .error .addrFormat := by
  rw [Raw.ipAddress_none, Raw.body4_strict be s fl h]
  cases inetPton4 be s <;> cases inetPton6 be s <;> rfl

/-- **Strict IPv4 at the constructor.**  With INET_PTON (and without ZEROFILL), on both back
    ends, `IPAddress(s, 4, flags)` and `IPAddress(s, flags=flags)` yield the IPv4 address `v`
    exactly when `s` is the standard dotted quad of `v` — `C01G.IsQuad`: four dot-separated
    decimal octets, each 1-3 digits, value at most 255, and NO leading zero ("01", "00", "000"
    are refused: this is what glibc `inet_pton(AF_INET)` does, and what `fbsocket` does too);
    equivalently exactly when `s` is the text `int_to_str` prints for `v`.  With version 4 every
    other string without '/' raises AddrFormatError; '/' raises ValueError. -/
theorem strict4_api (be : Backend) (s : List Char) (v : Nat) (fl : Nat) (h : StrictMode fl) :
    (ipAddress be s (some 4) fl = .ok ⟨4, v⟩ ↔ C01G.IsQuad s v) ∧
    (ipAddress be s none fl = .ok ⟨4, v⟩ ↔ C01G.IsQuad s v) ∧
    (C01G.IsQuad s v ↔ v < 2 ^ 32 ∧ s = ntoa v) ∧
    (∀ a, ipAddress be s (some 4) fl = .ok a → a.ver = 4) ∧
    (∀ e, ipAddress be s (some 4) fl = .error e ↔
      (e = .value ∧ '/' ∈ s) ∨ (e = .addrFormat ∧ '/' ∉ s ∧ ¬ ∃ w, C01G.IsQuad s w)) := by
  refine ⟨?_, ?_, quad_iff_ntoa s v, fun a ha => ((Raw.ipAddress4_ok be s fl a).mp ha).1, fun e => ?_⟩
  · rw [Raw.ipAddress4_ok, Raw.body4_strict be s fl h, inetPton4_iff_quad]
    exact ⟨fun hq => hq.2.2, fun hq => ⟨rfl, quad_no_slash s v hq, hq⟩⟩
  · rw [Raw.ipAddressNone_iff, Raw.body4_strict be s fl h, inetPton4_iff_quad]
    exact ⟨fun hq => hq.2.elim (fun h4 => h4.2) (fun h6 => nomatch h6.1),
      fun hq => ⟨quad_no_slash s v hq, Or.inl ⟨rfl, hq⟩⟩⟩
  · rw [Raw.ipAddress4_error, Raw.body4_strict be s fl h, none_iff (inetPton4_iff_quad be s)]

example : C01G.IsQuad "192.0.2.1".toList 0xC0000201 := (quad_iff_ntoa _ _).mpr ⟨by decide_lit, by decide_lit⟩
example : ipAddress .platform "192.0.2.01".toList (some 4) INET_PTON = .error .addrFormat ∧
    ipAddress .fallback "1.2.3".toList none INET_PTON = .error .addrFormat ∧
    ipAddress .fallback "0x1.2.3.4".toList (some 4) INET_PTON = .error .addrFormat := by decide_lit

/-- IPv6 parsing ignores the flags altogether -/
theorem flags_irrelevant6 (be : Backend) (s : List Char) (f g : Nat) :
    ipAddress be s (some 6) f = ipAddress be s (some 6) g := by
  rw [Raw.ipAddress_some6, Raw.ipAddress_some6]

/-- **ZEROFILL is exactly "rewrite, then parse without ZEROFILL"** — for every string.
    Let `rewrite s = '.'.join('%d' % int(p) for p in s.split('.'))` (`zerofill`; by
    `Zf.zerofill_iff` it is defined iff every part converts under `int()`, whatever the number
    of parts and whatever spelling `int()` tolerates: surrounding whitespace, a sign, single
    underscores between digits, any number of leading zeros).  For flags `f` with ZEROFILL and
    `g` = the same flags without it:

    * if `rewrite s = t`: `IPAddress(s, v, f) = IPAddress(t, v, g)` for `v` in {None, 4} — same
      value or same error class;
    * if some part does not convert: `IPAddress(s, 4, f)` raises AddrFormatError (ValueError
      when `s` contains '/'), and `IPAddress(s, None, f)` is the IPv6 reading of the ORIGINAL
      text, `IPAddress(s, 6, f)`;
    * `IPAddress(s, 6, f)` never looks at the flags. -/
theorem zerofill_rewrite (be : Backend) (s : List Char) (f g : Nat) (hf : hasFlag f ZEROFILL = true)
    (hg : hasFlag g ZEROFILL = false) (hp : hasFlag g INET_PTON = hasFlag f INET_PTON) :
    (∀ t, zerofill s = some t → ∀ ver, (ver = none ∨ ver = some 4) →
      ipAddress be s ver f = ipAddress be t ver g) ∧
    (zerofill s = none →
      ipAddress be s (some 4) f = if s.contains '/' then .error .value else .error .addrFormat) ∧
    (zerofill s = none → ipAddress be s none f = ipAddress be s (some 6) f) ∧
    ipAddress be s (some 6) f = ipAddress be s (some 6) g := by
  refine ⟨?_, ?_, ?_, flags_irrelevant6 be s f g⟩
  · intro t hz ver hver
    -- neither text has a '/' or a ':', and the IPv4 readers of `s` under `f` and of `t` under `g` agree
    have hs : s.contains '/' = false :=
      contains_false_of_not_mem (zerofill_noslash hz)
    have ht : t.contains '/' = false :=
      contains_false_of_not_mem fun hm => absurd (zerofill_out_chars s t hz _ hm) (by decide)
    have hcs : ':' ∉ s := zerofill_nocolon hz
    have hct : ':' ∉ t := fun hm => absurd (zerofill_out_chars s t hz _ hm) (by decide)
    have e4 : Raw.body4 be s f = Raw.body4 be t g := by
      rw [Raw.body4_zf be s f hf, Raw.body4_nozf be t g hg, hz, hp]; rfl
    rcases hver with rfl | rfl
    · rw [Raw.ipAddress_none, Raw.ipAddress_none, e4, inetPton6_no_colon be s hcs, inetPton6_no_colon be t hct,
        Raw.ctor_noslash hs, Raw.ctor_noslash ht]
    · rw [Raw.ipAddress_some4, Raw.ipAddress_some4, e4, Raw.ctor_noslash hs, Raw.ctor_noslash ht]
  · intro hz
    rw [Raw.ipAddress_some4, Raw.body4_zf be s f hf, hz]; rfl
  · intro hz
    rw [Raw.ipAddress_none, Raw.ipAddress_some6, Raw.body4_zf be s f hf, hz]; rfl

/-- the flag hypotheses of `zerofill_rewrite` are met by `g ||| ZEROFILL` vs `g`, in particular by
    ZEROFILL vs 0 and INET_PTON|ZEROFILL vs INET_PTON -/
example (g : Nat) (hg : hasFlag g ZEROFILL = false) :
    hasFlag (g ||| ZEROFILL) ZEROFILL = true ∧ hasFlag g ZEROFILL = false ∧
      hasFlag g INET_PTON = hasFlag (g ||| ZEROFILL) INET_PTON :=
  ⟨(hasFlag_or_zf g).1, hg, (hasFlag_or_zf g).2.symm⟩

/-- 1-3 part forms, signs, underscores, whitespace, zero padding — the rewrite and the result -/
example : zerofill " 0_10 .+2".toList = some "10.2".toList ∧
    ipAddress .platform " 0_10 .+2".toList none ZEROFILL = .ok ⟨4, 0x0A000002⟩ ∧
    ipAddress .platform "010".toList (some 4) ZEROFILL = .ok ⟨4, 10⟩ ∧
    ipAddress .platform "010".toList (some 4) 0 = .ok ⟨4, 8⟩ ∧
    ipAddress .platform "-0.0.0.0".toList (some 4) ZEROFILL = .ok ⟨4, 0⟩ ∧
    ipAddress .platform "0x10.1.1.1".toList (some 4) ZEROFILL = .error .addrFormat ∧
    ipAddress .platform "::1".toList none ZEROFILL = .ok ⟨6, 1⟩ := by decide_lit

theorem not_mem_dots_dec (ns : List Nat) (c : Char) (hc : isDec c = false) (hd : c ≠ '.') :
    c ∉ dots (ns.map dec) := by
  rw [dots_eq]
  refine not_mem_intercalate hd fun l hl hcl => ?_
  obtain ⟨n, _, rfl⟩ := List.mem_map.mp hl
  rw [dec_all n c hcl] at hc; cases hc

theorem zerofill_parts (be : Backend) (ps : List (List Char)) (ns : List Nat) (hne : ps ≠ [])
    (h : ps.map (Py.pyInt 10) = ns.map (fun (n : Nat) => some (n : Int)))
    (ver : Option Nat) (hver : ver = none ∨ ver = some 4) (f g : Nat) (hf : hasFlag f ZEROFILL = true)
    (hg : hasFlag g ZEROFILL = false) (hp : hasFlag g INET_PTON = hasFlag f INET_PTON) :
    ipAddress be (dots ps) ver f = ipAddress be (dots (ns.map dec)) ver g :=
  (zerofill_rewrite be _ f g hf hg hp).1 _ (zerofill_join ps ns hne h) ver hver

theorem few_parts_strict (be : Backend) (ns : List Nat) (hl : ns.length < 4) (hne : ns ≠ [])
    (ver : Option Nat) (hver : ver = none ∨ ver = some 4) (g : Nat) (hg : StrictMode g) :
    ipAddress be (dots (ns.map dec)) ver g = .error .addrFormat := by
  refine Raw.reject be _ ver hver g ((Raw.body4_strict be _ g hg).trans
      (dots_eq _ ▸ inetPton4_pieces be (ns.map dec) ?_ ?_ (Nat.ne_of_lt ?_)))
    (not_mem_dots_dec ns '/' (by decide) (by decide)) (not_mem_dots_dec ns ':' (by decide) (by decide))
  · intro l hl
    obtain ⟨n, _, rfl⟩ := List.mem_map.mp hl
    exact not_mem_toDigits_ten (by decide) n
  · exact fun e => hne (List.map_eq_nil_iff.mp e)
  · rw [List.length_map]; exact hl

theorem quad_of_bytes (n0 n1 n2 n3 : Nat) (a0 : n0 ≤ 255) (a1 : n1 ≤ 255) (a2 : n2 ≤ 255) (a3 : n3 ≤ 255) :
    C01G.IsQuad (dots [dec n0, dec n1, dec n2, dec n3]) (n0 * 16777216 + n1 * 65536 + n2 * 256 + n3) :=
  (quad_iff_ntoa _ _).mpr ⟨by omega, by rw [ntoa_of_octs n0 n1 n2 n3 (by omega) (by omega) (by omega), dots_eq]⟩

/-- **ZEROFILL on 1-4 part forms whose parts `int()` accepts** (any spelling: padding zeros,
    '+', surrounding whitespace, underscores — `Py.pyInt 10 p = some n`), with non-negative values
    `n0..n3`:

    * ZEROFILL without INET_PTON reads the parts in DECIMAL (never octal / hex) with the BSD
      part ranges: one part fills 32 bits, the last of two 24, the last of three 16;
    * four parts ≤ 255 give the dotted-quad value with or without INET_PTON;
    * INET_PTON|ZEROFILL refuses forms with fewer than four parts (AddrFormatError). -/
theorem zerofill_shorthand (be : Backend) (p0 p1 p2 p3 : List Char) (n0 n1 n2 n3 : Nat)
    (h0 : Py.pyInt 10 p0 = some (n0 : Int)) (h1 : Py.pyInt 10 p1 = some (n1 : Int))
    (h2 : Py.pyInt 10 p2 = some (n2 : Int)) (h3 : Py.pyInt 10 p3 = some (n3 : Int))
    (ver : Option Nat) (hver : ver = none ∨ ver = some 4) (f : Nat) (hz : hasFlag f ZEROFILL = true) :
    (hasFlag f INET_PTON = false →
      (n0 ≤ 0xffffffff → ipAddress be p0 ver f = .ok ⟨4, n0⟩) ∧
      (n0 ≤ 255 → n1 ≤ 0xffffff → ipAddress be (p0 ++ '.' :: p1) ver f = .ok ⟨4, n0 * 16777216 + n1⟩) ∧
      (n0 ≤ 255 → n1 ≤ 255 → n2 ≤ 0xffff →
        ipAddress be (p0 ++ '.' :: (p1 ++ '.' :: p2)) ver f = .ok ⟨4, n0 * 16777216 + n1 * 65536 + n2⟩)) ∧
    (n0 ≤ 255 → n1 ≤ 255 → n2 ≤ 255 → n3 ≤ 255 →
      ipAddress be (p0 ++ '.' :: (p1 ++ '.' :: (p2 ++ '.' :: p3))) ver f =
        .ok ⟨4, n0 * 16777216 + n1 * 65536 + n2 * 256 + n3⟩) ∧
    (hasFlag f INET_PTON = true →
      ipAddress be p0 ver f = .error .addrFormat ∧
      ipAddress be (p0 ++ '.' :: p1) ver f = .error .addrFormat ∧
      ipAddress be (p0 ++ '.' :: (p1 ++ '.' :: p2)) ver f = .error .addrFormat) := by
  have m1 : [p0].map (Py.pyInt 10) = [n0].map (fun (n : Nat) => some (n : Int)) := by
    simp only [List.map_cons, List.map_nil, h0]
  have m2 : [p0, p1].map (Py.pyInt 10) = [n0, n1].map (fun (n : Nat) => some (n : Int)) := by
    simp only [List.map_cons, List.map_nil, h0, h1]
  have m3 : [p0, p1, p2].map (Py.pyInt 10) = [n0, n1, n2].map (fun (n : Nat) => some (n : Int)) := by
    simp only [List.map_cons, List.map_nil, h0, h1, h2]
  have m4 : [p0, p1, p2, p3].map (Py.pyInt 10) = [n0, n1, n2, n3].map (fun (n : Nat) => some (n : Int)) := by
    simp only [List.map_cons, List.map_nil, h0, h1, h2, h3]
  have i0 := isCLit_dec n0
  have i1 := isCLit_dec n1
  have i2 := isCLit_dec n2
  have i3 := isCLit_dec n3
  -- every form is rewritten to its decimal parts and parsed under the same flags less ZEROFILL:
  -- 0 (default mode) or INET_PTON (strict mode)
  have hd : DefaultMode 0 := ⟨rfl, rfl⟩
  have hst : StrictMode INET_PTON := ⟨rfl, rfl⟩
  refine ⟨fun hp => ?_, fun a0 a1 a2 a3 => ?_, fun hp => ?_⟩
  · have go := fun ps ns hne h => zerofill_parts be ps ns hne h ver hver f 0 hz rfl (hp.symm ▸ rfl)
    exact ⟨fun a0 => (go [p0] [n0] (by simp) m1).trans (shorthand_api be _ _ (.one _ _ i0 a0) ver hver 0 hd),
      fun a0 a1 => (go [p0, p1] [n0, n1] (by simp) m2).trans
        (shorthand_api be _ _ (.two _ _ _ _ i0 i1 a0 a1) ver hver 0 hd),
      fun a0 a1 a2 => (go [p0, p1, p2] [n0, n1, n2] (by simp) m3).trans
        (shorthand_api be _ _ (.three _ _ _ _ _ _ i0 i1 i2 a0 a1 a2) ver hver 0 hd)⟩
  · cases hp : hasFlag f INET_PTON with
    | true =>
      refine (zerofill_parts be _ [n0, n1, n2, n3] (by simp) m4 ver hver f INET_PTON hz rfl (hp ▸ rfl)).trans ?_
      have hq := quad_of_bytes n0 n1 n2 n3 a0 a1 a2 a3
      rcases hver with rfl | rfl
      · exact (strict4_api be _ _ _ hst).2.1.mpr hq
      · exact (strict4_api be _ _ _ hst).1.mpr hq
    | false =>
      exact (zerofill_parts be _ [n0, n1, n2, n3] (by simp) m4 ver hver f 0 hz rfl (hp ▸ rfl)).trans
        (shorthand_api be _ _ (.four _ _ _ _ _ _ _ _ i0 i1 i2 i3 a0 a1 a2 a3) ver hver 0 hd)
  · have go := fun ps ns hne h => zerofill_parts be ps ns hne h ver hver f INET_PTON hz rfl (hp.symm ▸ rfl)
    exact ⟨(go [p0] [n0] (by simp) m1).trans (few_parts_strict be [n0] (by decide : 1 < 4) (by simp) ver hver _ hst),
      (go [p0, p1] [n0, n1] (by simp) m2).trans (few_parts_strict be [n0, n1] (by decide : 2 < 4) (by simp) ver hver _ hst),
      (go [p0, p1, p2] [n0, n1, n2] (by simp) m3).trans
        (few_parts_strict be [n0, n1, n2] (by decide : 3 < 4) (by simp) ver hver _ hst)⟩

/-- the hypotheses are satisfiable by parts that are not plain digit strings -/
example : Py.pyInt 10 " 0_10 ".toList = some ((10 : Nat) : Int) ∧ Py.pyInt 10 "+2".toList = some ((2 : Nat) : Int) ∧
    Py.pyInt 10 "-0".toList = some ((0 : Nat) : Int) ∧ Py.pyInt 10 "0000000000255".toList = some ((255 : Nat) : Int) := by
  decide_lit

/-- **A negative part is refused under ZEROFILL**: if every part converts under `int()` and
    some value is negative, `IPAddress(s, v, flags)` (v in {None, 4}, any flags with ZEROFILL)
    raises AddrFormatError — `'%d'` prints the '-' and neither `inet_aton` nor `inet_pton` reads
    it; no wrap-around to some other address. -/
theorem zerofill_negative (be : Backend) (s : List Char) (ns : List Int)
    (hns : (s.splitOn '.').map (Py.pyInt 10) = ns.map some) (hneg : ∃ n ∈ ns, n < 0)
    (ver : Option Nat) (hver : ver = none ∨ ver = some 4) (f : Nat) (hz : hasFlag f ZEROFILL = true) :
    ipAddress be s ver f = .error .addrFormat := by
  have hzt : zerofill s = some (['.'].intercalate (ns.map showInt)) := (zerofill_iff _ _).mpr ⟨ns, hns, rfl⟩
  have hdash : '-' ∈ ['.'].intercalate (ns.map showInt) := (dash_iff ns).mpr hneg
  generalize ['.'].intercalate (ns.map showInt) = t at hzt hdash
  -- neither reader takes the '-' that `'%d'` printed: it is no digit, and no blank stands before it
  have h4 : Raw.body4 be s f = none := by
    rw [Raw.body4_zf be s f hz, hzt]
    show (if hasFlag f INET_PTON = true then _ else _) = none
    split
    · exact inetPton4_bad be t '-' hdash (by decide) (by decide)
    · obtain ⟨l, r, rfl⟩ := List.append_of_mem hdash
      refine aton_bad l '-' r (by decide) (by decide) fun d hd => Bool.eq_false_iff.mpr fun hsp => ?_
      obtain ⟨s1, _, _, s4, _⟩ := space_facts d hsp
      rcases zerofill_out_chars s _ hzt d (List.mem_append_left _ hd) with e | e | e
      · exact s4 e
      · subst e; revert hsp; decide
      · rw [hex_of_dec d e] at s1; cases s1
  exact Raw.reject be s ver hver f h4 (zerofill_noslash hzt) (zerofill_nocolon hzt)

example : ("-1.2.3.4".toList.splitOn '.').map (Py.pyInt 10) = ([-1, 2, 3, 4] : List Int).map some := by decide_lit

/-- **`valid_ipv4` / `valid_ipv6` for every non-empty string, '/' included.**

    * `valid_ipv6(s)` is True exactly when `IPAddress(s, 6, flags)` yields an address (any
      flags) — also for strings containing '/', where both say no (the constructor with
      ValueError);
    * `valid_ipv4(s, flags)` is True exactly when `strategy.ipv4.str_to_int(s, flags)` succeeds;
      with INET_PTON or ZEROFILL that is exactly when `IPAddress(s, 4, flags)` yields an address,
      for all strings;
    * in default mode `valid_ipv4(s)` is True exactly for the `inet_aton` texts, so it agrees
      with the constructor on every string without '/', and on a string WITH '/' it is True
      exactly when the '/' sits in the part `inet_aton` ignores (after the first whitespace) —
      the constructor raises ValueError there (`valid_differs`). -/
theorem valid_iff_all (be : Backend) (s : List Char) (fl : Nat) (hs : s ≠ []) :
    (validStr6 be s = .ok true ↔ ∃ v, ipAddress be s (some 6) fl = .ok ⟨6, v⟩) ∧
    (validStr6 be s = .ok true ∨ validStr6 be s = .ok false) ∧
    (validStr4 be s fl = .ok true ∨ validStr4 be s fl = .ok false) ∧
    (validStr4 be s fl = .ok true ↔ ∃ v, strToInt4 be s fl = .ok v) ∧
    ((hasFlag fl ZEROFILL = true ∨ hasFlag fl INET_PTON = true) →
      (validStr4 be s fl = .ok true ↔ ∃ v, ipAddress be s (some 4) fl = .ok ⟨4, v⟩)) ∧
    (DefaultMode fl → (validStr4 be s fl = .ok true ↔ ∃ v, AtonText s v)) ∧
    (DefaultMode fl → (validStr4 be s fl = .ok true ↔
      (∃ v, ipAddress be s (some 4) fl = .ok ⟨4, v⟩) ∨ ('/' ∈ s ∧ ∃ v, AtonText s v))) := by
  have two : ∀ b : Bool, (Except.ok b : R Bool) = .ok true ∨ (Except.ok b : R Bool) = .ok false := fun b => by
    cases b
    · exact Or.inr rfl
    · exact Or.inl rfl
  have ok_true : ∀ o : Option Nat, (Except.ok o.isSome : R Bool) = .ok true ↔ ∃ v, o = some v := fun o => by
    rw [Except.ok.injEq, Option.isSome_iff_exists]
  have v4 : validStr4 be s fl = .ok true ↔ ∃ v, Raw.body4 be s fl = some v := by
    rw [Raw.validStr4_isSome be s fl hs]; exact ok_true _
  have c4 : ∀ v, ipAddress be s (some 4) fl = .ok ⟨4, v⟩ ↔ '/' ∉ s ∧ Raw.body4 be s fl = some v := fun v => by
    rw [Raw.ipAddress4_ok]; exact and_iff_right rfl
  refine ⟨?_, ?_, ?_, ?_, fun hflag => ?_, fun hd => ?_, fun hd => ?_⟩
  · rw [Raw.validStr6_isSome be s hs, ok_true]
    refine exists_congr fun v => ?_
    rw [Raw.ipAddress6_ok]
    exact ⟨fun h => ⟨rfl, inetPton6_noslash h, h⟩, fun h => h.2.2⟩
  · rw [Raw.validStr6_isSome be s hs]; exact two _
  · rw [Raw.validStr4_isSome be s fl hs]; exact two _
  · rw [v4, Raw.strToInt4_eq]
    cases Raw.body4 be s fl with
    | none => exact ⟨fun ⟨_, h⟩ => (nomatch h), fun ⟨_, h⟩ => (nomatch h)⟩
    | some w => exact ⟨fun _ => ⟨w, rfl⟩, fun _ => ⟨w, rfl⟩⟩
  · -- with ZEROFILL or INET_PTON no text with a '/' has an IPv4 reading
    have hsl : ∀ v, Raw.body4 be s fl = some v → '/' ∉ s := by
      intro v hv hm
      cases hz : hasFlag fl ZEROFILL with
      | true =>
        rw [Raw.body4_zf be s fl hz] at hv
        obtain ⟨t, ht, _⟩ := Option.bind_eq_some_iff.mp hv
        exact zerofill_noslash ht hm
      | false =>
        rw [Raw.body4_strict be s fl ⟨hz, hflag.resolve_left (by rw [hz]; exact Bool.false_ne_true)⟩] at hv
        exact quad_no_slash s v ((inetPton4_iff_quad be s v).mp hv) hm
    rw [v4]
    exact exists_congr fun v => ((c4 v).trans (and_iff_right_of_imp (hsl v))).symm
  · rw [v4, Raw.body4_default be s fl hd]; exact exists_congr (aton_iff s)
  · simp only [v4, c4, Raw.body4_default be s fl hd, ← aton_iff]
    by_cases hm : '/' ∈ s
    · exact ⟨fun h => Or.inr ⟨hm, h⟩, fun h => h.elim (fun ⟨_, h⟩ => absurd hm h.1) (fun h => h.2)⟩
    · exact ⟨fun ⟨v, h⟩ => Or.inl ⟨v, hm, h⟩, fun h => h.elim (fun ⟨v, h⟩ => ⟨v, h.2⟩) (fun h => absurd h.1 hm)⟩

/-- the empty string: both helpers raise AddrFormatError (as `C01.valid_iff` already says) -/
theorem valid_empty (be : Backend) (fl : Nat) :
    validStr4 be [] fl = .error .addrFormat ∧ validStr6 be [] = .error .addrFormat := ⟨rfl, rfl⟩

/-- **Where `valid_ipv4` and the constructor differ** (real behaviour, reproduced by the model):
    `valid_ipv4('1.2.3.4 /24')` is True — glibc's `inet_aton` stops reading at the blank — while
    `IPAddress('1.2.3.4 /24')` raises ValueError because of the '/'.  With INET_PTON or
    ZEROFILL, and for `valid_ipv6`, there is no such string (`valid_iff_all`). -/
theorem valid_differs :
    validStr4 .platform "1.2.3.4 /24".toList 0 = .ok true ∧
    ipAddress .platform "1.2.3.4 /24".toList (some 4) 0 = .error .value ∧
    validStr4 .platform "1.2.3.4 /24".toList INET_PTON = .ok false ∧
    validStr4 .platform "1.2.3.4 /24".toList ZEROFILL = .ok false ∧
    validStr4 .platform "1.2.3.4/24".toList 0 = .ok false := by decide_lit

/-- **`repr` and its `eval`-free round trip.**  `repr(ip)` is `IPAddress('` + `str(ip)` + `')`;
    removing that frame gives back `str(ip)`, and parsing it — version None or the address's own,
    flags 0 / INET_PTON / ZEROFILL / both, either back end — gives back the address. -/
theorem repr_roundtrip (be : Backend) (a : Addr) (ha : a.WF) (ver : Option Nat)
    (hver : ver = none ∨ ver = some a.ver) (fl : Nat) (hfl : fl < 4) :
    reprAddr be a = "IPAddress('".toList ++ (intToStr be a.ver a.val ++ "')".toList) ∧
    unquoteRepr (reprAddr be a) = some (intToStr be a.ver a.val) ∧
    ∀ q, unquoteRepr (reprAddr be a) = some q → ipAddress be q ver fl = .ok a := by
  have hu : unquoteRepr (reprAddr be a) = some (intToStr be a.ver a.val) := unframe _ _ _
  refine ⟨rfl, hu, ?_⟩
  intro q hq
  rw [hu] at hq
  injection hq with hq
  subst hq
  obtain ⟨av, aval⟩ := a
  obtain ⟨hv46, hval⟩ := ha
  simp only at hv46 hval hver ⊢
  rcases hv46 with e | e <;> subst e
  · exact C01.roundtrip4 be aval (by simpa [width] using hval) ver hver fl hfl
  · have := C01.roundtrip6 be .compact aval (by simpa [width] using hval) ver hver fl
    simpa [intToStr] using this

example : reprAddr .platform ⟨6, 0xffff01020304⟩ = "IPAddress('::ffff:1.2.3.4')".toList := by decide_lit
example : (⟨4, 0xC0000201⟩ : Addr).WF := by unfold Addr.WF width; decide +kernel

end NV.C01b

namespace NV.C01
open NV NV.Text4 NV.AddrParse NV.C01L

/-- **ZEROFILL.**  Four dot-separated strings of decimal digits (any zero padding) whose values
    `n0..n3` are at most 255 are read, with the ZEROFILL flag (alone or with INET_PTON), as the
    address with those octets — version `None` or `4`, both back ends. -/
theorem zerofill (be : Backend) (t0 t1 t2 t3 : List Char) (n0 n1 n2 n3 : Nat)
    (h0 : IsDigits t0) (h1 : IsDigits t1) (h2 : IsDigits t2) (h3 : IsDigits t3)
    (e0 : Nat.ofDigitChars 10 t0 0 = n0) (e1 : Nat.ofDigitChars 10 t1 0 = n1)
    (e2 : Nat.ofDigitChars 10 t2 0 = n2) (e3 : Nat.ofDigitChars 10 t3 0 = n3)
    (b0 : n0 ≤ 255) (b1 : n1 ≤ 255) (b2 : n2 ≤ 255) (b3 : n3 ≤ 255)
    (ver : Option Nat) (hver : ver = none ∨ ver = some 4) (fl : Nat) (hfl : fl = 2 ∨ fl = 3) :
    ipAddress be (t0 ++ '.' :: (t1 ++ '.' :: (t2 ++ '.' :: t3))) ver fl =
      .ok ⟨4, n0 * 16777216 + n1 * 65536 + n2 * 256 + n3⟩ := by
  subst e0 e1 e2 e3
  have hz : hasFlag fl ZEROFILL = true := by rcases hfl with e | e <;> subst e <;> decide
  exact (C01b.zerofill_shorthand be t0 t1 t2 t3 _ _ _ _ (pyInt_isDigits _ h0) (pyInt_isDigits _ h1)
    (pyInt_isDigits _ h2) (pyInt_isDigits _ h3) ver hver fl hz).2.1 b0 b1 b2 b3

example : IsDigits "010".toList ∧ Nat.ofDigitChars 10 "010".toList 0 = 10 := by
  rw [String.toList_ofList]
  exact ⟨⟨by decide, by decide⟩, by decide⟩

end NV.C01
