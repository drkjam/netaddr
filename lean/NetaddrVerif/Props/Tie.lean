/-
Props/Tie.lean — the translation tie (DESIGN.md section 4.5).

`Gen/Trans.lean` is generated on every run from the current source text of /repo's netaddr by
`harness/pytrans.py`.  Each theorem here equates a translated function, on the inputs a
constructed object can hold (the code's own range guards), with the hand-written model function
the property theorems are about, so that for these functions the step from the model to the
code's text is a kernel-checked equality plus the (small, syntactic) translator, not differential
testing.  A constructor call at the end of the text is the tuple of its arguments, compared as it
stands (`net_network`) or as the model's constructor receives it (`mkAddr`, `mkAddrOpt`,
`mkNetOpt`).  A result of the model is compared after the casts `Nat → Int` have been applied to it, under
`Except.map` where it can raise.  The casts have a name per shape of result: `liftNat : R Nat → R Int` (below; `liftRI`
of Props/TieWords is the same function), `liftI` / `liftRL` (Props/TieWords: a list of words), `liftP` / `liftL`
(Props/TieCidr: a block as the constructor tuple `(value, prefixlen, version)`), `liftN` (Props/TieSpan: a network as
the object `(version, value, prefixlen)` a loop iterates over); where there is no name the statement writes the `map`
or the `match` out.  The shifts are tied for a count `n : Nat` to `Address.shl` / `Address.shr`, not to
`Address.lshift` / `Address.rshift` (see `addr_lshift`).  When the source of one of these functions
changes, its theorem is checked against the new text; if it no longer elaborates, the check falls
back to the correspondence for that function.
-/
import NetaddrVerif.Gen.Trans
import NetaddrVerif.Lemmas.TieL
import NetaddrVerif.Lemmas.NetworkL
import NetaddrVerif.Model.Convert
import NetaddrVerif.Model.Subnet
import NetaddrVerif.Model.Compare
namespace NV.Tie
open NV NV.Trans

theorem is_hostmask (ver v : Nat) : IPAddress_is_hostmask ver (v : Int) = isHostmask v := by
  simp only [tie_unfold]
  exact Py.mask_test v

theorem is_netmask (ver v : Nat) : IPAddress_is_netmask ver (v : Int) = isNetmask (width ver) v := by
  simp only [tie_unfold]
  exact Py.mask_test _

example : IPAddress_is_netmask 4 0xffffff00 = true ∧ IPAddress_is_hostmask 4 0xff = true := by decide

/-- the range guard of `__iadd__` / `__isub__` -/
theorem guardInplace_map (a : Addr) (nv : Int) :
    (if 0 ≤ nv ∧ nv ≤ (maxInt a.ver : Int) then .ok nv else .error .index : R Int)
      = (Address.guardInplace a nv).map (fun r => (r.val : Int)) :=
  Py.ite_eq (·) (Except.map _) Iff.rfl
    (fun h => congrArg Except.ok (Int.toNat_of_nonneg h.1).symm) fun _ => rfl

theorem addr_iadd (a : Addr) (n : Int) :
    IPAddress_iadd a.ver a.val n = (Address.iadd a n).map (fun r => (r.val : Int)) := by
  simp only [tie_unfold]
  exact guardInplace_map a _

theorem addr_isub (a : Addr) (n : Int) :
    IPAddress_isub a.ver a.val n = (Address.isub a n).map (fun r => (r.val : Int)) := by
  simp only [tie_unfold]
  exact guardInplace_map a _

/-- what `self.__class__(value, version)` does with the constructor tuple the translation keeps -/
def mkAddr (t : Int × Int) : R Addr := Address.ctor t.1 (some t.2.toNat)

/-- the range guard of `__add__` / `__sub__` / `__rsub__`, then the constructor -/
theorem bind_guardNew (a : Addr) (nv : Int) :
    (if 0 ≤ nv ∧ nv ≤ (maxInt a.ver : Int) then .ok (nv, (a.ver : Int)) else .error .index : R (Int × Int)).bind mkAddr
      = Address.guardNew a nv :=
  Py.ite_eq (Except.bind · mkAddr) (·) Iff.rfl (fun _ => rfl) fun _ => rfl

theorem addr_add (a : Addr) (n : Int) :
    (IPAddress_add a.ver a.val n).bind mkAddr = Address.add a n := by
  simp only [tie_unfold]
  exact bind_guardNew a _

theorem addr_sub (a : Addr) (n : Int) :
    (IPAddress_sub a.ver a.val n).bind mkAddr = Address.sub a n := by
  simp only [tie_unfold]
  exact bind_guardNew a _

theorem addr_rsub (a : Addr) (n : Int) :
    (IPAddress_rsub a.ver a.val n).bind mkAddr = Address.rsub a n := by
  simp only [tie_unfold]
  exact bind_guardNew a _

example : (IPAddress_add 4 0xfffffffe 1).bind mkAddr = .ok ⟨4, 0xffffffff⟩ ∧
    (IPAddress_add 4 0xfffffffe 2).bind mkAddr = .error .index := by decide

theorem addr_or (a : Addr) (x : Int) : mkAddr (IPAddress_or a.ver a.val x) = Address.or_ a (.int x) := by
  simp only [tie_unfold, Py.ior_nat]
  rfl

theorem addr_and (a : Addr) (x : Int) : mkAddr (IPAddress_and a.ver a.val x) = Address.and_ a (.int x) := by
  simp only [tie_unfold, Py.iand_nat]
  rfl

theorem addr_xor (a : Addr) (x : Int) : mkAddr (IPAddress_xor a.ver a.val x) = Address.xor_ a (.int x) := by
  simp only [tie_unfold, Py.ixor_nat]
  rfl

/-- The shifts are tied to `Address.shl` / `Address.shr`, the model's shifts by a count `n : Nat`.
    `Address.lshift` / `Address.rshift`, which also have Python's ValueError for a negative count
    and TypeError for an address operand, are not tied: the translation shifts by 0 for a
    negative count (`Model/PyOps`). -/
theorem addr_lshift (a : Addr) (n : Nat) : mkAddr (IPAddress_lshift a.ver a.val n) = Address.shl a n := by
  simp only [tie_unfold, Py.shl_natCast]
  rfl

theorem addr_rshift (a : Addr) (n : Nat) : mkAddr (IPAddress_rshift a.ver a.val n) = Address.shr a n := by
  simp only [tie_unfold, Py.shr_natCast]
  rfl

/-- what the caller gets from the optional constructor tuple (`None` is returned by the Python text
    only for a version other than 4 / 6, which no constructed object has: `.other` in the model) -/
def mkAddrOpt : Option (Int × Int) → R Addr
  | some t => mkAddr t
  | none => .error .other

/-- the test for the IPv4-mapped block `::ffff:0:0/96`, as the source text and as the model write it -/
theorem mapped_natCast {v : Nat} :
    ((281470681743360 : Int) ≤ (v : Int) ∧ (v : Int) ≤ (281474976710655 : Int)) ↔
      (Convert.mappedLo ≤ v ∧ v ≤ Convert.mappedHi) :=
  and_congr Int.ofNat_le Int.ofNat_le

theorem addr_ipv4 (a : Addr) : (IPAddress_ipv4 a.ver a.val).bind mkAddrOpt = Convert.addrIpv4 a := by
  simp only [tie_unfold, Convert.addrIpv4]
  -- every `if` of the text is read through the constructor call that follows it
  let F (r : R (Option (Int × Int))) : R Addr := r.bind mkAddrOpt
  refine Py.ite_eq F (·) Int.natCast_inj (fun _ => rfl) fun _ => ?_
  refine Py.ite_eq F (·) Int.natCast_inj (fun _ => ?_) fun _ => rfl
  refine Py.ite_eq F (·) Py.guard_natCast (fun _ => rfl) fun _ => ?_
  exact Py.ite_eq F (·) mapped_natCast (fun _ => rfl) fun _ => rfl

theorem addr_ipv6 (a : Addr) (c : Bool) (hv : a.val < 2 ^ width a.ver) : mkAddrOpt (IPAddress_ipv6 a.ver a.val c) = Convert.addrIpv6 a c := by
  simp only [tie_unfold, Convert.addrIpv6]
  refine Py.ite_eq mkAddrOpt (·) Int.natCast_inj (fun _ => ?_) fun _ => ?_
  · exact Py.ite_eq mkAddrOpt (·) (and_congr_right fun _ => mapped_natCast) (fun _ => rfl) fun _ => rfl
  · refine Py.ite_eq mkAddrOpt (·) Int.natCast_inj (fun h4 => ?_) fun _ => rfl
    -- `klass(self._value, 6)`, evaluated first on either path, accepts every IPv4 value
    have hc : Address.ctor (a.val : Int) (some 6) = .ok ⟨6, a.val⟩ := by
      rw [Int.natCast_inj.1 h4] at hv
      exact if_pos ⟨Int.natCast_nonneg _, Int.ofNat_le.2 (Nat.le_trans (Nat.le_of_lt hv) (by decide))⟩
    rw [hc]
    cases c
    · rfl
    · exact hc

example : (IPAddress_ipv4 6 0xffff01020304).bind mkAddrOpt = .ok ⟨4, 0x01020304⟩ ∧
    (IPAddress_ipv4 6 0x1ffff01020304).bind mkAddrOpt = .error .addrConversion := by decide

/-! ### IPNetwork: masks and bounds (`p ≤ width`: the prefix guard of `_set_prefixlen` / `parse_ip_network`)

`tie_unfold` unfolds whatever helper properties the current source calls; what is left is built
from `(1 << (width - p)) - 1`, the cast of `hostmaskInt` (`Py.hostmask_cast`), and from `&`, `|`, `^`
on casts, which are the casts of the `Nat` operators by `rfl`. -/

theorem net_hostmask_int (ver v p : Nat) (hp : p ≤ width ver) :
    IPNetwork_hostmask_int ver v p = (hostmaskInt (width ver) p : Nat) := by
  simp only [tie_unfold, Py.hostmask_cast hp]

theorem net_netmask_int (ver v p : Nat) (hp : p ≤ width ver) :
    IPNetwork_netmask_int ver v p = (netmaskInt (width ver) p : Nat) := by
  simp only [tie_unfold, Py.hostmask_cast hp]
  rfl

theorem net_first (ver v p : Nat) (hp : p ≤ width ver) :
    IPNetwork_first ver v p = (netFirst (width ver) v p : Nat) := by
  simp only [tie_unfold, Py.hostmask_cast hp]
  rfl

theorem net_last (ver v p : Nat) (hp : p ≤ width ver) :
    IPNetwork_last ver v p = (netLast (width ver) v p : Nat) := by
  simp only [tie_unfold, Py.hostmask_cast hp]
  rfl

theorem net_size (ver v p : Nat) (hp : p ≤ width ver) :
    IPNetwork_size ver v p = (netSize (width ver) v p : Nat) := by
  rw [IPNetwork_size, net_first ver v p hp, net_last ver v p hp, netSize,
    Py.natCast_sub (netFirst_le_netLast (width ver) v p)]
  rfl

theorem net_ip (n : Net) : mkAddr (IPNetwork_ip n.ver n.val n.plen) = Address.ctor n.val (some n.ver) := by
  simp only [tie_unfold]
  rfl

theorem net_network (n : Net) (hp : n.plen ≤ width n.ver) :
    IPNetwork_network n.ver n.val n.plen = (((netNetwork (width n.ver) n.val n.plen : Nat) : Int), (n.ver : Int)) := by
  simp only [tie_unfold, Py.hostmask_cast hp]
  rfl

theorem net_netmask (n : Net) (hp : n.plen ≤ width n.ver) :
    IPNetwork_netmask n.ver n.val n.plen = (((netNetmask (width n.ver) n.plen : Nat) : Int), (n.ver : Int)) := by
  simp only [tie_unfold, Py.hostmask_cast hp]
  rfl

theorem net_hostmask (n : Net) (hp : n.plen ≤ width n.ver) :
    IPNetwork_hostmask n.ver n.val n.plen = (((netHostmask (width n.ver) n.plen : Nat) : Int), (n.ver : Int)) := by
  simp only [tie_unfold, Py.hostmask_cast hp]
  rfl

theorem net_broadcast (n : Net) (hp : n.plen ≤ width n.ver) :
    IPNetwork_broadcast n.ver n.val n.plen =
      (netBroadcast n.ver (width n.ver) n.val n.plen).map (fun b => (((b : Nat) : Int), (n.ver : Int))) := by
  simp only [tie_unfold, Py.hostmask_cast hp, netBroadcast]
  exact Py.ite_eq (·) (Option.map _) (and_congr Int.natCast_inj (by omega)) (fun _ => rfl) fun _ => rfl

theorem net_cidr (n : Net) (hp : n.plen ≤ width n.ver) :
    IPNetwork_cidr n.ver n.val n.plen = ((((netCidr n).val : Nat) : Int), (((netCidr n).plen : Nat) : Int), (((netCidr n).ver : Nat) : Int)) := by
  simp only [tie_unfold, Py.hostmask_cast hp]
  rfl

theorem net_sort_key (n : Net) (hp : n.plen ≤ width n.ver) :
    (let t := IPNetwork_sort_key n.ver n.val n.plen; [t.1, t.2.1, t.2.2.1, t.2.2.2]) = n.sortKey := by
  simp only [tie_unfold, Py.hostmask_cast hp]
  rfl

example : IPNetwork_first 4 0xC0A80105 24 = 0xC0A80100 ∧ IPNetwork_last 4 0xC0A80105 24 = 0xC0A801FF := by decide

theorem net_iadd (n : Net) (num : Int) (hp : n.plen ≤ width n.ver) :
    IPNetwork_iadd n.ver n.val n.plen num = (Subnet.iadd n num).map (fun r => ((r.val : Int), (r.plen : Int))) := by
  simp only [IPNetwork_iadd, net_network n hp, net_size n.ver n.val n.plen hp, Subnet.iadd]
  refine Py.ite_eq (·) (Except.map _) Iff.rfl (fun _ => rfl) fun _ => ?_
  refine Py.ite_eq (·) (Except.map _) Iff.rfl (fun _ => rfl) fun h => ?_
  exact congrArg (fun x => Except.ok (x, _)) (Int.toNat_of_nonneg (Int.not_lt.1 h)).symm

theorem net_isub (n : Net) (num : Int) (hp : n.plen ≤ width n.ver) :
    IPNetwork_isub n.ver n.val n.plen num = (Subnet.isub n num).map (fun r => ((r.val : Int), (r.plen : Int))) := by
  simp only [IPNetwork_isub, net_network n hp, net_size n.ver n.val n.plen hp, Subnet.isub]
  refine Py.ite_eq (·) (Except.map _) Iff.rfl (fun _ => rfl) fun h => ?_
  refine Py.ite_eq (·) (Except.map _) Iff.rfl (fun _ => rfl) fun _ => ?_
  exact congrArg (fun x => Except.ok (x, _)) (Int.toNat_of_nonneg (Int.not_lt.1 h)).symm

example : IPNetwork_iadd 4 0xC0A80105 24 1 = .ok (0xC0A80200, 24) ∧
    IPNetwork_iadd 4 0xFFFFFF05 24 1 = .error .index := by decide

def mkNetOpt : Option (Int × Int × Int) → R Net
  | some t => Convert.mkNet t.2.2.toNat t.1 t.2.1
  | none => .error .other

theorem net_ipv6 (n : Net) (c : Bool) : mkNetOpt (IPNetwork_ipv6 n.ver n.val n.plen c) = Convert.netIpv6 n c := by
  simp only [tie_unfold, Convert.netIpv6]
  refine Py.ite_eq mkNetOpt (·) Int.natCast_inj (fun _ => ?_) fun _ => ?_
  · exact Py.ite_eq mkNetOpt (·) (and_congr_right fun _ => mapped_natCast) (fun _ => rfl) fun _ => rfl
  · refine Py.ite_eq mkNetOpt (·) Int.natCast_inj (fun _ => ?_) fun _ => rfl
    exact Py.ite_eq mkNetOpt (·) Iff.rfl (fun _ => rfl) fun _ => rfl

def liftNat : R Nat → R Int
  | .ok b => .ok (b : Int)
  | .error e => .error e

/-- the tail of `netmask_bits` once the loop has counted `numbits` zero bits -/
def nbFinish (ver numbits : Nat) : R Int :=
  liftNat (if numbits ≤ width ver then .ok (width ver - numbits) else .error .value)

/-- that tail as the source text spells it: `mask_length = width - numbits`, ValueError unless
    `0 <= mask_length <= width` -/
theorem nbFinish_text (ver nb : Nat) :
    (if ¬ ((0 : Int) ≤ ((width ver : Nat) : Int) - (nb : Int) ∧
        ((width ver : Nat) : Int) - (nb : Int) ≤ ((width ver : Nat) : Int))
      then .error .value else .ok (((width ver : Nat) : Int) - (nb : Int))) = nbFinish ver nb := by
  by_cases h : nb ≤ width ver
  · rw [nbFinish, if_pos h, if_neg (by omega), Py.natCast_sub h]
    rfl
  · rw [nbFinish, if_neg h, if_pos (by omega)]
    rfl

theorem nb_loop (ver : Nat) (val : Int) : ∀ (f nb i : Nat),
    IPAddress_netmask_bits_loop1 f ver val (nb : Int) (i : Int) = nbFinish ver (nb + tzAux f i) := by
  intro f
  induction f with
  | zero =>
    intro nb i
    simp only [IPAddress_netmask_bits_loop1, nbFinish_text]
    rfl
  | succ f ih =>
    intro nb i
    have hand : Py.iand (i : Int) 1 = ((i % 2 : Nat) : Int) := by
      rw [← Nat.and_one_is_mod]
      exact Py.iand_ofNat i 1
    have hshr : Py.shr (i : Int) 1 = ((i / 2 : Nat) : Int) :=
      congrArg Nat.cast (Nat.shiftRight_eq_div_pow i 1)
    simp only [IPAddress_netmask_bits_loop1, nbFinish_text, hand, hshr, ← Int.natCast_succ, ih, tzAux]
    by_cases h0 : i = 0
    · rw [if_neg (by omega), if_pos h0]
      rfl
    · rw [if_pos (by omega), if_neg h0]
      exact Py.ite_eq (·) (fun t => nbFinish ver (nb + t)) (by omega) (fun _ => rfl)
        fun _ => congrArg (nbFinish ver) (by omega)

theorem addr_netmask_bits (ver v : Nat) :
    IPAddress_netmask_bits ver (v : Int) = liftNat (netmaskBits (width ver) v) := by
  unfold IPAddress_netmask_bits netmaskBits
  rw [is_netmask ver v]
  refine Py.ite_eq (·) liftNat (by simp only [Bool.not_eq_true, Bool.not_eq_true']) (fun _ => rfl) fun _ => ?_
  refine Py.ite_eq (·) liftNat Int.natCast_eq_zero (fun _ => rfl) fun _ => ?_
  -- `v` halvings suffice, the loop is given one more
  rw [Int.toNat_natCast]
  refine (nb_loop ver v (v + 1) 0 v).trans ?_
  rw [Nat.zero_add, tzAux_fuel v v (Nat.le_refl v)]
  rfl

example : IPAddress_netmask_bits 4 0xffffff00 = .ok 24 ∧ IPAddress_netmask_bits 4 0xffffff01 = .ok 32 := by decide

end NV.Tie
