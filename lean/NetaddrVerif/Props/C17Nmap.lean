/-
Props/C17Nmap.lean — property C17, nmap half with the parsers the Python really calls: the statements
of Props/C17.lean (which hold for every pair of foreign parsers) at `Nmap.realForeign be` =
(`IPNetwork(spec)` of C03, `IPAddress(spec)` of C01); the parse-phase / enumeration-phase structure;
several specs in one call; the independent grammar.

   "... valid_nmap_range(spec) is True exactly when iter_nmap_range(spec) succeeds, and iteration
    yields, ascending and without duplicates, exactly the addresses whose every octet belongs to
    that octet's comma/hyphen list (or the addresses of the IPv4 CIDR / the single IPv6 address
    given)."

The driver ops `nmap`, `nmap_plan`, `nmap_multi`, `nmap_islice` run `validNmapRange`,
`iterNmapRange`, `parsePlan` + `Plan.items`, `iterNmapRanges`, `isliceNmapRanges` with
`realForeign .platform`; every theorem below is about those definitions (for both back ends).
-/
import NetaddrVerif.Props.C17
import NetaddrVerif.Props.C01
import NetaddrVerif.Lemmas.C17LNmapGrammar
import NetaddrVerif.Lemmas.C17LCidrGrammar
namespace NV.C17
open NV NV.Nmap NV.Text4 NV.AddrParse NV.NetParse NV.C17L.Plan NV.C17L.Grammar NV.C17L.PyLit NV.C17L.Cidr

/-! ## errors arise only before the first item

`_parse_nmap_target_spec` (nmap.py:68-87) is a generator function.  Its `raise` statements and the
calls that can raise are: nmap.py:70 `target_spec.split('/', 1)` (cannot raise on a str with '/'),
:71 `int(prefix)` (ValueError), :71-72 the range guard (AddrFormatError), :73 `IPNetwork(target_spec)`
(AddrFormatError), :74-75 the version guard (AddrFormatError) — all before the `for ip in net:
yield ip` of :76-77; :80 `IPAddress(target_spec)` (AddrFormatError), evaluated before its value is
yielded; :82 `_generate_nmap_octet_ranges(target_spec)` (ValueError / AddrFormatError: blank
spec, not four tokens, a bad element) — before the four loops of :83-87.  After the first
`yield` the function only walks an existing IPv4 network (`IPNetwork.__iter__` builds addresses
from integers inside the block) or formats octets the guards of `_nmap_octet_target_values` keep
in 0..255.  In the model this is the split `parsePlan` (returns `R Plan`, contains every error)
/ `Plan.items` (a total function on plans).
-/

/-- **Errors only before the first item.**  Iterating one spec is "parse, then enumerate": the
    result is an error exactly when the parse phase `parsePlan` fails, with that error, whatever
    positive number of items is asked for — the parse phase runs at the first `next()`, before
    anything has been yielded; when the parse succeeds the items are the first `fuel` of the
    plan's whole (non-empty) enumeration `Plan.all`.
    `0 < fuel`: at `fuel = 0` the error is false of the code (a generator does not run before the
    first `next()`: `list(islice(iter_nmap_range('bad'), 0)) == []`); for `fuel = 0` see
    `C17A2.nmap_take_zero`. -/
theorem nmap_errors_in_parse (F : Foreign) (fuel : Nat) (_hf : 0 < fuel) (spec : List Char) :
    iterNmapRange F fuel spec = (parsePlan F spec).map (Plan.items fuel) ∧
    (∀ p, parsePlan F spec = .ok p → p.items fuel = p.all.take fuel ∧ p.all ≠ []) :=
  ⟨iter_eq_plan F fuel spec, fun p hp => ⟨items_eq_take p fuel, plan_all_ne_nil F spec p hp⟩⟩

/-- `valid_nmap_range(spec)` is `True` exactly when the parse phase succeeds; it is `False` when
    the parse phase raises a class it catches and lets any other exception through -/
theorem nmap_valid_iff_parse (F : Foreign) (spec : List Char) :
    validNmapRange F spec =
      match parsePlan F spec with
      | .ok _ => .ok true
      | .error e => if caught e then .ok false else .error e := by
  rw [validNmapRange_eq]
  cases parsePlan F spec <;> rfl

theorem nmap_valid_true_iff (F : Foreign) (spec : List Char) :
    validNmapRange F spec = .ok true ↔ ∃ p, parsePlan F spec = .ok p := by
  rw [nmap_valid_iff_parse]
  cases parsePlan F spec with
  | ok p => simp
  | error e => by_cases hc : caught e <;> simp [hc]

example : parsePlan noForeign "10.0.0-1.4,2-3,3".toList = .ok (.octets [10] [0] [0, 1] [2, 3, 4]) := by
  decide_lit

/-! ## the CIDR form with the real `IPNetwork` -/

/-- **CIDR form, every accepted spelling.**  `addr '/' prefix` where `addr` is in the grammar
    `CidrAddr` with value `v` (one to four dot-separated `int()` literals 0..255, missing octets
    zero: "10/8", "010.0.0.1/8", " 1.2.3.4/8") and `prefix` is an `int()` literal of `p`,
    `1 ≤ p ≤ 32` ("/ 8", "/+8", "/0_8"): iteration yields, ascending, exactly the `2^(32-p)`
    addresses of the block of `v`. -/
theorem nmap_cidr_grammar (be : Backend) (fuel : Nat) (a t : List Char) (v p : Nat) (ha : CidrAddr a v)
    (ht : IntLit t (p : Int)) (hp1 : 1 ≤ p) (hp : p ≤ 32) :
    iterNmapRange (realForeign be) fuel (a ++ '/' :: t) =
      .ok ((((List.range (2 ^ (32 - p))).map (v / 2 ^ (32 - p) * 2 ^ (32 - p) + ·)).take fuel).map (fun a => ⟨4, a⟩)) := by
  rw [iter_eq_plan, parsePlan_cidr be a t (cidrAddr_noslash ha), (pyInt_iff t _).2 ht, (addr4Spec_iff a v).2 ha]
  simp only [if_neg (show ¬ ¬ ((0 : Int) < p ∧ (p : Int) < 33) by omega), Int.toNat_natCast]
  exact congrArg Except.ok (cidr_items v p fuel (cidrAddr_lt ha))

/-- **CIDR form, canonical spelling.**  For the text of an IPv4 address `v`, '/', and the decimal
    text of `p` with `1 ≤ p ≤ 32`, iteration yields, ascending, exactly the `2^(32-p)` addresses
    of the block of `v`: `first = v` with the low `32-p` bits cleared, up to `first + 2^(32-p) - 1`
    (first `fuel` of them). -/
theorem nmap_cidr_real (be : Backend) (fuel : Nat) (v p : Nat) (hv : v < 2 ^ 32) (hp1 : 1 ≤ p) (hp : p ≤ 32) :
    iterNmapRange (realForeign be) fuel (ntoa v ++ '/' :: dec p) =
      .ok ((((List.range (2 ^ (32 - p))).map (v / 2 ^ (32 - p) * 2 ^ (32 - p) + ·)).take fuel).map (fun a => ⟨4, a⟩)) :=
  nmap_cidr_grammar be fuel _ _ v p (cidrAddr_ntoa v hv) (intLit_dec p) hp1 hp

example : iterNmapRange (realForeign .platform) 4096 "192.0.2.9/30".toList =
    .ok [⟨4, 3221225992⟩, ⟨4, 3221225993⟩, ⟨4, 3221225994⟩, ⟨4, 3221225995⟩] := by
  decide_lit

example : CidrAddr "010. 0".toList 167772160 :=
  (addr4Spec_iff _ _).1 (by decide_lit)

theorem nmap_cidr_err_addrformat (be : Backend) (fuel : Nat) (a t : List Char) (ha : '/' ∉ a) {p : Int}
    (hp : Py.pyInt 10 t = some p) {e : Err}
    (h : iterNmapRange (realForeign be) fuel (a ++ '/' :: t) = .error e) : e = .addrFormat := by
  rw [iter_eq_plan, parsePlan_cidr be a t ha, hp] at h
  dsimp only at h
  split at h
  · exact (Except.error.inj h).symm
  · revert h
    cases C03L.Acc.addr4Spec a with
    | some v => exact nofun
    | none => exact fun h => (Except.error.inj h).symm

/-- **CIDR form, exception classes.**  For any spec containing '/': ValueError exactly when the
    text after the first '/' is not an `int()` literal (grammar `IntLit`: "x/y", a netmask
    "1.2.3.4/255.255.255.0", a second slash "1.2.3.4/8/9", an empty prefix "1.2.3.4/");
    every other failure is AddrFormatError.  (`0 < fuel`, here and in the three theorems that
    follow: at `fuel = 0` the generator has not started and nothing is raised.) -/
theorem nmap_cidr_error_classes (be : Backend) (fuel : Nat) (_hf : 0 < fuel) (spec : List Char) (h1 : '/' ∈ spec) :
    (iterNmapRange (realForeign be) fuel spec = .error .value ↔ ¬ ∃ z, IntLit (split1 '/' spec).2 z) ∧
    (∀ e, iterNmapRange (realForeign be) fuel spec = .error e → e = .value ∨ e = .addrFormat) := by
  obtain ⟨a, t, rfl, ha⟩ := List.eq_append_cons_of_mem h1
  rw [split1_app '/' a t ha]
  cases hp : Py.pyInt 10 t with
  | none =>
    rw [iter_eq_plan, parsePlan_cidr be a t ha, hp]
    exact ⟨⟨fun _ ⟨z, hz⟩ => (by rw [(pyInt_iff _ z).2 hz] at hp; cases hp), fun _ => rfl⟩,
      fun e h => Or.inl (Except.error.inj h).symm⟩
  | some p =>
    have key := fun e => nmap_cidr_err_addrformat be fuel a t ha hp (e := e)
    exact ⟨⟨fun h => (nomatch key _ h), fun h => absurd (⟨p, (pyInt_iff _ p).1 hp⟩ : ∃ z, IntLit _ z) h⟩,
      fun e h => Or.inr (key e h)⟩

/-- **Prefix outside 1..32**: whatever stands before the first '/', a prefix text that is an
    `int()` literal of a value outside 1..32 ("/0", "/33", "/128", a negative number, "/ 0_0") raises
    AddrFormatError — before `IPNetwork` is even called. -/
theorem nmap_cidr_prefix_range (F : Foreign) (fuel : Nat) (_hf : 0 < fuel) (a t : List Char) (z : Int) (ha : '/' ∉ a)
    (ht : IntLit t z) (hz : ¬ (1 ≤ z ∧ z ≤ 32)) :
    iterNmapRange F fuel (a ++ '/' :: t) = .error .addrFormat ∧ validNmapRange F (a ++ '/' :: t) = .ok false := by
  have hmem : '/' ∈ a ++ '/' :: t := by simp
  have hit : iterNmapRange F fuel (a ++ '/' :: t) = .error .addrFormat := by
    rw [nmap_cidr_model F fuel _ hmem, split1_app '/' _ _ ha]
    simp only [(pyInt_iff t z).2 ht]
    have hg : ¬ (0 < z ∧ z < 33) := by omega
    simp only [hg, not_false_eq_true, if_true]
  refine ⟨hit, ?_⟩
  rw [valid_of_iter_err hit]
  simp [caught]

example : iterNmapRange (realForeign .platform) 5 "10.0.0.0/0".toList = .error .addrFormat := by
  decide_lit
example : iterNmapRange (realForeign .platform) 5 "10.0.0.0/33".toList = .error .addrFormat := by
  decide_lit
example : iterNmapRange (realForeign .platform) 5 "::1/128".toList = .error .addrFormat := by
  decide_lit

/-- **Second slash**: a '/' in the text after the first '/' makes it a non-literal: ValueError -/
theorem nmap_cidr_second_slash (be : Backend) (fuel : Nat) (hf : 0 < fuel) (a t : List Char) (ha : '/' ∉ a) (ht : '/' ∈ t) :
    iterNmapRange (realForeign be) fuel (a ++ '/' :: t) = .error .value := by
  have hmem : '/' ∈ a ++ '/' :: t := by simp
  rw [(nmap_cidr_error_classes be fuel hf _ hmem).1, split1_app '/' _ _ ha]
  rintro ⟨z, hz⟩
  exact (C03L.Acc.pyInt_some_clean _ _ ((pyInt_iff _ _).2 hz)).2.2 ht

/-- **IPv6 CIDRs are refused**: the text of an IPv6 address, '/', a prefix in 1..32 — the guard
    passes, `IPNetwork` builds an IPv6 network, the version guard raises AddrFormatError
    ("CIDR only support for IPv4!"); with a prefix above 32 `nmap_cidr_prefix_range` applies. -/
theorem nmap_cidr_v6_rejected (be : Backend) (fuel : Nat) (_hf : 0 < fuel) (v p : Nat) (hv : v < 2 ^ 128) (hp1 : 1 ≤ p) (hp : p ≤ 32) :
    iterNmapRange (realForeign be) fuel (intToStr be 6 v ++ '/' :: dec p) = .error .addrFormat := by
  have hns : '/' ∉ intToStr be 6 v := fun hm =>
    Bool.false_ne_true ((C03L.addr_noslash be 6 (Or.inr rfl) v hv).symm.trans (List.contains_iff_mem.2 hm))
  rw [iter_eq_plan, parsePlan_cidr be _ _ hns, C03L.pyInt_dec,
    show C03L.Acc.addr4Spec _ = none from C03L.Acc.addrVal4_colon be (C03L.addr6_colon be v hv)]
  simp only [if_neg (show ¬ ¬ ((0 : Int) < p ∧ (p : Int) < 33) by omega)]
  rfl

example : iterNmapRange (realForeign .platform) 5 "x/y".toList = .error .value := by
  decide_lit
example : iterNmapRange (realForeign .platform) 5 "1.2.3.4/255.255.255.0".toList = .error .value := by
  decide_lit
example : iterNmapRange (realForeign .platform) 5 "fe80::/10".toList = .error .addrFormat := by
  decide_lit
example : iterNmapRange (realForeign .platform) 2 "10/8".toList = .ok [⟨4, 167772160⟩, ⟨4, 167772161⟩] := by
  decide_lit

/-! ## the ':' form with the real `IPAddress` -/

/-- no user; `nmap_colon_real` below takes the matcher of its `match Text4.aton spec` from this statement, so it
    stays, and above it -/
theorem strToInt4_flags0 (be : Backend) (s : List Char) :
    strToInt4 be s 0 = match Text4.aton s with | some v => .ok v | none => .error .addrFormat := by
  rw [C01L.Raw.strToInt4_eq, C01L.Raw.body4_default be s 0 ⟨rfl, rfl⟩]
  cases Text4.aton s <;> rfl

/-- **The ':' form, exactly.**  For a spec with ':' and without '/', `IPAddress(spec)` tries the
    default IPv4 reader first (`inet_aton`, which ignores everything after a blank — the only way
    it can accept a text containing ':', e.g. "1.2.3.4 :"), then the strict IPv6 reader: the
    single item is the `inet_aton` value if there is one, else the IPv6 address `v` when the spec
    is an RFC 4291 text of `v`; otherwise AddrFormatError. -/
theorem nmap_colon_real (be : Backend) (fuel : Nat) (hf : 0 < fuel) (spec : List Char) (h1 : '/' ∉ spec) (h2 : ':' ∈ spec) :
    iterNmapRange (realForeign be) fuel spec =
      match Text4.aton spec with
      | some v => .ok [⟨4, v⟩]
      | none => match inetPton6 be spec with
        | some v => .ok [⟨6, v⟩]
        | none => .error .addrFormat := by
  rw [nmap_addr (realForeign be) fuel hf spec h1 h2]
  show (ipAddress be spec none 0).map _ = _
  rw [← C01L.Raw.body4_default be spec 0 ⟨rfl, rfl⟩]
  cases h4 : C01L.Raw.body4 be spec 0 with
  | some v => rw [C01L.Raw.ipAddress_of_body4 be spec v none 0 h1 h4 (.inl rfl)]; rfl
  | none =>
    cases h6 : inetPton6 be spec with
    | some v => rw [C01L.Raw.ipAddress_of_pton6 be spec v none 0 h1 h6 (.inl rfl)]; rfl
    | none => rw [(C01L.Raw.ipAddressNone_error be spec 0 _).mpr (.inr ⟨rfl, h1, h4, h6⟩)]; rfl

/-- **The single IPv6 address given.**  If the spec is an RFC 4291 text of `v` (the independent
    grammar of C01), iteration yields exactly the IPv6 address `v`, and `valid_nmap_range` is True. -/
theorem nmap_v6_real (be : Backend) (fuel : Nat) (hf : 0 < fuel) (spec : List Char) (v : Nat)
    (h : C01G.Rfc4291 spec v) :
    iterNmapRange (realForeign be) fuel spec = .ok [⟨6, v⟩] ∧ validNmapRange (realForeign be) spec = .ok true := by
  have hapi : ipAddress be spec none 0 = .ok ⟨6, v⟩ := (C01.strict6_api be spec v 0).2.2 h
  have h1 : '/' ∉ spec := C01L.Raw.noslash_of_ok hapi
  have h2 : ':' ∈ spec := by
    obtain ⟨pre, r, e, _⟩ := C01G.rfc4291_shape spec v h
    rw [e]; simp
  have hit : iterNmapRange (realForeign be) fuel spec = .ok [⟨6, v⟩] := by
    rw [nmap_addr (realForeign be) fuel hf spec h1 h2]
    show (ipAddress be spec none 0).map _ = _
    rw [hapi]; rfl
  exact ⟨hit, valid_of_iter_ok hit⟩

example : iterNmapRange (realForeign .platform) 7 "fe80::1".toList = .ok [⟨6, 0xfe800000000000000000000000000001⟩] := by
  exact (nmap_v6_real .platform 7 (by decide) _ _ ((C01.strict6_iff .platform _ _).mp (by decide_lit))).1
/-- the `inet_aton` tail: a spec with ':' that yields an IPv4 address -/
example : iterNmapRange (realForeign .platform) 7 "1.2.3.4 :".toList = .ok [⟨4, 16909060⟩] := by
  decide_lit
example : iterNmapRange (realForeign .platform) 7 "1.2.3.4:".toList = .error .addrFormat := by
  decide_lit

/-! ## several specs in one call -/

/-- whether a spec iterates is what `valid_nmap_range` says about it (nmap.py's
    `iter_nmap_range` does not call `valid_nmap_range`; it runs the same generator on each
    argument, so the spec at which a call fails is the first one `valid_nmap_range` rejects).
    `0 < fuel`: with `fuel = 0` nothing runs, so every spec "iterates" and the left-to-right
    direction is false of the code. -/
theorem nmap_multi_valid (F : Foreign) (fuel : Nat) (hf : 0 < fuel) (s : List Char) :
    (∃ l, iterNmapRange F fuel s = .ok l) ↔ validNmapRange F s = .ok true := by
  rw [nmap_valid_true_iff, iter_eq_plan]
  cases parsePlan F s with
  | ok p => simp [Except.map]
  | error e => simp [Except.map]

/-- the direction of `nmap_multi_valid` that holds for every `fuel`, 0 included (a spec that
    `valid_nmap_range` accepts iterates without an exception however many items are asked for) -/
theorem nmap_iter_ok_of_valid (F : Foreign) (fuel : Nat) (s : List Char) (h : validNmapRange F s = .ok true) :
    ∃ l, iterNmapRange F fuel s = .ok l := by
  obtain ⟨p, hp⟩ := (nmap_valid_true_iff F s).1 h
  exact ⟨p.items fuel, by rw [iter_eq_plan, hp]; rfl⟩

/-- **All specs fine**: `iter_nmap_range(*specs)` is the concatenation, in argument order, of
    the single-spec iterations, and raises nothing. -/
theorem nmap_multi_all_ok (F : Foreign) (fuel : Nat) (specs : List (List Char))
    (h : ∀ s ∈ specs, validNmapRange F s = .ok true) :
    iterNmapRanges F fuel specs = (specs.flatMap (itemsOf F fuel), none) := by
  have := ranges_append F fuel specs [] fun s hs => nmap_iter_ok_of_valid F fuel s (h s hs)
  rwa [List.append_nil, iterNmapRanges, List.append_nil] at this

/-- **First failing spec**: the items of all earlier specs, in order, have been yielded when the
    first spec that `valid_nmap_range` rejects raises its own exception — at the point where its
    items would start; later specs are never looked at. -/
theorem nmap_multi_first_fail (F : Foreign) (fuel : Nat) (hf : 0 < fuel) (pre post : List (List Char)) (s : List Char)
    (hpre : ∀ x ∈ pre, validNmapRange F x = .ok true) (hs : validNmapRange F s ≠ .ok true) :
    ∃ e, iterNmapRange F fuel s = .error e ∧
      iterNmapRanges F fuel (pre ++ s :: post) = (pre.flatMap (itemsOf F fuel), some e) := by
  cases hit : iterNmapRange F fuel s with
  | ok l => exact absurd ((nmap_multi_valid F fuel hf s).1 ⟨l, hit⟩) hs
  | error e =>
    refine ⟨e, rfl, ?_⟩
    rw [ranges_append F fuel pre (s :: post) fun x hx => nmap_iter_ok_of_valid F fuel x (hpre x hx), iterNmapRanges,
      show parseTargetSpec F fuel s = .error e from hit, List.append_nil]

theorem nmap_multi_cases (F : Foreign) (specs : List (List Char)) :
    (∀ s ∈ specs, validNmapRange F s = .ok true) ∨
    ∃ pre s post, specs = pre ++ s :: post ∧ (∀ x ∈ pre, validNmapRange F x = .ok true) ∧ validNmapRange F s ≠ .ok true :=
  ok_or_first_fail (fun s => validNmapRange F s = .ok true) specs

example : iterNmapRanges (realForeign .platform) 4096 ["10.0.0.0/31".toList, "::1".toList, "1.2.3".toList, "9.9.9.9".toList] =
    ([⟨4, 167772160⟩, ⟨4, 167772161⟩, ⟨6, 1⟩], some .addrFormat) := by
  decide_lit

/-- **One budget for the whole call** (`itertools.islice(iter_nmap_range(*specs), fuel)`): what
    the consumer sees is the unbounded run `fullTrace` — all items of the specs before the first
    one that fails to parse, then that spec's exception — cut after `fuel` items; an exception
    lying behind `fuel` or more items is never raised. -/
theorem nmap_islice (F : Foreign) (fuel : Nat) (specs : List (List Char)) :
    isliceNmapRanges F fuel specs = truncTrace fuel (fullTrace F specs) :=
  islice_eq F specs fuel

/-- the unbounded run: concatenation in argument order / stop at the first rejected spec -/
theorem nmap_trace (F : Foreign) :
    (∀ specs, (∀ s ∈ specs, validNmapRange F s = .ok true) → fullTrace F specs = (specs.flatMap (allOf F), none)) ∧
    (∀ pre s post, (∀ x ∈ pre, validNmapRange F x = .ok true) → validNmapRange F s ≠ .ok true →
      ∃ e, parsePlan F s = .error e ∧ fullTrace F (pre ++ s :: post) = (pre.flatMap (allOf F), some e)) := by
  constructor
  · intro specs h
    have := trace_append F specs [] fun s hs => (nmap_valid_true_iff F s).1 (h s hs)
    rwa [List.append_nil, fullTrace, List.append_nil] at this
  · intro pre s post hpre hs
    cases hp : parsePlan F s with
    | ok p => exact absurd ((nmap_valid_true_iff F s).2 ⟨p, hp⟩) hs
    | error e =>
      refine ⟨e, rfl, ?_⟩
      rw [trace_append F pre (s :: post) fun x hx => (nmap_valid_true_iff F x).1 (hpre x hx), fullTrace, hp, List.append_nil]

example : isliceNmapRanges (realForeign .platform) 2 ["10.0.0.0/31".toList, "1.2.3".toList] =
    ([⟨4, 167772160⟩, ⟨4, 167772161⟩], none) := by
  decide_lit
example : isliceNmapRanges (realForeign .platform) 3 ["10.0.0.0/31".toList, "1.2.3".toList] =
    ([⟨4, 167772160⟩, ⟨4, 167772161⟩], some .addrFormat) := by
  decide_lit

/-! ## the independent grammar -/

/-- the model's well-formedness of the octet-list form (stated through `int()` and the model's
    own split) is the grammar `OctetsSpec` -/
theorem octetsWF_iff_grammar (spec : List Char) : NmapOctetsWF spec ↔ OctetsSpec spec := by
  constructor
  · rintro ⟨_, t0, t1, t2, t3, hsp, w0, w1, w2, w3⟩
    refine ⟨t0, t1, t2, t3, ?_, (octetWF_iff t0).1 w0, (octetWF_iff t1).1 w1, (octetWF_iff t2).1 w2, (octetWF_iff t3).1 w3⟩
    rw [← hsp]; exact (List.intercalate_splitOn '.').symm
  · rintro ⟨t0, t1, t2, t3, rfl, h0, h1, h2, h3⟩
    refine ⟨?_, t0, t1, t2, t3, split_of_octetsSpec h0 h1 h2 h3, (octetWF_iff t0).2 h0, (octetWF_iff t1).2 h1,
      (octetWF_iff t2).2 h2, (octetWF_iff t3).2 h3⟩
    simp only [join_cons_cons, List.intercalate_singleton]; intro e
    have := congrArg List.length e
    simp at this

/-- **Octet-list form = the grammar.**  For a spec without '/' and ':' (any foreign parsers:
    they are not consulted) `valid_nmap_range` is True exactly on the strings of `OctetsSpec`. -/
theorem nmap_octets_valid_iff (F : Foreign) (spec : List Char) (h1 : '/' ∉ spec) (h2 : ':' ∉ spec) :
    validNmapRange F spec = .ok true ↔ OctetsSpec spec := by
  rw [← octetsWF_iff_grammar]
  constructor
  · intro h
    apply Classical.byContradiction
    intro hn
    rw [(nmap_rejects F 1 (by omega) spec h1 h2 hn).2] at h
    cases h
  · intro h
    obtain ⟨full, hit, _⟩ := nmap_yields F 1 spec h1 h2 h
    exact valid_of_iter_ok hit

/-- **Octet-list form, denotation in grammar terms.**  For a spec of the grammar, iteration
    yields the first `fuel` items of a non-empty, strictly ascending (hence duplicate-free) list
    whose members are exactly the IPv4 addresses each of whose octets is denoted by an element
    of that octet's list. -/
theorem nmap_yields_grammar (F : Foreign) (fuel : Nat) (spec : List Char) (h : OctetsSpec spec) :
    ∃ full : List Nat, iterNmapRange F fuel spec = .ok ((full.take fuel).map (fun v => ⟨4, v⟩)) ∧
      full ≠ [] ∧ full.Pairwise (· < ·) ∧ ∀ a, a ∈ full ↔ OctetsSpecDen spec a := by
  obtain ⟨h1, h2⟩ := octetsSpec_chars h
  obtain ⟨full, hit, hne, hs, hm⟩ := nmap_yields F fuel spec h1 h2 ((octetsWF_iff_grammar spec).2 h)
  refine ⟨full, hit, hne, hs, fun a => ?_⟩
  obtain ⟨t0, t1, t2, t3, rfl, l0, l1, l2, l3⟩ := h
  rw [hm a, nmapDen_iff (split_of_octetsSpec l0 l1 l2 l3), octetsSpecDen_iff l0 l1 l2 l3,
    octetDen_iff t0 ((octetWF_iff t0).2 l0), octetDen_iff t1 ((octetWF_iff t1).2 l1),
    octetDen_iff t2 ((octetWF_iff t2).2 l2), octetDen_iff t3 ((octetWF_iff t3).2 l3)]

/-- the strings `valid_nmap_range` accepts (no reference to any model function except C's
    `inet_aton` in the last, degenerate alternative) -/
inductive NmapGrammar : List Char → Prop
  /-- four comma/hyphen octet lists -/
  | octets {spec : List Char} : OctetsSpec spec → NmapGrammar spec
  /-- `cidraddr '/' prefix`: one to four `int()`-literal octets, the prefix an `int()` literal
      of a value in 1..32 -/
  | cidr {a t : List Char} {v p : Nat} : CidrAddr a v → IntLit t (p : Int) → 1 ≤ p → p ≤ 32 → NmapGrammar (a ++ '/' :: t)
  /-- an RFC 4291 IPv6 address text -/
  | addr6 {spec : List Char} {v : Nat} : C01G.Rfc4291 spec v → NmapGrammar spec
  /-- a text with ':' that `inet_aton` reads as an IPv4 address (the ':' sits behind a blank) -/
  | atonTail {spec : List Char} {v : Nat} : '/' ∉ spec → ':' ∈ spec → Text4.aton spec = some v → NmapGrammar spec

/-- **`valid_nmap_range` = the grammar**, for every string of the model and both back ends.  For a text with a
    character above 127 the modelled `int()` (`Py.pyInt`, ASCII only) is not CPython's, which also reads non-ASCII
    decimal digits: such a text is outside the domain of the theorems (DESIGN.md §3.1), and there the code can
    accept what model and grammar refuse. -/
theorem nmap_valid_iff_grammar (be : Backend) (spec : List Char) :
    validNmapRange (realForeign be) spec = .ok true ↔ NmapGrammar spec := by
  constructor
  · intro h
    by_cases h1 : '/' ∈ spec
    · obtain ⟨p, hp⟩ := (nmap_valid_true_iff _ spec).1 h
      obtain ⟨a, t, rfl, ha⟩ := List.eq_append_cons_of_mem h1
      rw [parsePlan_cidr be a t ha] at hp
      cases hz : Py.pyInt 10 t with
      | none => rw [hz] at hp; cases hp
      | some z =>
        rw [hz] at hp
        dsimp only at hp
        split at hp
        · cases hp
        · next hg =>
          obtain ⟨n, rfl⟩ := Int.eq_ofNat_of_zero_le (Int.le_of_lt (Decidable.not_not.1 hg).1)
          cases h4 : C03L.Acc.addr4Spec a with
          | none => rw [h4] at hp; cases hp
          | some v => exact .cidr ((addr4Spec_iff a v).1 h4) ((pyInt_iff t _).1 hz) (by omega) (by omega)
    · by_cases h2 : ':' ∈ spec
      · cases ha : Text4.aton spec with
        | some v => exact .atonTail h1 h2 ha
        | none =>
          cases h6 : inetPton6 be spec with
          | some v => exact .addr6 ((C01.strict6_iff be spec v).1 h6)
          | none =>
            -- neither reader accepts the text: the iteration raises, `valid_nmap_range` is False
            have hit := nmap_colon_real be 1 (by omega) spec h1 h2
            rw [ha, h6] at hit
            rw [valid_of_iter_err hit] at h
            simp [caught] at h
      · exact .octets ((nmap_octets_valid_iff _ spec h1 h2).1 h)
  · intro h
    cases h with
    | octets h =>
      obtain ⟨h1, h2⟩ := octetsSpec_chars h
      exact (nmap_octets_valid_iff _ spec h1 h2).2 h
    | @cidr a t v p ha ht hp1 hp =>
      exact valid_of_iter_ok (nmap_cidr_grammar be 1 a t v p ha ht hp1 hp)
    | addr6 h => exact (nmap_v6_real be 1 (by omega) spec _ h).2
    | atonTail h1 h2 ha =>
      have hit := nmap_colon_real be 1 (by omega) spec h1 h2
      rw [ha] at hit
      exact valid_of_iter_ok hit

/-! grammar examples: int() leniencies are productions, '*' and empty elements are not -/
example : OctetsSpec "10.0.0-1.1,3-5,-2".toList :=
  (nmap_octets_valid_iff noForeign _ (by decide_lit) (by decide_lit)).1 (by decide_lit)
example : Element "0--0".toList 0 0 :=
  (elemBounds_iff _ _ _).1 (by decide_lit)
example : Element " +0_7 ".toList 7 7 :=
  (elemBounds_iff _ _ _).1 (by decide_lit)
example : Element "250-".toList 250 255 :=
  (elemBounds_iff _ _ _).1 (by decide_lit)
example : ¬ ∃ lo hi, Element "*".toList lo hi := by
  rintro ⟨lo, hi, h⟩
  have hn : elemBounds "*".toList = none := by decide_lit
  rw [(elemBounds_iff _ _ _).2 h] at hn
  cases hn
example : ¬ OctetList "1,,2".toList :=
  fun h => absurd ((octetWF_iff _).2 h) (by decide_lit)

end NV.C17
