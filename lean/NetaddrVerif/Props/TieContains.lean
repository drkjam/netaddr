/-
Props/TieContains.lean — translation tie for `x in y` (C04): the current source text of
`IPNetwork.__contains__` and `IPRange.__contains__`, translated once per operand class
(`isinstance` tests decided by the class), equals `Contains.netContains` / `Contains.rngContains`.
-/
import NetaddrVerif.Gen.Trans
import NetaddrVerif.Lemmas.TieL
import NetaddrVerif.Model.Contains
namespace NV.Tie
open NV NV.Trans NV.Contains

/-- the family test every `__contains__` starts with; the rest is compared within one family -/
theorem ver_guard_text (v o : Nat) {x y : Bool} (h : x = y) :
    (if (v : Int) ≠ (o : Int) then decide False else x) = (if v != o then false else y) :=
  Py.ite_eq (·) (·) ((not_congr Int.natCast_inj).trans bne_iff_ne.symm) (fun _ => rfl) fun _ => h

theorem net_contains_addr (self : Net) (a : Addr) (hp : self.plen ≤ width self.ver) :
    IPNetwork_contains_addr self.ver self.val self.plen a.ver a.val = netContains self (.addr a) := by
  simp only [tie_unfold, netContains, Obj.ver, Py.shr_sub hp]
  exact ver_guard_text _ _ (Py.dec_eq_cast _ _)

theorem net_contains_net (self n : Net) (hp : self.plen ≤ width self.ver) :
    IPNetwork_contains_net self.ver self.val self.plen n.ver n.val n.plen = netContains self (.net n) := by
  simp only [tie_unfold, netContains, Obj.ver, Py.shr_sub hp]
  refine ver_guard_text _ _ ?_
  simp only [Bool.decide_and, Py.dec_eq_cast, Int.ofNat_le]

theorem net_contains_rng (self : Net) (r : Rng) (hp : self.plen ≤ width self.ver) :
    IPNetwork_contains_rng self.ver self.val self.plen r.ver r.lo r.hi = netContains self (.rng r) := by
  simp only [tie_unfold, netContains, Obj.ver, Py.shr_sub hp, ← Int.natCast_succ, Py.shl_sub hp]
  refine ver_guard_text _ _ ?_
  simp only [Bool.decide_and, Int.ofNat_le, gt_iff_lt, Int.ofNat_lt, Nat.succ_eq_add_one]

theorem rng_contains_addr (self : Rng) (a : Addr) :
    IPRange_contains_addr self.ver self.lo self.hi a.ver a.val = rngContains self (.addr a) := by
  simp only [tie_unfold, rngContains, Obj.ver]
  refine ver_guard_text _ _ ?_
  simp only [Bool.decide_and, ge_iff_le, Int.ofNat_le]

theorem rng_contains_rng (self r : Rng) :
    IPRange_contains_rng self.ver self.lo self.hi r.ver r.lo r.hi = rngContains self (.rng r) := by
  simp only [tie_unfold, rngContains, Obj.ver]
  refine ver_guard_text _ _ ?_
  simp only [Bool.decide_and, ge_iff_le, Int.ofNat_le]

theorem rng_contains_net (self : Rng) (n : Net) (hp : n.plen ≤ width n.ver) :
    IPRange_contains_net self.ver self.lo self.hi n.ver n.val n.plen = rngContains self (.net n) := by
  simp only [tie_unfold, rngContains, Obj.ver, Py.shr_sub hp, Py.shl_sub hp, Py.one_shl_sub hp]
  refine ver_guard_text _ _ ?_
  simp only [← Int.natCast_add, Py.natCast_pred (Nat.le_trans (Py.one_shl_pos _) (Nat.le_add_left _ _)),
    Bool.decide_and, ge_iff_le, Int.ofNat_le]

example : IPNetwork_contains_rng 4 0x0A000005 24 4 0x0A000000 0x0A0000FF = true ∧
    IPRange_contains_net 4 0x0A000000 0x0A0000FF 4 0x0A000005 24 = true ∧
    IPRange_contains_net 4 0x0A000000 0x0A0000FE 4 0x0A000005 24 = false := by decide

end NV.Tie
