/-
Props/C09.lean — property C09 "cidr_exclude / cidr_partition split a block exactly around the
excluded part".  The property theorems; helper lemmas are in Lemmas/Partition, PartStruct (the
loop), C09L, C05LPart (from the loop to canonical lists), NetBlock (nesting), Canon, CanonSetL,
Minimal.

Statement (properties.jsonl): for every target network T and exclude network E of the same
family, cidr_partition returns (before, middle, after) where before and after are minimal,
disjoint, ascending CIDR lists covering exactly the addresses of T below and above E, middle is
[E] when E lies strictly inside T, [T] when E covers T, and [] when they are disjoint (T then
appears whole on the side away from E); together the three lists tile T and nothing outside
T\E ever appears in before+after.  cidr_exclude(T, E) equals before + after.

Everything is proved for every width `w` (IPv4: 32, IPv6: 128) and all networks `t`, `e` of that
width (`PWF`: value < 2^w, prefix ≤ w), host bits or not.  "Minimal CIDR list" is `Canon`
(aligned, strictly ascending, pairwise disjoint, no two members that could be merged) together
with `canon_unique` / `canon_minimal`: it is *the* shortest list of aligned blocks with that
address set.
-/
import NetaddrVerif.Lemmas.C05LPart
namespace NV.C09
open NV Blk NV.C09L

/-- two networks that share an address nest: the longer prefix lies inside the shorter -/
theorem nested_of_overlap (w : Nat) (t e : Pfx) (ht : PWF w t) (he : PWF w e)
    (h1 : ¬ e.last w < t.first w) (h2 : ¬ t.last w < e.first w) (hle : t.plen ≤ e.plen) :
    t.first w ≤ e.first w ∧ e.last w ≤ t.last w := by
  have hT := val_between w t.val t.plen ht.val_lt
  have hE := val_between w e.val e.plen he.val_lt
  unfold Pfx.first Pfx.last at *
  exact nested_of_share w t.val t.plen e.val e.plen (max (netFirst w t.val t.plen) (netFirst w e.val e.plen))
    ht.val_lt he.val_lt hle ⟨Nat.le_max_left _ _, by omega⟩ ⟨Nat.le_max_right _ _, by omega⟩

/-- two networks are apart, or the one with the shorter prefix contains the other: the three cases
    `cidr_partition` tells apart -/
theorem pfx_cases (w : Nat) (t e : Pfx) (ht : PWF w t) (he : PWF w e) :
    (e.last w < t.first w ∨ t.last w < e.first w) ∨
    (¬ (e.last w < t.first w ∨ t.last w < e.first w) ∧ t.plen ≥ e.plen ∧ e.first w ≤ t.first w ∧ t.last w ≤ e.last w) ∨
    (¬ (e.last w < t.first w ∨ t.last w < e.first w) ∧ ¬ t.plen ≥ e.plen ∧ t.first w ≤ e.first w ∧ e.last w ≤ t.last w) := by
  by_cases hd : e.last w < t.first w ∨ t.last w < e.first w
  · exact Or.inl hd
  · have h1 := fun h => hd (Or.inl h)
    have h2 := fun h => hd (Or.inr h)
    by_cases hp : t.plen ≥ e.plen
    · exact Or.inr (Or.inl ⟨hd, hp, nested_of_overlap w e t he ht h2 h1 hp⟩)
    · exact Or.inr (Or.inr ⟨hd, hp, nested_of_overlap w t e ht he h1 h2 (Nat.le_of_lt (Nat.lt_of_not_le hp))⟩)

theorem loop_facts (w : Nat) (t e : Pfx) (ht : PWF w t) (he : PWF w e)
    (h1 : ¬ e.last w < t.first w) (h2 : ¬ t.last w < e.first w) (hlt : t.plen < e.plen) :
    let lr := partLoop w (e.first w) e.plen (t.plen + 1) (t.first w)
      (t.first w + 2 ^ (w - (t.plen + 1))) [] []
    (∀ a, lden w lr.1 a ↔ t.first w ≤ a ∧ a < e.first w) ∧
    (∀ a, lden w lr.2.reverse a ↔ e.last w < a ∧ a ≤ t.last w) ∧
    Canon (blks w lr.1) ∧ Canon (blks w lr.2.reverse) ∧
    (∀ b ∈ lr.1, t.plen < b.plen ∧ b.plen ≤ w) ∧ (∀ b ∈ lr.2.reverse, t.plen < b.plen ∧ b.plen ≤ w) := by
  intro lr
  have hT := ht.last_first
  have hE := he.last_first
  have hnest := nested_of_overlap w t e ht he h1 h2 (Nat.le_of_lt hlt)
  obtain ⟨hb, ha⟩ := C05L.loop_run w (e.first w) e.plen (t.first w) t.plen he.plen_le hlt
    (he.first_aligned) (ht.first_aligned) hnest.1 (by omega)
  have hp := partLoop_plen w (e.first w) e.plen he.plen_le (t.plen + 1) (t.first w)
    (t.first w + 2 ^ (w - (t.plen + 1)))
  exact ⟨hb.den, fun a => by rw [ha.den a]; omega, C05L.map_toBlk w _ ▸ hb.canon, C05L.map_toBlk w _ ▸ ha.canon,
    hp.1, fun b h => hp.2 b (List.mem_reverse.1 h)⟩

/-- **disjoint networks**: T appears whole (host bits cleared) on the side away from E -/
theorem disjoint_whole (w : Nat) (t e : Pfx) :
    (e.last w < t.first w → cidrPartition w t e = ([], [], [t.cidr w])) ∧
    (¬ e.last w < t.first w → t.last w < e.first w → cidrPartition w t e = ([t.cidr w], [], [])) := by
  constructor
  · intro h; rw [cidrPartition, if_pos h]
  · intro h1 h2; rw [cidrPartition, if_neg h1, if_pos h2]

theorem middle_eq (w : Nat) (t e : Pfx) :
    (cidrPartition w t e).2.1 =
      (if e.last w < t.first w ∨ t.last w < e.first w then []
       else if t.plen ≥ e.plen then [t] else [e]) := by
  unfold cidrPartition
  by_cases h1 : e.last w < t.first w
  · rw [if_pos h1, if_pos (Or.inl h1)]
  · rw [if_neg h1]
    by_cases h2 : t.last w < e.first w
    · rw [if_pos h2, if_pos (Or.inr h2)]
    · rw [if_neg h2, if_neg (not_or.2 ⟨h1, h2⟩)]
      split <;> rfl

/-- **C09, main theorem.**  `before` and `after` cover exactly the addresses of T below and
    above E, both are canonical (minimal, ascending, disjoint) lists of networks of the family
    that are no shorter than T's prefix, and `middle` is `[]` / `[T]` / `[E]` by the three cases. -/
theorem partition_spec (w : Nat) (t e : Pfx) (ht : PWF w t) (he : PWF w e) :
    (∀ a, den (blks w (cidrPartition w t e).1) a ↔ t.mem w a ∧ a < e.first w) ∧
    (∀ a, den (blks w (cidrPartition w t e).2.2) a ↔ t.mem w a ∧ e.last w < a) ∧
    Canon (blks w (cidrPartition w t e).1) ∧ Canon (blks w (cidrPartition w t e).2.2) ∧
    (∀ b ∈ (cidrPartition w t e).1 ++ (cidrPartition w t e).2.2,
        PWF w b ∧ t.plen ≤ b.plen ∧ b.val % 2 ^ (w - b.plen) = 0) ∧
    (cidrPartition w t e).2.1 =
      (if e.last w < t.first w ∨ t.last w < e.first w then []
       else if t.plen ≥ e.plen then [t] else [e]) := by
  have hft := pfx_first_le_last w t
  have hfe := pfx_first_le_last w e
  have hlast := ht.last_lt
  rw [middle_eq w t e]
  -- T whole, as the only member of one side
  have hcs : Canon (blks w [t.cidr w]) := canon_single (ht.first_aligned)
  have hcw : ∀ b ∈ [t.cidr w], PWF w b ∧ t.plen ≤ b.plen ∧ b.val % 2 ^ (w - b.plen) = 0 := by
    intro b hb
    rw [List.mem_singleton.1 hb]
    exact ⟨⟨by rw [pfx_cidr_val]; omega, ht.plen_le⟩, Nat.le_refl _, ht.first_aligned⟩
  by_cases h1 : e.last w < t.first w
  · rw [(disjoint_whole w t e).1 h1]
    refine ⟨fun a => iff_of_false (C05L.den_nil a) ?_, fun a => ?_, canon_nil, hcs, hcw, rfl⟩
    · simp only [Pfx.mem]; omega
    · rw [den_single_cidr w t ht]; simp only [Pfx.mem]; omega
  by_cases h2 : t.last w < e.first w
  · rw [(disjoint_whole w t e).2 h1 h2]
    refine ⟨fun a => ?_, fun a => iff_of_false (C05L.den_nil a) ?_, hcs, canon_nil, hcw, rfl⟩
    · rw [den_single_cidr w t ht]; simp only [Pfx.mem]; omega
    · simp only [Pfx.mem]; omega
  by_cases h3 : t.plen ≥ e.plen
  · -- E covers T: nothing of T lies below or above E
    have hn := nested_of_overlap w e t he ht h2 h1 h3
    rw [cidrPartition_covered w t e h1 h2 h3]
    refine ⟨fun a => iff_of_false (C05L.den_nil a) ?_, fun a => iff_of_false (C05L.den_nil a) ?_,
      canon_nil, canon_nil, fun b hb => (nomatch hb), rfl⟩
    · simp only [Pfx.mem]; omega
    · simp only [Pfx.mem]; omega
  · have hlt : t.plen < e.plen := Nat.lt_of_not_le h3
    obtain ⟨hb, ha, hcb, hca, hpb, hpa⟩ := loop_facts w t e ht he h1 h2 hlt
    have hn := nested_of_overlap w t e ht he h1 h2 (Nat.le_of_lt hlt)
    rw [cidrPartition_inside w t e h1 h2 hlt]
    -- every emitted block lies inside T, hence below 2^w, and is aligned
    have hwf : ∀ (l : List Pfx), Canon (blks w l) → (∀ a, lden w l a → a ≤ t.last w) →
        (∀ b ∈ l, t.plen < b.plen ∧ b.plen ≤ w) →
        ∀ b ∈ l, PWF w b ∧ t.plen ≤ b.plen ∧ b.val % 2 ^ (w - b.plen) = 0 := by
      intro l hc hd hp b hbl
      have := hd _ ⟨b, hbl, Nat.le_refl _, Nat.lt_add_of_pos_right (Nat.two_pow_pos _)⟩
      exact ⟨⟨by omega, (hp b hbl).2⟩, Nat.le_of_lt (hp b hbl).1, hc.al (blk w b) (List.mem_map.2 ⟨b, hbl, rfl⟩)⟩
    refine ⟨fun a => ?_, fun a => ?_, hcb, hca, fun b hbm => ?_, rfl⟩
    · rw [den_blks, hb a]; simp only [Pfx.mem]; omega
    · rw [den_blks, ha a]; simp only [Pfx.mem]; omega
    · rcases List.mem_append.1 hbm with h | h
      · exact hwf _ hcb (fun a h' => by have := (hb a).1 h'; omega) hpb b h
      · exact hwf _ hca (fun a h' => ((ha a).1 h').2) hpa b h

example : cidrPartition 32 ⟨0xC0000200, 24⟩ ⟨0xC0000240, 28⟩ =
    ([⟨0xC0000200, 26⟩], [⟨0xC0000240, 28⟩], [⟨0xC0000250, 28⟩, ⟨0xC0000260, 27⟩, ⟨0xC0000280, 25⟩]) := by
  decide +kernel

/-- **which case is which**: `middle = []` exactly when T and E share no address; otherwise the
    shorter prefix contains the other network, so `[T]` means E covers T and `[E]` means E lies
    strictly inside T. -/
theorem middle_cases (w : Nat) (t e : Pfx) (ht : PWF w t) (he : PWF w e) :
    ((cidrPartition w t e).2.1 = [] ↔ ∀ a, ¬ (t.mem w a ∧ e.mem w a)) ∧
    ((cidrPartition w t e).2.1 = [t] → ∀ a, t.mem w a → e.mem w a) ∧
    ((∃ a, t.mem w a ∧ e.mem w a) → (∀ a, t.mem w a → e.mem w a) → (cidrPartition w t e).2.1 = [t]) ∧
    ((∃ a, t.mem w a ∧ e.mem w a) → ¬ (∀ a, t.mem w a → e.mem w a) →
        (cidrPartition w t e).2.1 = [e] ∧ (∀ a, e.mem w a → t.mem w a)) := by
  have hft := pfx_first_le_last w t
  have hfe := pfx_first_le_last w e
  rw [middle_eq w t e]
  rcases pfx_cases w t e ht he with hd | ⟨hd, hp, hn⟩ | ⟨hd, hp, hn⟩
  · have hno := not_mem_of_disj hd
    rw [if_pos hd]
    exact ⟨⟨fun _ => hno, fun _ => rfl⟩, nofun, fun ⟨a, ha⟩ => absurd ha (hno a),
      fun ⟨a, ha⟩ => absurd ha (hno a)⟩
  all_goals
    have hne : ¬ ∀ a, ¬ (t.mem w a ∧ e.mem w a) := fun h =>
      h (max (t.first w) (e.first w)) (by simp only [Pfx.mem]; omega)
    rw [if_neg hd]
  · have hcov := mem_of_nested hn
    rw [if_pos hp]
    exact ⟨⟨nofun, fun h => absurd h hne⟩, fun _ => hcov, fun _ _ => rfl,
      fun _ hnall => absurd hcov hnall⟩
  · have hin := mem_of_nested hn
    have hnot : ¬ ∀ a, t.mem w a → e.mem w a := by
      intro hall
      -- T is the larger block, so its ends cannot both lie in E
      have hsz : 2 ^ (w - e.plen) < 2 ^ (w - t.plen) :=
        Nat.pow_lt_pow_right (by decide) (by have := he.plen_le; omega)
      have hT := ht.last_first
      have hE := he.last_first
      have h1 := (hall (t.first w) ⟨Nat.le_refl _, hft⟩).1
      have h2 := (hall (t.last w) ⟨hft, Nat.le_refl _⟩).2
      omega
    rw [if_neg hp]
    refine ⟨⟨nofun, fun h => absurd h hne⟩, fun h => ?_, fun _ hall => absurd hall hnot,
      fun _ _ => ⟨rfl, hin⟩⟩
    obtain rfl : e = t := (List.cons.inj h).1
    exact fun a ha => ha

theorem middle_den (w : Nat) (t e : Pfx) (ht : PWF w t) (he : PWF w e) (a : Nat) :
    (∃ m ∈ (cidrPartition w t e).2.1, m.mem w a) ↔ t.mem w a ∧ e.mem w a := by
  rw [middle_eq w t e]
  rcases pfx_cases w t e ht he with hd | ⟨hd, hp, hn⟩ | ⟨hd, hp, hn⟩
  · rw [if_pos hd]; exact iff_of_false (fun ⟨_, h, _⟩ => nomatch h) (not_mem_of_disj hd a)
  · rw [if_neg hd, if_pos hp]; simp only [List.mem_singleton, exists_eq_left, Pfx.mem]; omega
  · rw [if_neg hd, if_neg hp]; simp only [List.mem_singleton, exists_eq_left, Pfx.mem]; omega

/-- **the three lists tile T**: every address of T is in exactly one of before / middle / after,
    and nothing else is in any of them -/
theorem partition_tiles (w : Nat) (t e : Pfx) (ht : PWF w t) (he : PWF w e) (a : Nat) :
    let B := den (blks w (cidrPartition w t e).1) a
    let M := ∃ m ∈ (cidrPartition w t e).2.1, m.mem w a
    let A := den (blks w (cidrPartition w t e).2.2) a
    (t.mem w a ↔ B ∨ M ∨ A) ∧ ¬ (B ∧ M) ∧ ¬ (B ∧ A) ∧ ¬ (M ∧ A) := by
  intro B M A
  have hfe := pfx_first_le_last w e
  obtain ⟨hb, ha, -⟩ := partition_spec w t e ht he
  simp only [B, M, A, hb a, ha a, middle_den w t e ht he a, Pfx.mem]
  omega

/-- `cidr_exclude(T, E)` is `before + after` of `cidr_partition(T, E)` -/
theorem exclude_eq (w : Nat) (t e : Pfx) :
    cidrExclude w t e = (cidrPartition w t e).1 ++ (cidrPartition w t e).2.2 := rfl

/-- **cidr_exclude**: the result denotes exactly T \ E and is a canonical list -/
theorem exclude_spec (w : Nat) (t e : Pfx) (ht : PWF w t) (he : PWF w e) :
    (∀ a, den (blks w (cidrExclude w t e)) a ↔ t.mem w a ∧ ¬ e.mem w a) ∧
    Canon (blks w (cidrExclude w t e)) ∧
    (∀ b ∈ cidrExclude w t e, PWF w b ∧ t.plen ≤ b.plen ∧ b.val % 2 ^ (w - b.plen) = 0) := by
  have hfe := pfx_first_le_last w e
  obtain ⟨hb, ha, hcb, hca, hwf, _⟩ := partition_spec w t e ht he
  rw [exclude_eq]
  refine ⟨?_, ?_, hwf⟩
  · intro a
    rw [show blks w (_ ++ _) = blks w _ ++ blks w _ from List.map_append, den_append, hb a, ha a]
    simp only [Pfx.mem]; omega
  · simp only [blks, List.map_append]
    -- a block of `before` ends at or below E.first, a block of `after` starts above E.last
    have hgap : ∀ b ∈ (cidrPartition w t e).1.map (blk w), ∀ c ∈ (cidrPartition w t e).2.2.map (blk w),
        b.base + 2 ^ b.k < c.base := by
      intro b hbm c hcm
      have hpb := Nat.two_pow_pos b.k
      have h1 := (hb (b.base + 2 ^ b.k - 1)).1 ⟨b, hbm, by simp only [Blk.mem]; omega⟩
      have h2 := (ha c.base).1 ⟨c, hcm, mem_base c⟩
      omega
    exact canon_append_gap hcb hca hgap

/-- **uniqueness and minimality**: any canonical list with the address set T \ E *is* the result,
    and no list of aligned blocks with that address set is shorter -/
theorem exclude_unique_minimal (w : Nat) (t e : Pfx) (ht : PWF w t) (he : PWF w e) (l : List Blk)
    (hden : ∀ a, den l a ↔ t.mem w a ∧ ¬ e.mem w a) :
    (Canon l → l = blks w (cidrExclude w t e)) ∧
    ((∀ b ∈ l, b.aligned) → (cidrExclude w t e).length ≤ l.length) := by
  obtain ⟨hd, hc, _⟩ := exclude_spec w t e ht he
  exact unique_minimal w _ hc l fun a => (hden a).trans (hd a).symm

/-- the same for each side of the partition -/
theorem partition_unique_minimal (w : Nat) (t e : Pfx) (ht : PWF w t) (he : PWF w e) (l : List Blk) :
    ((∀ a, den l a ↔ t.mem w a ∧ a < e.first w) →
      (Canon l → l = blks w (cidrPartition w t e).1) ∧
      ((∀ b ∈ l, b.aligned) → (cidrPartition w t e).1.length ≤ l.length)) ∧
    ((∀ a, den l a ↔ t.mem w a ∧ e.last w < a) →
      (Canon l → l = blks w (cidrPartition w t e).2.2) ∧
      ((∀ b ∈ l, b.aligned) → (cidrPartition w t e).2.2.length ≤ l.length)) := by
  obtain ⟨hb, ha, hcb, hca, _, _⟩ := partition_spec w t e ht he
  exact ⟨fun hden => unique_minimal w _ hcb l fun a => (hden a).trans (hb a).symm,
    fun hden => unique_minimal w _ hca l fun a => (hden a).trans (ha a).symm⟩

/-- non-vacuity: a host-sized exclude at the last address of the IPv4 space, target with host bits -/
example : cidrExclude 32 ⟨0xFFFFFF07, 24⟩ ⟨0xFFFFFFFF, 32⟩ =
    [⟨0xFFFFFF00, 25⟩, ⟨0xFFFFFF80, 26⟩, ⟨0xFFFFFFC0, 27⟩, ⟨0xFFFFFFE0, 28⟩, ⟨0xFFFFFFF0, 29⟩,
     ⟨0xFFFFFFF8, 30⟩, ⟨0xFFFFFFFC, 31⟩, ⟨0xFFFFFFFE, 32⟩] := by decide +kernel

example : PWF 32 ⟨0xFFFFFF07, 24⟩ ∧ PWF 32 ⟨0xFFFFFFFF, 32⟩ := by
  refine ⟨⟨by decide, by decide⟩, ⟨by decide, by decide⟩⟩

end NV.C09
