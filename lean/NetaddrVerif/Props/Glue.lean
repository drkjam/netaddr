/-
Props/Glue.lean — the argument-coercion glue (`IPNetwork(x)` / `IPAddress(x)` in front of
`cidr_merge`, `spanning_cidr`, `IPSet.add/remove/update/__init__/__contains__`, `x in y`, the
`*_matching_cidr(s)` helpers) is inside the model (Model/Coerce.lean, driver ops `merge_raw`,
`spanning_raw`, `ipset_raw`, `contains_raw`, `match_raw`).

What is shown:
  (a) for every printed / documented form the coercion denotes the object: `str(IPNetwork)`,
      `str(IPAddress)`, 'a/<netmask>', 'a/<hostmask>' (C03), address text in every dialect (C01);
      copy forms are identities; an int is an address of the magnitude-detected family for
      `IPAddress`, a TypeError for `IPNetwork`; the error classes are exactly these;
  (b) `merge_raw`, `spanning_raw`, `ipset_raw`, `contains_raw`, `match_raw` on coercible
      arguments equal the model's operations on the coerced arguments — so every theorem of
      C05 / C13 / C06 / C07 / C04 transfers, and the transferred main statements are given.
      The `*_eq` theorems, `ipset_raw_reachable` and `match_raw_spec`'s `ip` take anything that
      coerces (`f x = .ok y`; for a list through `All₂`, see `all₂_ok_iff`); the `*_spec` and
      `in_raw_*` theorems take a written form: `WritesNet`, `Writes`, `WritesArg` of Lemmas/GlueL,
      `∃ r, x = .raw r ∧ WritesNet r n` for a `spanning_cidr` element (`written_item`), and in
      `in_raw_rng` the two forms of an address spelled out (its text, the int of its family) —
      there is no relation for them;
  (c) on an argument that is not coercible the call raises, with which error, and (IPSet) the
      set is left as it was.
-/
import NetaddrVerif.Lemmas.GlueL
import NetaddrVerif.Props.C01
import NetaddrVerif.Props.C04
import NetaddrVerif.Props.C05
import NetaddrVerif.Props.C06
import NetaddrVerif.Props.C07
import NetaddrVerif.Props.C13
namespace NV.Glue
open NV NV.AddrParse NV.NetParse NV.Coerce NV.GlueL

/-! ### (a) what the coercions denote -/

/-- **`IPNetwork(str(n)) = n`** — version, value with host bits, prefix. -/
theorem toNet_str_roundtrip (n : Net) (hn : n.WF) : toNet (.str (netStr Coerce.be n)) = .ok n :=
  writesNet_toNet (.netStr n hn)

example : (⟨4, 0xC0A80105, 24⟩ : Net).WF := by simp [Net.WF, width]

/-- **`IPNetwork(str(a))`** for an address: the full-width network of that address. -/
theorem toNet_addr_text (a : Addr) (ha : a.WF) :
    toNet (.str (intToStr Coerce.be a.ver a.val)) = .ok ⟨a.ver, a.val, width a.ver⟩ :=
  writesNet_toNet (.addrStr a ha)

/-- **netmask and hostmask spellings** denote the same network as 'a/p' (the hostmask one
    where it is unambiguous, `0 < p < width`). -/
theorem toNet_mask_text (n : Net) (hn : n.WF) :
    toNet (.str (intToStr Coerce.be n.ver n.val ++ '/' :: intToStr Coerce.be n.ver (netNetmask (width n.ver) n.plen))) = .ok n ∧
    (0 < n.plen ∧ n.plen < width n.ver →
      toNet (.str (intToStr Coerce.be n.ver n.val ++ '/' :: intToStr Coerce.be n.ver (netHostmask (width n.ver) n.plen))) = .ok n) :=
  ⟨writesNet_toNet (.maskStr n hn), fun hp => writesNet_toNet (.hostStr n hn hp)⟩

/-- **`IPAddress(str(a)) = a`**: IPv4 text with any flag combination, IPv6 text in every dialect. -/
theorem toAddr_text (fl : Nat) :
    (∀ v, v < 2 ^ 32 → fl < 4 → toAddr (.str (intToStr Coerce.be 4 v)) fl = .ok ⟨4, v⟩) ∧
    (∀ d v, v < 2 ^ 128 → toAddr (.str (intToStr6 Coerce.be d v)) fl = .ok ⟨6, v⟩) :=
  ⟨fun v hv hfl => C01.roundtrip4 Coerce.be v hv none (Or.inl rfl) fl hfl,
   fun d v hv => C01.roundtrip6 Coerce.be d v hv none (Or.inl rfl) fl⟩

/-- **copy forms are identities**: `IPNetwork(IPNetwork)`, `IPNetwork(IPAddress)` (full width),
    `IPAddress(IPAddress)`, `IPAddress(IPNetwork)` (the stored address, host bits kept). -/
theorem copy_forms (n : Net) (a : Addr) (fl : Nat) :
    toNet (.net n) = .ok n ∧ toNet (.addr a) = .ok ⟨a.ver, a.val, width a.ver⟩ ∧
    toAddr (.addr a) fl = .ok a ∧ toAddr (.net n) fl = .ok ⟨n.ver, n.val⟩ :=
  ⟨rfl, rfl, rfl, rfl⟩

/-- **an int**: `IPNetwork(int)` is a TypeError; `IPAddress(int)` is the address of the
    magnitude-detected family — IPv4 below `2^32`, IPv6 from `2^32` to `2^128 - 1`,
    AddrFormatError outside `0 .. 2^128 - 1` — whatever the flags. -/
theorem int_forms (i : Int) (fl : Nat) :
    toNet (.int i) = .error .type_ ∧
    (0 ≤ i → i < 2 ^ 32 → toAddr (.int i) fl = .ok ⟨4, i.toNat⟩) ∧
    (2 ^ 32 ≤ i → i < 2 ^ 128 → toAddr (.int i) fl = .ok ⟨6, i.toNat⟩) ∧
    (i < 0 ∨ 2 ^ 128 ≤ i → toAddr (.int i) fl = .error .addrFormat) := by
  refine ⟨rfl, fun h1 h2 => ?_, fun h1 h2 => ?_, fun h => ?_⟩
  · rw [toAddr_int, if_pos ⟨h1, h2⟩]
  · have n1 : ¬ (0 ≤ i ∧ i < 2 ^ 32) := by omega
    rw [toAddr_int, if_neg n1, if_pos ⟨h1, h2⟩]
  · have n1 : ¬ (0 ≤ i ∧ i < 2 ^ 32) := by omega
    have n2 : ¬ (2 ^ 32 ≤ i ∧ i < 2 ^ 128) := by omega
    rw [toAddr_int, if_neg n1, if_neg n2]

example : toAddr (.int 4294967296) = .ok ⟨6, 4294967296⟩ ∧ toAddr (.int 4294967295) = .ok ⟨4, 4294967295⟩ := by
  decide

/-- **error classes of `IPNetwork(x)`**: AddrFormatError, and only for a string; TypeError, and
    only for an int; object arguments never fail. -/
theorem toNet_errors (x : Raw) (e : Err) (h : toNet x = .error e) :
    (∃ s, x = .str s ∧ e = .addrFormat) ∨ (∃ i, x = .int i ∧ e = .type_) := by
  cases x with
  | str s => exact Or.inl ⟨s, rfl, toNet_str_err s e h⟩
  | int i => cases h; exact Or.inr ⟨i, rfl, rfl⟩
  | addr a => cases h
  | net n => cases h

/-- **error classes of `IPAddress(x)`**: ValueError exactly for a string containing '/' (so for
    every printed network), AddrFormatError for any other rejected string and for an int
    outside `0 .. 2^128 - 1`; object arguments never fail. -/
theorem toAddr_errors (x : Raw) (fl : Nat) (e : Err) (h : toAddr x fl = .error e) :
    (∃ s, x = .str s ∧ s.contains '/' = true ∧ e = .value) ∨
    (∃ s, x = .str s ∧ s.contains '/' = false ∧ e = .addrFormat) ∨
    (∃ i, x = .int i ∧ e = .addrFormat ∧ (i < 0 ∨ 2 ^ 128 ≤ i)) := by
  cases x with
  | str s =>
    cases hs : s.contains '/' with
    | true =>
      have h' : ipAddress be s none fl = .error e := h
      rw [(C01.slash_refused be s fl hs).1] at h'
      cases h'
      exact Or.inl ⟨s, rfl, hs, rfl⟩
    | false =>
      exact Or.inr (Or.inl ⟨s, rfl, hs, C01.reject_is_addrformat Coerce.be s none fl e (Or.inl rfl) hs h⟩)
  | int i => exact Or.inr (Or.inr ⟨i, rfl, toAddr_int_err i fl e h⟩)
  | addr a => cases h
  | net n => cases h

theorem toAddr_refuses_network_text (n : Net) (fl : Nat) :
    toAddr (.str (netStr Coerce.be n)) fl = .error .value := by
  have : (netStr Coerce.be n).contains '/' = true := by
    unfold netStr
    simp
  exact (C01.slash_refused Coerce.be _ fl this).1

theorem written_wf {x : Raw} {n : Net} (h : WritesNet x n) : toNet x = .ok n ∧ n.WF :=
  ⟨writesNet_toNet h, writesNet_wf h⟩

/-! ### (b)/(c) cidr_merge -/

/-- **`merge_raw` = `cidrMerge` on the coerced arguments.**  When every element is coercible
    (`mergeItem x = ok m`: the object itself for networks and ranges, `IPNetwork(x)` otherwise)
    the result is `cidrMerge` of the coerced list. -/
theorem merge_raw_eq (xs : List Item) (ms : List MItem)
    (h : All₂ (fun x m => mergeItem x = .ok m) xs ms) : mergeRaw xs = .ok (cidrMerge ms) := by
  unfold mergeRaw
  rw [all₂_ok_iff.1 h]; rfl

/-- … in particular for every list of written forms (objects, `str()` texts, mask spellings) … -/
theorem merge_raw_written (xs : List Item) (ms : List MItem) (h : All₂ Writes xs ms) :
    mergeRaw xs = .ok (cidrMerge ms) ∧ ∀ m ∈ ms, C05L.ItemWF m :=
  ⟨merge_raw_eq xs ms (h.imp fun _ _ => writes_mergeItem), h.forall_right fun _ _ => writes_wf⟩

/-- … so **C05 transfers**: the answer to a list of written forms is the canonical list
    (ascending, IPv4 first, proper CIDRs, canonical per family) whose per-family union is the
    union of the denoted inputs, and it is the only such list. -/
theorem merge_raw_spec (xs : List Item) (ms : List MItem) (h : All₂ Writes xs ms) :
    ∃ l, mergeRaw xs = .ok l ∧ C05L.NetCanon l ∧
      (∀ u a, den (C05L.famBlks u l) a ↔ C05L.iden ms u a) ∧
      (∀ l', C05L.NetCanon l' → (∀ u a, den (C05L.famBlks u l') a ↔ C05L.iden ms u a) → l' = l) := by
  obtain ⟨he, hwf⟩ := merge_raw_written xs ms h
  exact ⟨_, he, C05.merge_canon ms hwf, C05.merge_den ms hwf, fun l' hl' hd => C05.merge_unique ms hwf l' hl' hd⟩

example : All₂ Writes
    [.raw (.str (netStr Coerce.be ⟨4, 0xC0000205, 25⟩)), .raw (.addr ⟨4, 0xC0000300⟩), .rng ⟨6, 2, 3⟩]
    [.net 4 ⟨0xC0000205, 25⟩, .net 4 ⟨0xC0000300, 32⟩, .rng 6 2 3] :=
  .cons (.raw _ ⟨4, 0xC0000205, 25⟩ (.netStr _ (by simp [Net.WF, width])))
    (.cons (.raw _ _ (.addr ⟨4, 0xC0000300⟩ (by simp [Addr.WF, width])))
      (.cons (.rng ⟨6, 2, 3⟩ (by simp [width])) .nil))

theorem mergeItem_err (x : Item) (e : Err) (h : mergeItem x = .error e) : e = .addrFormat ∨ e = .type_ := by
  cases x with
  | rng r => cases h
  | raw y =>
    rcases toNet_errors y e (Exc.map_eq_error.1 (mergeItem_raw_eq y ▸ h)) with ⟨_, _, he⟩ | ⟨_, _, he⟩
    · exact Or.inl he
    · exact Or.inr he

/-- **(c) what `cidr_merge` rejects**: when the call raises, the error is that of the first element that
    is not coercible (everything before it converts), and it is TypeError or AddrFormatError — nothing
    else can be raised; conversely a bare int after a coercible prefix does raise, a TypeError.  (Any
    element that fails after a coercible prefix raises its error, by `mapM_error_iff`; the statement says
    so for the int only.) -/
theorem merge_raw_errors (xs : List Item) :
    (∀ e, mergeRaw xs = .error e →
      (e = .addrFormat ∨ e = .type_) ∧ ∃ pre x post, xs = pre ++ x :: post ∧ mergeItem x = .error e ∧
        ∃ ms, pre.mapM mergeItem = .ok ms) ∧
    (∀ pre ms i post, pre.mapM mergeItem = .ok ms → mergeRaw (pre ++ .raw (.int i) :: post) = .error .type_) := by
  constructor
  · intro e h
    obtain ⟨pre, x, post, h1, h2, h3⟩ := mapM_error_iff.1 (Exc.map_eq_error.1 h)
    exact ⟨mergeItem_err x e h2, pre, x, post, h1, h2, h3⟩
  · intro pre ms i post hpre
    unfold mergeRaw
    rw [mapM_error_iff (f := mergeItem).2 ⟨pre, .raw (.int i), post, rfl, rfl, ms, hpre⟩]
    rfl

example : mergeRaw [.raw (.str "10.0.0.0/25".toList), .raw (.int 5)] = .error .type_ := by decide +kernel
example : mergeRaw [.raw (.str "bad".toList), .raw (.int 5)] = .error .addrFormat := by decide +kernel

/-! ### (b)/(c) spanning_cidr -/

/-- **`spanning_raw` = `Span.spanningCidrNets` on the coerced arguments.**  The code converts the first two
    elements eagerly and the others lazily inside its loop; when every element is coercible
    that interleaving is unobservable: the outcome — block, ValueError for fewer than two,
    TypeError for mixed families — is the one of `Span.spanningCidrNets`. -/
theorem spanning_raw_eq (xs : List Item) (ns : List Net)
    (h : All₂ (fun x n => spanItem x = .ok n) xs ns) : spanningRaw xs = Span.spanningCidrNets ns := by
  cases h with
  | nil => rfl
  | @cons a na xs1 ns1 ha t1 =>
    cases t1 with
    | nil =>
      simp only [spanningRaw, ha, bind, Except.bind]
      rfl
    | @cons b nb rest ns hb t =>
      -- the eager check of the second element is the first round of the lazy loop
      have hloop : spanningRaw (a :: b :: rest) =
          (spanRest na.ver (b :: rest)).bind (fun ns => Span.spanningCidrNets (na :: ns)) := by
        simp only [spanningRaw, spanRest, ha, hb, bind, Except.bind]
        by_cases hv : nb.ver ≠ na.ver
        · simp only [if_pos hv]
        · simp only [if_neg hv]
          cases spanRest na.ver rest <;> rfl
      rw [hloop, spanRest_ok na.ver _ _ (.cons hb t)]
      cases hall : (nb :: ns).all (fun n => n.ver == na.ver) with
      | true => rfl
      | false =>
        simp only [Span.spanningCidrNets, hall]
        rfl

/-- an element of a `spanning_cidr` sequence written as a network: beside `WritesNet`, `Writes`, `WritesArg` of
    Lemmas/GlueL the relation that `written_span` and `spanning_raw_spec` spell out -/
theorem written_item {x : Item} {n : Net} (h : ∃ r, x = Item.raw r ∧ WritesNet r n) : spanItem x = .ok n ∧ n.WF := by
  obtain ⟨r, rfl, hw⟩ := h
  exact ⟨writesNet_toNet hw, writesNet_wf hw⟩

theorem written_span (xs : List Item) (rest : List Net)
    (h : All₂ (fun x n => ∃ r, x = Item.raw r ∧ WritesNet r n) xs rest) :
    All₂ (fun x n => spanItem x = .ok n) xs rest ∧ ∀ n ∈ rest, n.WF :=
  ⟨h.imp fun _ _ hx => (written_item hx).1, h.forall_right fun _ _ hx => (written_item hx).2⟩

/-- **C13 transfers**: for two or more written forms of one family the answer is the
    host-bit-free block that contains every denoted network and has the longest prefix of all
    blocks that do. -/
theorem spanning_raw_spec (x y : Raw) (a b : Net) (xs : List Item) (rest : List Net)
    (hx : WritesNet x a) (hy : WritesNet y b)
    (h : All₂ (fun x n => ∃ r, x = Item.raw r ∧ WritesNet r n) xs rest)
    (hver : ∀ n ∈ a :: b :: rest, n.ver = a.ver) :
    ∃ r, spanningRaw (.raw x :: .raw y :: xs) = .ok r ∧ r.WF ∧ r.ver = a.ver ∧ r.first = r.val ∧
      (∀ n ∈ a :: b :: rest, r.first ≤ n.first ∧ n.last ≤ r.last) ∧
      (∀ c : Net, c.WF → c.ver = a.ver → (∀ n ∈ a :: b :: rest, c.first ≤ n.first ∧ n.last ≤ c.last) →
        c.plen ≤ r.plen) := by
  obtain ⟨h1, hr⟩ := written_span xs rest h
  have hwf : ∀ n ∈ a :: b :: rest, n.WF :=
    List.forall_mem_cons.2 ⟨writesNet_wf hx, List.forall_mem_cons.2 ⟨writesNet_wf hy, hr⟩⟩
  rw [spanning_raw_eq (.raw x :: .raw y :: xs) (a :: b :: rest) (.cons (writesNet_toNet hx) (.cons (writesNet_toNet hy) h1))]
  exact C13.spanning_nets_spec a b rest hwf hver

/-- **(c) what `spanning_cidr` rejects** in front of its computation: an empty sequence is a
    ValueError; a one-element sequence raises the conversion error of that element if it has
    one and ValueError otherwise; a conversion error of the first element comes before everything
    else; a bare int or an `IPRange` in first position, and a bare int in second position after a
    first element that converts, is a TypeError.  (An `IPRange` in second position is a TypeError
    too, by the same line; the statement does not list it.) -/
theorem spanning_raw_errors (x : Item) (n : Net) (i : Int) (r : Rng) (rest : List Item) :
    spanningRaw [] = .error .value ∧
    (spanItem x = .ok n → spanningRaw [x] = .error .value) ∧
    (∀ e, spanItem x = .error e → spanningRaw (x :: rest) = .error e) ∧
    spanningRaw (.raw (.int i) :: rest) = .error .type_ ∧
    spanningRaw (.rng r :: rest) = .error .type_ ∧
    (spanItem x = .ok n → spanningRaw (x :: .raw (.int i) :: rest) = .error .type_) := by
  refine ⟨rfl, fun h => ?_, fun e h => ?_, rfl, rfl, fun h => ?_⟩
  · simp only [spanningRaw, h, bind, Except.bind]
  · simp only [spanningRaw, h, bind, Except.bind]
  · simp only [spanningRaw, h, bind, Except.bind]
    rfl

example : spanningRaw [.raw (.str "1.2.3.4".toList), .raw (.str "1.2.3.5".toList), .raw (.str "::1".toList),
    .raw (.str "bad".toList)] = .error .type_ := by decide +kernel
example : spanningRaw [.raw (.str "1.2.3.4".toList), .raw (.str "1.2.3.5".toList), .raw (.str "bad".toList),
    .raw (.str "::1".toList)] = .error .addrFormat := by decide +kernel

/-! ### (b)/(c) IPSet -/

/-- **`add` / `remove` with a raw argument** are `IPSet.add` / `IPSet.remove` on the coerced
    argument (an int is `IPAddress(int)` as a full-width network — `add` skips `.cidr` for it,
    which changes nothing); **the list forms**: the two passes of the code (all ints first, then
    `cidr_merge`'s own conversion) are one pass, because every conversion error there is
    AddrFormatError. -/
theorem ipset_raw_ops (s : IPSet.St) (x : Item) (xs : List Item) (fl : Nat) :
    addRaw s x fl = (argOf x fl).map (IPSet.add s) ∧
    removeRaw s x fl = (argOf x fl).map (IPSet.remove s) ∧
    updateRaw s xs fl = (xs.mapM (argOf · fl)).map (IPSet.updateList s) ∧
    newRaw xs fl = (xs.mapM (argOf · fl)).map IPSet.newOfList := by
  refine ⟨addRaw_eq s x fl, removeRaw_eq s x fl, ?_, ?_⟩
  · unfold updateRaw; rw [listArgs_eq]
  · unfold newRaw; rw [listArgs_eq]

/-- **one step**: a step whose arguments are coercible is `IPSet.stepOp` on the coerced
    operation; **(c)** a step with an argument that is not coercible raises AddrFormatError and
    leaves every set as it was. -/
theorem ipset_raw_step (sets : List IPSet.St) (rop : ROp) :
    (∀ op, liftOp rop = .ok op → stepRaw sets rop = IPSet.stepOp sets op) ∧
    (∀ e, liftOp rop = .error e → e = .addrFormat ∧ (stepRaw sets rop).1 = sets ∧ (stepRaw sets rop).2.2 = some e) := by
  refine ⟨fun op h => ?_, fun e h => ⟨liftOp_err rop e h, ?_, ?_⟩⟩
  · rw [stepRaw_eq, h]
  · rw [stepRaw_eq, h]
  · rw [stepRaw_eq, h]

/-- **any raw history**, rejected calls included, leaves the sets of the history of its accepted
    calls: a call that raises changes nothing, so every theorem about `IPSet.runOps` (C06: canonical
    after any history) holds whatever was refused on the way. -/
theorem runRaw_eq (rops : List ROp) : runRaw rops = IPSet.runOps (accepted rops) := by
  suffices hs : ∀ sets : List IPSet.St, rops.foldl (fun sets op => (stepRaw sets op).1) sets =
      (accepted rops).foldl (fun sets op => (IPSet.stepOp sets op).1) sets from hs []
  induction rops with
  | nil => intro sets; rfl
  | cons r t ih =>
    intro sets
    rw [List.foldl_cons, stepRaw_eq, accepted, List.filterMap_cons]
    cases liftOp r <;> exact ih _

theorem ipset_raw_eq (rops : List ROp) (ops : List IPSet.Op)
    (h : All₂ (fun r o => liftOp r = .ok o) rops ops) : runRaw rops = IPSet.runOps ops := by
  rw [runRaw_eq, accepted_of_all₂ h]

/-- **C06 transfers**: after any history whose arguments are coercible to well-formed
    arguments, every live set is canonical and denotes what plain set theory says. -/
theorem ipset_raw_reachable (rops : List ROp) (ops : List IPSet.Op)
    (h : All₂ (fun r o => liftOp r = .ok o) rops ops) (hok : ∀ op ∈ ops, op.OK) :
    ∀ i, IPSet.Inv (IPSet.getSet (runRaw rops) i) ∧
      ∀ u a, IPSet.denS (IPSet.getSet (runRaw rops) i) u a ↔ (IPSet.runBoth ops).2 i u a := by
  rw [ipset_raw_eq rops ops h]
  exact C06.reachable ops hok

theorem written_arg {x : Item} {a : IPSet.Arg} (h : WritesArg x a) (fl : Nat) :
    argOf x fl = .ok a ∧ IPSet.ArgOK a := ⟨writesArg_argOf h fl, writesArg_ok h⟩

/-- `add` of any written form: canonical again, old addresses plus the denoted ones
    (`IPSet.add_spec`, transferred) -/
theorem add_raw_spec (s : IPSet.St) (hs : IPSet.Inv s) (x : Item) (a : IPSet.Arg) (h : WritesArg x a) (fl : Nat) :
    ∃ s', addRaw s x fl = .ok s' ∧ IPSet.Inv s' ∧
      ∀ u v, IPSet.denS s' u v ↔ IPSet.denS s u v ∨ IPSet.argDen a u v := by
  refine ⟨IPSet.add s a, ?_, IPSet.add_spec s hs a (writesArg_ok h)⟩
  rw [addRaw_eq, writesArg_argOf h fl]; rfl

/-- `remove` of any written form (`IPSet.remove_spec`, transferred) -/
theorem remove_raw_spec (s : IPSet.St) (hs : IPSet.Inv s) (x : Item) (a : IPSet.Arg) (h : WritesArg x a) (fl : Nat) :
    ∃ s', removeRaw s x fl = .ok s' ∧ IPSet.Inv s' ∧
      ∀ u v, IPSet.denS s' u v ↔ IPSet.denS s u v ∧ ¬ IPSet.argDen a u v := by
  refine ⟨IPSet.remove s a, ?_, IPSet.remove_spec s hs a (writesArg_ok h)⟩
  rw [removeRaw_eq, writesArg_argOf h fl]; rfl

example : WritesArg (.raw (.int (4294967296 : Nat))) (.net ⟨6, 4294967296, 128⟩) := .int6 _ (by decide)

/-- **membership**: `x in ipset` for a written form of the network `n` is True exactly when
    every address of `n` is in the set (C07 `contains_iff`, transferred); a bare int or an
    `IPRange` is a TypeError. -/
theorem contains_raw_spec (s : IPSet.St) (hs : IPSet.Inv s) (x : Raw) (n : Net) (h : WritesNet x n) :
    (∃ b, containsRaw s (.raw x) = .ok b ∧
      (b = true ↔ ∀ a, n.first ≤ a → a ≤ n.last → IPSet.denS s n.ver a)) ∧
    (∀ i, containsRaw s (.raw (.int i)) = .error .type_) ∧
    (∀ r, containsRaw s (.rng r) = .error .type_) := by
  exact ⟨⟨IPSet.contains s n, congrArg (Except.map (IPSet.contains s)) (writesNet_toNet h),
    C07.contains_iff s hs n (writesNet_wf h)⟩, fun _ => rfl, fun _ => rfl⟩

/-! ### (b)/(c) x in y, matching -/

/-- **`x in IPNetwork`** for a written form of the network `n` (string or object; an address is
    its full-width network): True exactly for interval inclusion within one family (C04,
    transferred); a bare int is a TypeError. -/
theorem in_raw_net (y : Net) (hy : y.WF) (x : Raw) (n : Net) (h : WritesNet x n) :
    (∃ b, inRaw (.net y) (.raw x) = .ok b ∧
      (b = true ↔ n.ver = y.ver ∧ y.first ≤ n.first ∧ n.last ≤ y.last)) ∧
    (∀ i, inRaw (.net y) (.raw (.int i)) = .error .type_) := by
  refine ⟨?_, fun _ => rfl⟩
  have hn := writesNet_wf h
  have hto := writesNet_toNet h
  -- every form is compared as an object with the version and the interval of `n`
  have hobj : ∃ o : Contains.Obj, inRaw (.net y) (.raw x) = .ok (Contains.netContains y o) ∧ o.WF ∧
      o.ver = n.ver ∧ o.first = n.first ∧ o.last = n.last := by
    cases x with
    | int i => cases hto
    | str s => exact ⟨.net n, by simp only [inRaw, hto]; rfl, hn, rfl, rfl, rfl⟩
    | net m =>
      rw [toNet_net] at hto
      cases hto
      exact ⟨.net n, rfl, hn, rfl, rfl, rfl⟩
    | addr a =>
      rw [toNet_addr] at hto
      cases hto
      exact ⟨.addr a, rfl, ⟨hn.1, hn.2.1⟩, rfl, (netFirst_full _ _ hn.2.1).symm, (netLast_full _ _).symm⟩
  obtain ⟨o, ho, hwf, hv, hf, hl⟩ := hobj
  exact ⟨_, ho, by rw [C04.netContains_iff y o hy hwf, hv, hf, hl]⟩

/-- **`x in IPRange`** (or IPGlob) for a non-object operand goes through `IPAddress(x)`: an
    address text or an int in range answers interval membership of that address (the int in
    its magnitude-detected family); a CIDR text — any string with '/' — is a ValueError. -/
theorem in_raw_rng (y : Rng) (x : Raw) :
    (∀ a : Addr, a.WF → (x = .str (intToStr Coerce.be a.ver a.val) ∨ x = .int a.val ∧ (a.ver = 4 ∨ 2 ^ 32 ≤ a.val)) →
      ∃ b, inRaw (.rng y) (.raw x) = .ok b ∧ (b = true ↔ a.ver = y.ver ∧ y.lo ≤ a.val ∧ a.val ≤ y.hi)) ∧
    (∀ s, s.contains '/' = true → inRaw (.rng y) (.raw (.str s)) = .error .value) := by
  constructor
  · intro a ha hx
    have hto : toAddr x = .ok a := by
      obtain ⟨ver, val⟩ := a
      obtain ⟨hver, hv⟩ := ha
      rcases hver with h4 | h6
      · subst h4
        rcases hx with rfl | ⟨rfl, _⟩
        · exact (toAddr_text 0).1 val hv (by decide)
        · exact toAddr_nat4 val 0 hv
      · subst h6
        rcases hx with rfl | ⟨rfl, h4 | h32⟩
        · exact C01.roundtrip6 Coerce.be .compact val hv none (Or.inl rfl) 0
        · cases h4
        · exact toAddr_nat6 val 0 h32 hv
    refine ⟨Contains.contains (.rng y) (.addr a), ?_, C04.rngContains_iff y (.addr a) ha⟩
    rcases hx with rfl | ⟨rfl, _⟩ <;> simp only [inRaw, hto] <;> rfl
  · intro s hs
    have := (C01.slash_refused Coerce.be s 0 hs).1
    simp only [inRaw, toAddr, this]; rfl

example : inRaw (.rng ⟨4, 0, 9⟩) (.raw (.int 5)) = .ok true ∧ inRaw (.net ⟨4, 0, 24⟩) (.raw (.int 5)) = .error .type_ := by
  decide +kernel

/-- **matching helpers**: `IPAddress(ip)` and `IPNetwork(c)` of every candidate, then the
    scan of Model/Contains — with C04's statement transferred for written forms: `all_matching_cidrs`
    returns exactly the candidates (as networks) of the address's family whose interval
    contains it, least specific first. -/
theorem match_raw_spec (ip : Raw) (a : Addr) (cands : List Raw) (ns : List Net)
    (hip : toAddr ip = .ok a) (ha : a.WF) (h : All₂ WritesNet cands ns) :
    matchRaw .all ip cands = .ok (Contains.allMatching a ns) ∧
    matchRaw .small ip cands = .ok (Contains.smallestMatching a ns).toList ∧
    matchRaw .large ip cands = .ok (Contains.largestMatching a ns).toList ∧
    (∀ c, c ∈ Contains.allMatching a ns ↔ (c ∈ ns ∧ a.ver = c.ver ∧ c.first ≤ a.val ∧ a.val ≤ c.last)) ∧
    (Contains.allMatching a ns).Pairwise (fun x y => x.plen ≤ y.plen) := by
  have hm : cands.mapM toNet = .ok ns := all₂_ok_iff.1 (h.imp fun _ _ => writesNet_toNet)
  have hs := C04.all_matching_spec a ns ha (h.forall_right fun _ _ => writesNet_wf)
  refine ⟨?_, ?_, ?_, hs.1, hs.2.2.1⟩ <;> simp only [matchRaw, hip, hm, bind, Except.bind] <;> rfl

end NV.Glue
