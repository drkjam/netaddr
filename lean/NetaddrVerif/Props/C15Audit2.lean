/-
Props/C15Audit2.lean — property C15: the bit-string round trip with the width the EUI modules pass, and the
object-level accessors.

`C15.bits_roundtrip_builtin` decodes with `bitsToInt s (d.wordSize * d.numWords) d.sep`, but
eui48 / eui64 `bits_to_int(bits, dialect)` pass the MODULE constant `width` (strategy/eui48.py:272-276,
eui64.py:249-253), which is what the driver executes (`E48.width` / `E64.width`).  `builtin_dialect_width`
shows that for every built-in dialect the two are the same number, and `bits_roundtrip_builtin_module` restates
the round trip with the module width, i.e. about the function the code calls.

The object-level accessors: `eui_accessors_dialect_free` lists C08's theorem here (EUI.words / packed / bits() /
bits(sep) ignore the object's dialect and are the C15 codecs with octet words), and `ipaddr_accessors_strategy` states that `IPAddress.__bytes__ / bits / packed / words / bin / reverse_dns`
(`Codec.IPObj.*`, what the driver op `c15_obj` executes) are the strategy functions of the object's family.

For `eui_accessors_dialect_free`, and for `Eui.builtin_width48` / `builtin_width64` behind `builtin_dialect_width`,
this file imports Props/C08 and with it all of C08's lemma files.
-/
import NetaddrVerif.Props.C15
import NetaddrVerif.Props.C08
import NetaddrVerif.Model.CodecObj
namespace NV.C15A2
open NV NV.Codec NV.C15

/-- **every built-in dialect spans its module's width**: `word_size * num_words` is 48 for every MAC dialect
    and 64 for every EUI-64 dialect (a complete finite table, regenerated into Gen/Dialects.lean on every run;
    `Eui.builtin_width48` / `builtin_width64` with the factors turned round) -/
theorem builtin_dialect_width :
    (∀ d ∈ Gen.macDialects, d.wordSize * d.numWords = E48.width) ∧
    (∀ d ∈ Gen.eui64Dialects, d.wordSize * d.numWords = E64.width) :=
  ⟨fun d hd => (Nat.mul_comm ..).trans (Eui.builtin_width48 d hd),
    fun d hd => (Nat.mul_comm ..).trans (Eui.builtin_width64 d hd)⟩

/-- decoder ∘ encoder = id on bit strings **with the width the code passes**: `eui48.bits_to_int(s, dialect)`
    is `_bits_to_int(s, width, dialect.word_sep)` with the module's `width = 48` (resp. 64), whatever the
    dialect; the encoder takes `word_size`, `num_words`, `word_sep` from the dialect -/
theorem bits_roundtrip_builtin_module (v : Nat) :
    (∀ d ∈ Gen.macDialects, v < 2 ^ 48 →
      ∃ s, intToBits v d.wordSize d.numWords d.sep = .ok s ∧ bitsToInt s E48.width d.sep = .ok (Int.ofNat v)) ∧
    (∀ d ∈ Gen.eui64Dialects, v < 2 ^ 64 →
      ∃ s, intToBits v d.wordSize d.numWords d.sep = .ok s ∧ bitsToInt s E64.width d.sep = .ok (Int.ofNat v)) := by
  have key : ∀ d ∈ Gen.macDialects ++ Gen.eui64Dialects, ∀ W, d.wordSize * d.numWords = W → 1 ≤ W → v < 2 ^ W →
      ∃ s, intToBits v d.wordSize d.numWords d.sep = .ok s ∧ bitsToInt s W d.sep = .ok (Int.ofNat v) := by
    rintro d hd _ rfl hW hv
    exact (bits_roundtrip_builtin v).1 d hd (Nat.mul_comm .. ▸ hv) hW
  exact ⟨fun d hd => key d (List.mem_append_left _ hd) _ (builtin_dialect_width.1 d hd) (by decide),
    fun d hd => key d (List.mem_append_right _ hd) _ (builtin_dialect_width.2 d hd) (by decide)⟩

example : (⟨"mac_cisco", 16, 3, ['.'], 4, false⟩ : Gen.Dialect) ∈ Gen.macDialects := by decide
example : intToBits 5 16 3 ['.'] = .ok "0000000000000000.0000000000000000.0000000000000101".toList ∧
    bitsToInt "0000000000000000.0000000000000000.0000000000000101".toList E48.width ['.'] = .ok 5 := by
  decide_lit

/-- **EUI.words / packed / bits() / bits(sep)** (C08's `accessors_dialect_free`, listed under C15): they do not
    involve the object's dialect; they are the C15 codecs with octet words — `EUI.bits(word_sep)` has its own
    branch `_int_to_bits(value, 8, width//8, word_sep)` (netaddr/eui/__init__.py:641-650), `bits()` and `words`
    use the module default dialect -/
theorem eui_accessors_dialect_free (v : Nat) :
    (Eui.words 48 v = intToWords v 8 6 ∧ Eui.words 64 v = intToWords v 8 8) ∧
    (v < 2 ^ 48 → Eui.packed 48 v = .ok (beBytes 6 v)) ∧ (v < 2 ^ 64 → Eui.packed 64 v = .ok (beBytes 8 v)) ∧
    (∀ sep, Eui.bits 48 v (some sep) = intToBits v 8 6 sep ∧ Eui.bits 64 v (some sep) = intToBits v 8 8 sep) ∧
    (Eui.bits 48 v none = intToBits v 8 6 ['-'] ∧ Eui.bits 64 v none = intToBits v 8 8 ['-']) :=
  C08.accessors_dialect_free v

/-- **IPAddress.__bytes__ / bits / packed / words / bin / reverse_dns are the strategy functions** of the
    object's family applied to its value (netaddr/ip/__init__.py:519-560: one `return self._module.f(self._value…)`
    each), so every C15 theorem about `V4.* / V6.* / intToBits / intToBin / toBytes` is a theorem about the
    accessor -/
theorem ipaddr_accessors_strategy (v : Nat) (sep : Option (List Char)) :
    (IPObj.bits ⟨4, v⟩ sep = V4.intToBits v sep ∧ IPObj.bits ⟨6, v⟩ sep = V6.intToBits v sep) ∧
    (IPObj.packed ⟨4, v⟩ = V4.intToPacked v ∧ IPObj.packed ⟨6, v⟩ = V6.intToPacked v) ∧
    (IPObj.words ⟨4, v⟩ = V4.intToWords v ∧ IPObj.words ⟨6, v⟩ = V6.intToWords v) ∧
    (IPObj.bin ⟨4, v⟩ = intToBin v 32 ∧ IPObj.bin ⟨6, v⟩ = intToBin v 128) ∧
    (IPObj.reverseDns ⟨4, v⟩ = V4.intToArpa v ∧ IPObj.reverseDns ⟨6, v⟩ = V6.intToArpa v) ∧
    (IPObj.bytes ⟨4, v⟩ = toBytes 4 v ∧ IPObj.bytes ⟨6, v⟩ = toBytes 16 v) :=
  ⟨⟨rfl, rfl⟩, ⟨rfl, rfl⟩, ⟨rfl, rfl⟩, ⟨rfl, rfl⟩, ⟨rfl, rfl⟩,
    ⟨by simp [IPObj.bytes, IPObj.modWidth, V4.width], by simp [IPObj.bytes, IPObj.modWidth, V6.width]⟩⟩

/-- … and with the family defaults spelled out: `bits()` is 4 octets joined by '.' / 8 hextets joined by ':',
    `bits(sep)` the same words joined by `sep`; `words` are the octets / hextets -/
theorem ipaddr_bits_words (v : Nat) (sep : List Char) :
    (IPObj.bits ⟨4, v⟩ none = intToBits v 8 4 ['.'] ∧ IPObj.bits ⟨6, v⟩ none = intToBits v 16 8 [':']) ∧
    (IPObj.bits ⟨4, v⟩ (some sep) = intToBits v 8 4 sep ∧ IPObj.bits ⟨6, v⟩ (some sep) = intToBits v 16 8 sep) ∧
    IPObj.words ⟨6, v⟩ = intToWords v 16 8 :=
  ⟨⟨rfl, rfl⟩, ⟨rfl, rfl⟩, rfl⟩

/-- the object-level round trip for an IPv4 / IPv6 address: `bits()` decodes back to the value with the
    family's `bits_to_int` -/
theorem ipaddr_bits_roundtrip (v : Nat) :
    (v < 2 ^ 32 → ∃ s, IPObj.bits ⟨4, v⟩ none = .ok s ∧ V4.bitsToInt s = .ok (Int.ofNat v)) ∧
    (v < 2 ^ 128 → ∃ s, IPObj.bits ⟨6, v⟩ none = .ok s ∧ V6.bitsToInt s = .ok (Int.ofNat v)) :=
  ⟨(bits_roundtrip_builtin v).2.1, (bits_roundtrip_builtin v).2.2⟩

example : IPObj.words ⟨4, 0x0A000001⟩ = .ok [10, 0, 0, 1] ∧ IPObj.bin ⟨4, 5⟩ = .ok "0b101".toList := by
  decide_lit

end NV.C15A2
