/-
Props/C01.lean — C01: address text round-trips; strict parsing equals the standard grammar;
all of it unchanged under netaddr's pure-Python fallback.

Property (properties.jsonl, in short; the BSD shorthand and ZEROFILL clauses are in Props/C01b.lean): every IPv4/IPv6 value prints (default form and each IPv6 dialect)
to text that parses back - with or without an explicit version, in default or strict mode - to
the same value and version; strict mode accepts exactly the standard strings; a rejected
address string raises AddrFormatError; unchanged when `netaddr.fbsocket` replaces the platform
functions.

The theorems are about `NV.AddrParse.ipAddress` / `intToStr` / `intToStr6` (Model/AddrParse.lean),
i.e. `IPAddress.__init__` for strings and `strategy.ipv4/ipv6.int_to_str`, over the modelled
platform functions (Model/Text4, Text6) and the model of `netaddr/fbsocket.py` (Model/FbSocket).
Helper lemmas live in Lemmas/C01L*.lean.

Strict IPv6 = RFC 4291 is proved in full (`strict6_iff`, `strict6_api`): the independent grammar
predicate `C01G.Rfc4291` is in Lemmas/C01LGrammar.lean, the equivalence with the split-style
platform model in Lemmas/C01LGrammarPton6.lean (`pton6_iff_rfc4291`), and the
fallback reader equals the platform model on all strings (`fallback_eq_platform_parse`).

Props/C01b.lean continues this file with the constructor-level characterisations for all strings:
default mode = the BSD shorthand grammar (`default4_api`, `default_none_api`, `shorthand_api`),
strict IPv4 (`strict4_api`), the exact ZEROFILL rewrite relation (`zerofill_rewrite`,
`zerofill_shorthand`, `zerofill_negative`, and at its end `C01.zerofill` for four zero-padded decimal octets),
`valid_ipv4`/`valid_ipv6` on strings with '/' (`valid_iff_all`) and `repr` (`repr_roundtrip`).
-/
import NetaddrVerif.Lemmas.C01LCtor
namespace NV.C01
open NV NV.Text4 NV.AddrParse NV.C01L

/-- **IPv4 round trip.**  `str(IPAddress(v, 4))` parses back to `(4, v)` with version `None` or
    `4`, under every combination of INET_PTON and ZEROFILL (`fl < 4`; the proof does not use `hfl`, it holds for
    every `fl`), on both back ends. -/
theorem roundtrip4 (be : Backend) (v : Nat) (hv : v < 2 ^ 32) (ver : Option Nat)
    (hver : ver = none ∨ ver = some 4) (fl : Nat) (hfl : fl < 4) :
    ipAddress be (intToStr be 4 v) ver fl = .ok ⟨4, v⟩ :=
  Raw.ipAddress_of_body4 be _ v ver fl (not_mem_of_contains_false (slash_not_in_ntoa v)) (Raw.body4_ntoa be v hv fl) hver

example : ipAddress .fallback (intToStr .fallback 4 0xC0000201) none ZEROFILL = .ok ⟨4, 0xC0000201⟩ :=
  roundtrip4 _ _ (by decide) _ (Or.inl rfl) _ (by decide)

/-- **IPv6 round trip.**  `IPAddress(v, 6).format(dialect)` for each of the three dialects parses
    back to `(6, v)` with version `None` or `6`, under every flags value, on both back ends. -/
theorem roundtrip6 (be : Backend) (d : Dialect) (v : Nat) (hv : v < 2 ^ 128) (ver : Option Nat)
    (hver : ver = none ∨ ver = some 6) (fl : Nat) :
    ipAddress be (intToStr6 be d v) ver fl = .ok ⟨6, v⟩ :=
  Raw.ipAddress_of_pton6 be _ v ver fl (not_mem_of_contains_false (text6_noslash be d v hv)) (text6_parse be d v hv) hver

example : ipAddress .platform (intToStr6 .platform .compact 0xffff01020304) none 0 = .ok ⟨6, 0xffff01020304⟩ :=
  roundtrip6 _ _ _ (by decide) _ (Or.inl rfl) _

/-- **No cross-family reading.**  A printed IPv4 text is never read as IPv6 and a printed IPv6
    text (any dialect) is never read as IPv4: with an explicit wrong version the constructor
    raises AddrFormatError, and (by `roundtrip4` / `roundtrip6`) without a version the printed
    family is the detected one. -/
theorem no_cross_family (be : Backend) (fl : Nat) :
    (∀ v, v < 2 ^ 32 → ipAddress be (intToStr be 4 v) (some 6) fl = .error .addrFormat) ∧
    (∀ d v, v < 2 ^ 128 → ipAddress be (intToStr6 be d v) (some 4) fl = .error .addrFormat) := by
  constructor
  · intro v hv
    have h6 : inetPton6 be (ntoa v) = none := inetPton6_no_colon be _ (colon_not_in_ntoa v)
    exact (Raw.ipAddress6_error be (ntoa v) fl _).mpr
      (Or.inr ⟨rfl, not_mem_of_contains_false (slash_not_in_ntoa v), h6⟩)
  · intro d v hv
    exact (Raw.ipAddress4_error be _ fl _).mpr (Or.inr ⟨rfl, not_mem_of_contains_false (text6_noslash be d v hv),
      Raw.body4_none_of_pton6 be _ v fl (text6_parse be d v hv)⟩)

/-- **Fallback = platform, parsing (IPv6).**  The model of `fbsocket.inet_pton(AF_INET6, ·)`
    (written line by line from fbsocket.py: head/tail blank handling with indices, `count`,
    the indexed token loop) and the platform model accept the same strings with the same values. -/
theorem fallback_eq_platform_parse (s : List Char) : FbSocket.pton6 s = Text6.pton6 s := fb_pton6_eq s

/-- **Fallback = platform, parsing (IPv4 strict).** -/
theorem fallback_eq_platform_parse4 (s : List Char) : FbSocket.pton4 s = Text4.pton4 s := fb_pton4_eq s

/-- **Fallback = platform, printing.**  `fbsocket.inet_ntop` (`_compact_ipv6_tokens` with its
    positions list, sort and scan; integer test for the dotted-quad tail) prints exactly the
    platform model's text for every 128-bit value; `inet_ntoa` likewise for 32-bit values. -/
theorem fallback_eq_platform_print (v : Nat) (hv : v < 2 ^ 128) : FbSocket.ntop6 v = Text6.ntop6 v :=
  fb_ntop6_eq v hv

theorem fallback_eq_platform_print4 (v : Nat) (hv : v < 2 ^ 32) : FbSocket.ntoa v = Text4.ntoa v := fb_ntoa_eq v hv

example : FbSocket.ntop6 0xffff01020304 = "::ffff:1.2.3.4".toList := by decide_lit

/-- **The back end is unobservable**: for every string, version and flags `IPAddress(...)`
    gives the same result (value or error class) under both back ends, and every value prints
    the same in every dialect. -/
theorem backend_irrelevant :
    (∀ s ver fl, ipAddress .fallback s ver fl = ipAddress .platform s ver fl) ∧
    (∀ d v, v < 2 ^ 128 → intToStr6 .fallback d v = intToStr6 .platform d v) ∧
    (∀ s fl, validStr4 .fallback s fl = validStr4 .platform s fl) ∧
    (∀ s, validStr6 .fallback s = validStr6 .platform s) :=
  ⟨fun s ver fl => by simp only [ipAddress, strToInt, strToInt4_be .fallback .platform, strToInt6_be .fallback .platform],
    intToStr6_be _ _,
    fun s fl => by rw [validStr4, validStr4, strToInt4_be .fallback .platform],
    fun s => by rw [validStr6, validStr6, inetPton6_eq, inetPton6_eq]⟩

/-- a string containing '/' is refused with ValueError whatever the (valid) version and flags -/
theorem slash_refused (be : Backend) (s : List Char) (flags : Nat) (h : s.contains '/' = true) :
    ipAddress be s none flags = .error .value ∧ ipAddress be s (some 4) flags = .error .value
      ∧ ipAddress be s (some 6) flags = .error .value := by
  exact ⟨Raw.ipAddress_slash be s _ flags h, Raw.ipAddress_slash be s _ flags h, Raw.ipAddress_slash be s _ flags h⟩

/-- **Rejected ⇒ AddrFormatError.**  With a valid version argument, a string without '/' that
    does not yield an address raises AddrFormatError (never another class, never an address of
    the other kind).  That '/' and an invalid version give ValueError is `slash_refused` and
    `invalid_version_refused`; as an iff it is `C01A2.value_error_raw`. -/
theorem reject_is_addrformat (be : Backend) (s : List Char) (ver : Option Nat) (fl : Nat) (e : Err)
    (hver : ver = none ∨ ver = some 4 ∨ ver = some 6) (hs : s.contains '/' = false)
    (h : ipAddress be s ver fl = .error e) : e = .addrFormat :=
  Raw.error_addrFormat hver hs h

example : (match ipAddress .platform "1.2.3.4.5".toList none 0 with | .error .addrFormat => true | _ => false) = true := by
  decide_lit

theorem invalid_version_refused (be : Backend) (s : List Char) (ver fl : Nat) (h : ver ≠ 4 ∧ ver ≠ 6) :
    ipAddress be s (some ver) fl = .error .value :=
  Raw.ipAddress2_self be s (some ver) fl ▸ Raw.ipAddress2_bad be be s ver fl h

/-- **Strict IPv4 = the standard grammar.**  In INET_PTON mode (either back end) the accepted
    strings are exactly the canonical dotted quads — four decimal octets 0..255 without leading
    zeros, i.e. exactly the strings `int_to_str` prints — each with its standard value. -/
theorem strict4_iff (be : Backend) (s : List Char) (v : Nat) :
    inetPton4 be s = some v ↔ v < 2 ^ 32 ∧ s = ntoa v :=
  inetPton4_iff be s v

example : inetPton4 .fallback "192.0.2.01".toList = none := by decide_lit

/-- `valid_ipv4` / `valid_ipv6` say exactly whether the constructor with that explicit version
    accepts the string (and raise AddrFormatError on the empty string, as documented) -/
theorem valid_iff (be : Backend) (s : List Char) (fl : Nat) (hs : s ≠ []) (hns : s.contains '/' = false) :
    (validStr4 be s fl = .ok true ↔ ∃ v, ipAddress be s (some 4) fl = .ok ⟨4, v⟩) ∧
    (validStr6 be s = .ok true ↔ ∃ v, ipAddress be s (some 6) fl = .ok ⟨6, v⟩) ∧
    validStr4 be [] fl = .error .addrFormat ∧ validStr6 be [] = .error .addrFormat := by
  refine ⟨?_, ?_, rfl, rfl⟩
  · rw [Raw.validStr4_isSome be s fl hs, Raw.ipAddress_some4, Raw.ctor_noslash hns]
    cases Raw.body4 be s fl <;> simp
  · rw [Raw.validStr6_isSome be s hs, Raw.ipAddress_some6, Raw.ctor_noslash hns]
    cases inetPton6 be s <;> simp

/-- **Strict IPv6 = RFC 4291.**  `inet_pton(AF_INET6, ·)` of either back end (the platform model
    and the model of `netaddr/fbsocket.py`) accepts exactly the strings of the independent
    declarative grammar `C01G.Rfc4291` (Lemmas/C01LGrammar.lean: groups of 1-4 hex digits joined
    by ':', at most one "::" standing for one or more zero groups, optional strict dotted quad
    as the last 32 bits, eight groups' worth), each with the value the grammar gives it. -/
theorem strict6_iff (be : Backend) (s : List Char) (v : Nat) : inetPton6 be s = some v ↔ C01G.Rfc4291 s v :=
  inetPton6_iff be s v

example : inetPton6 .fallback "2001:db8::8:800:200C:417A".toList = some 0x20010db80000000000080800200C417A := by
  decide_lit

/-- the same for the model of `fbsocket.inet_pton` itself -/
theorem strict6_iff_fallback (s : List Char) (v : Nat) : FbSocket.pton6 s = some v ↔ C01G.Rfc4291 s v :=
  strict6_iff .fallback s v

/-- the grammar is unambiguous: a string denotes at most one address -/
theorem rfc4291_functional (s : List Char) (v v' : Nat) (h : C01G.Rfc4291 s v) (h' : C01G.Rfc4291 s v') : v = v' :=
  C01G.rfc4291_functional s v v' h h'

/-- Strings outside RFC 4291 (negative examples for the grammar, via the equivalence): two
    "::", ":::", seven or nine groups, eight groups plus "::", a single leading or trailing ':',
    a five-digit group, a dotted quad that is not last / has a leading zero / three parts / an
    octet above 255 / makes nine groups' worth, foreign characters, zone and prefix suffixes,
    the empty string. -/
example : ∀ s ∈ ["1::2::3", ":::", "1:2:3:4:5:6:7", "1:2:3:4:5:6:7:8:9", "1:2:3:4:5:6:7::8", "::1:2:3:4:5:6:7:8",
      ":1:2:3:4:5:6:7:8", ":1::2", "1:2:3:4:5:6:7:8:", "1::2:", "12345::", "1.2.3.4::", "::1.2.3.4:5",
      "::1.2.3.04", "::1.2.3", "::256.1.1.1", "1:2:3:4:5:6:7:1.2.3.4", "1:2:3:4:5:1.2.3.4", "::g", " ::1", "::1 ",
      "::1%eth0", "::1/64", "::0x1", "", ":", "1", "1.2.3.4", "::-1", "::1_0"],
    ¬ ∃ v, C01G.Rfc4291 (String.toList s) v := by
  intro s hs
  apply C01G.rfc4291_reject
  revert s
  simp only [List.forall_mem_cons]
  decide_lit

/-- **Strict IPv6 at the constructor.**  `IPAddress(s, 6, flags)` and `IPAddress(s, flags=flags)`
    yield the IPv6 address `v` exactly when `s` is an RFC 4291 text denoting `v` — for every flags
    value (IPv6 parsing is always strict) and both back ends. -/
theorem strict6_api (be : Backend) (s : List Char) (v : Nat) (fl : Nat) :
    (ipAddress be s (some 6) fl = .ok ⟨6, v⟩ ↔ C01G.Rfc4291 s v) ∧
    (ipAddress be s none fl = .ok ⟨6, v⟩ ↔ C01G.Rfc4291 s v) := by
  rw [← strict6_iff be s v, Raw.ipAddress6_ok, Raw.ipAddressNone_iff]
  exact ⟨⟨fun h => h.2.2, fun h => ⟨rfl, inetPton6_noslash h, h⟩⟩,
    ⟨fun h => h.2.elim (fun h' => absurd h'.1 (show (6 : Nat) ≠ 4 by decide)) fun h' => h'.2,
      fun h => ⟨inetPton6_noslash h, Or.inr ⟨rfl, h⟩⟩⟩⟩

example : ipAddress .fallback "::FFFF:129.144.52.38".toList none 0 = .ok ⟨6, 0xFFFF81903426⟩ :=
  (strict6_api .fallback _ _ 0).2.mpr ((strict6_iff .fallback _ _).mp (by decide_lit))

/-- every printed form (each dialect, each back end) is an RFC 4291 text of the value printed -/
theorem printed_is_rfc4291 (be : Backend) (d : Dialect) (v : Nat) (hv : v < 2 ^ 128) :
    C01G.Rfc4291 (intToStr6 be d v) v :=
  (strict6_iff be _ v).mp (text6_parse be d v hv)

/-- **Strict IPv6, necessary conditions** (weaker than `strict6_iff`, and stated without the
    grammar): a string accepted by `inet_pton(AF_INET6, ·)` of either back end splits at ':' into
    pieces each of which is empty, a group of 1-4 hex digits, or a canonical dotted quad; in
    particular it contains nothing but hex digits, ':' and '.', so whitespace, signs, underscores,
    `0x`, a '/' or '%' suffix, and groups of five or more digits are all refused. -/
theorem strict6_necessary (be : Backend) (s : List Char) (v : Nat) (h : inetPton6 be s = some v) :
    (∀ t ∈ s.splitOn ':', GoodPiece t) ∧ (∀ c ∈ s, isHexC c = true ∨ c = ':' ∨ c = '.') := by
  exact ⟨pton6_pieces s v ((inetPton6_eq be s).symm.trans h), inetPton6_charset h⟩

theorem strict6_rejects_foreign (be : Backend) (s : List Char) (c : Char) (hc : c ∈ s)
    (h1 : isHexC c = false) (h2 : c ≠ ':') (h3 : c ≠ '.') : inetPton6 be s = none := by
  cases h : inetPton6 be s with
  | none => rfl
  | some v =>
    rcases (strict6_necessary be s v h).2 c hc with e | e | e
    · rw [h1] at e; cases e
    · exact absurd e h2
    · exact absurd e h3

example : inetPton6 .fallback " 1::".toList = none ∧ inetPton6 .fallback "1:2:3:4:5:6:7:00008".toList = none := by
  decide_lit

/-- **BSD shorthand (default mode).**  With `l0..l3` C literals (decimal without leading zero,
    octal with leading 0, hex with 0x/0X) of values `a b c d`, the modelled `inet_aton` reads
    1, 2, 3 and 4 dot-separated parts with the conventional values — non-last parts are bytes,
    the last part fills the remaining 32 / 24 / 16 / 8 bits — and refuses a last part beyond its
    range and a non-last part beyond 255. -/
theorem aton_shorthand (l0 l1 l2 l3 : List Char) (a b c d : Nat)
    (h0 : IsCLit l0 a) (h1 : IsCLit l1 b) (h2 : IsCLit l2 c) (h3 : IsCLit l3 d) :
    (a ≤ 0xffffffff → Text4.aton l0 = some a) ∧
    (a > 0xffffffff → Text4.aton l0 = none) ∧
    (a ≤ 255 → b ≤ 0xffffff → Text4.aton (l0 ++ '.' :: l1) = some (a * 16777216 + b)) ∧
    (a ≤ 255 → b > 0xffffff → Text4.aton (l0 ++ '.' :: l1) = none) ∧
    (a ≤ 255 → b ≤ 255 → c ≤ 0xffff → Text4.aton (l0 ++ '.' :: (l1 ++ '.' :: l2)) = some (a * 16777216 + b * 65536 + c)) ∧
    (a ≤ 255 → b ≤ 255 → c > 0xffff → Text4.aton (l0 ++ '.' :: (l1 ++ '.' :: l2)) = none) ∧
    (a ≤ 255 → b ≤ 255 → c ≤ 255 → d ≤ 255 →
      Text4.aton (l0 ++ '.' :: (l1 ++ '.' :: (l2 ++ '.' :: l3))) = some (a * 16777216 + b * 65536 + c * 256 + d)) ∧
    (a ≤ 255 → b ≤ 255 → c ≤ 255 → d > 255 → Text4.aton (l0 ++ '.' :: (l1 ++ '.' :: (l2 ++ '.' :: l3))) = none) ∧
    (a > 255 → ∀ r, Text4.aton (l0 ++ '.' :: r) = none) := by
  have e1 := aton_one l0 a [] h0 (Or.inl rfl) List.not_mem_nil
  have e2 := fun ha => aton_two l0 l1 a b [] h0 h1 ha (Or.inl rfl) List.not_mem_nil
  have e3 := fun ha hb => aton_three l0 l1 l2 a b c [] h0 h1 h2 ha hb (Or.inl rfl) List.not_mem_nil
  have e4 := fun ha hb hc => aton_four l0 l1 l2 l3 a b c d [] h0 h1 h2 h3 ha hb hc (Or.inl rfl) List.not_mem_nil
  rw [List.append_nil] at e1 e2 e3 e4
  refine ⟨fun ha => ?_, fun ha => ?_, fun ha hb => ?_, fun ha hb => ?_, fun ha hb hc => ?_, fun ha hb hc => ?_,
    fun ha hb hc hd => ?_, fun ha hb hc hd => ?_, fun ha r => aton_big l0 a h0 ha r⟩
  · rw [e1, if_pos ha]
  · rw [e1, if_neg (Nat.not_le.mpr ha)]
  · rw [e2 ha, if_pos hb]
  · rw [e2 ha, if_neg (Nat.not_le.mpr hb)]
  · rw [e3 ha hb, if_pos hc]
  · rw [e3 ha hb, if_neg (Nat.not_le.mpr hc)]
  · rw [e4 ha hb hc, if_pos hd]
  · rw [e4 ha hb hc, if_neg (Nat.not_le.mpr hd)]

example : IsCLit "0x7f".toList 127 ∧ IsCLit "010".toList 8 ∧ IsCLit "65535".toList 65535 := by
  repeat rw [String.toList_ofList]
  exact ⟨IsCLit.hex 'x' ['7', 'f'] (Or.inl rfl) (by decide) (by decide),
    IsCLit.oct ['1', '0'] (by decide),
    IsCLit.dec '6' ['5', '5', '3', '5'] (by decide) (by decide) (by decide)⟩

example : Text4.aton "0x7f.1".toList = some 0x7f000001 := by decide_lit

end NV.C01
