/-
Props/C12Pickle.lean — property C12, the pickling clause at the level of Python state values:

  "pickle, copy and deepcopy of any IP object, IPSet or EUI give an object with the same str(),
   that compares equal and hashes equal."  (quantifier: all picklable netaddr objects and pickle
   protocols)

Model: the `PyVal` section of Model/ComparePickle.lean (what the driver runs for `roundtrip`).
The truth value of each state is COMPUTED (`truthy (getstate x)`), so "the state is sent to
`__setstate__` under every protocol" is a theorem about each class, not an argument.  IPGlob's
`__setstate__` recomputes the glob text (C17 functions and theorems), IPSet goes through its own
`__reduce__`, OUI / IAB carry their registry records.
-/
import NetaddrVerif.Props.C12
import NetaddrVerif.Props.C17
import NetaddrVerif.Lemmas.StrLit
namespace NV.C12
open NV NV.Cmp

/-- all the ways of copying the property quantifies over -/
example : List How := [.copy, .deepcopy, .pickle 0, .pickle 1, .pickle 2, .pickle 3, .pickle 4, .pickle 5]

/-! ### the state of every class is a non-empty tuple, hence sent under every protocol -/

theorem sends_nonempty_tuple (how : How) (x : PyVal) (xs : List PyVal) :
    sendsState how (.tuple (x :: xs)) = true := by
  cases how <;> simp [sendsState, passesState, truthy]

theorem state_truthy_addr (how : How) (a : Addr) :
    truthy (getstateAddrV a) = true ∧ sendsState how (getstateAddrV a) = true :=
  ⟨rfl, sends_nonempty_tuple how _ _⟩
theorem state_truthy_net (how : How) (n : Net) :
    truthy (getstateNetV n) = true ∧ sendsState how (getstateNetV n) = true :=
  ⟨rfl, sends_nonempty_tuple how _ _⟩
theorem state_truthy_rng (how : How) (r : Rng) :
    truthy (getstateRngV r) = true ∧ sendsState how (getstateRngV r) = true :=
  ⟨rfl, sends_nonempty_tuple how _ _⟩
theorem state_truthy_glob (how : How) (g : Glob.GlobObj) :
    truthy (getstateGlobV g) = true ∧ sendsState how (getstateGlobV g) = true :=
  ⟨rfl, sends_nonempty_tuple how _ _⟩
theorem state_truthy_eui (how : How) (e : Eui) :
    truthy (getstateEuiV e) = true ∧ sendsState how (getstateEuiV e) = true :=
  ⟨rfl, sends_nonempty_tuple how _ _⟩
/-- also when the records list is empty (an OUI of this sandbox): the STATE is the pair -/
theorem state_truthy_oui (how : How) (o : Oui) :
    truthy (getstateOuiV o) = true ∧ sendsState how (getstateOuiV o) = true :=
  ⟨rfl, sends_nonempty_tuple how _ _⟩
theorem state_truthy_iab (how : How) (o : Iab) :
    truthy (getstateIabV o) = true ∧ sendsState how (getstateIabV o) = true :=
  ⟨rfl, sends_nonempty_tuple how _ _⟩

/-- the IPSet state is truthy exactly for a non-empty set: the one class whose state can be
    falsy, which is why it needs `__reduce__` -/
theorem state_truthy_set_iff (s : List Net) : truthy (getstateSetV s) = true ↔ s ≠ [] := by
  cases s <;> simp [getstateSetV, truthy]

/-- the `PyVal` twin of `reconstruct_truthy` -/
theorem reconstructV_tuple {α : Type} (how : How) (x : PyVal) (xs : List PyVal) (f : PyVal → R α) :
    reconstructV how (.tuple (x :: xs)) f = f (.tuple (x :: xs)) :=
  if_pos (sends_nonempty_tuple how x xs)

/-- IPAddress: the rebuilt object is the same (version, value) under copy, deepcopy and every
    pickle protocol -/
theorem state_roundtrip_addr_v (how : How) (a : Addr) (h : a.WF) : roundtripAddrV how a = .ok a :=
  (reconstructV_tuple how _ _ _).trans (setstate_getstate_addr a h)

/-- IPNetwork: same (version, value incl. host bits, prefix length) -/
theorem state_roundtrip_net_v (how : How) (n : Net) (h : n.WF) : roundtripNetV how n = .ok n :=
  (reconstructV_tuple how _ _ _).trans (setstate_getstate_net n h)

/-- IPRange: same (version, start, end) -/
theorem state_roundtrip_rng_v (how : How) (r : Rng) (hv : r.ver = 4 ∨ r.ver = 6)
    (hlo : r.lo ≤ maxInt r.ver) (hhi : r.hi ≤ maxInt r.ver) : roundtripRngV how r = .ok r :=
  (reconstructV_tuple how _ _ _).trans (setstate_getstate_rng r hv hlo hhi)

/-- EUI: same (version, value, dialect class) -/
theorem state_roundtrip_eui_v (how : How) (e : Eui) (hv : e.ver = 48 ∨ e.ver = 64) :
    roundtripEuiV how e = .ok e :=
  (reconstructV_tuple how _ _ _).trans (setstate_getstate_eui e hv)

/-- OUI: value and records — whatever Python value the records are, the empty list included —
    are restored -/
theorem state_roundtrip_oui (how : How) (o : Oui) : roundtripOuiV how o = .ok o :=
  (reconstructV_tuple how _ _ _).trans (by cases o; rfl)

/-- IAB: value and record are restored -/
theorem state_roundtrip_iab (how : How) (o : Iab) : roundtripIabV how o = .ok o :=
  (reconstructV_tuple how _ _ _).trans (by cases o; rfl)

example : roundtripOuiV (.pickle 0) ⟨0, .list []⟩ = .ok ⟨0, .list []⟩ := rfl
example : roundtripAddrV (.pickle 1) ⟨4, 0⟩ = .ok ⟨4, 0⟩ := by decide
example : (⟨6, 5, 128⟩ : Net).WF := by simp [Net.WF, width]

theorem mapM_asTriple (s : List Net) : (s.map getstateNetV).mapM asTriple = .ok (s.map getstateNet) :=
  List.mapM_map.trans (mapM_eq_pure_map _ getstateNet s fun _ _ => rfl)

/-- IPSet through its `__reduce__`: the member networks (the keys of `_cidrs`, pairwise different
    blocks) are rebuilt one for one, for EVERY set — the empty one included — and every way of
    copying -/
theorem state_roundtrip_set_v (how : How) (s : List Net) (hwf : ∀ n ∈ s, n.WF)
    (hd : s.Pairwise (fun a b => a.key ≠ b.key)) : roundtripSetV how s = .ok s := by
  have e : roundtripSetV how s = roundtripSet how s := by
    show setstateSetV (.tuple (s.map getstateNetV)) = _
    simp only [setstateSetV, mapM_asTriple, bind, Except.bind]
    rfl
  rw [e, state_roundtrip_set how s hwf hd]

/-- WITHOUT `IPSet.__reduce__` the default rule loses the empty set under protocols 0 and 1 (its
    state `()` is falsy, `__setstate__` is never called, the object has no `_cidrs`), while
    protocols >= 2 and the copy module would have been fine; WITH it every way works -/
theorem ipset_default_reduce_would_fail :
    roundtripSetDefault (.pickle 0) [] = .error .other ∧
    roundtripSetDefault (.pickle 1) [] = .error .other ∧
    roundtripSetDefault (.pickle 2) [] = .ok [] ∧
    roundtripSetDefault .copy [] = .ok [] ∧ roundtripSetDefault .deepcopy [] = .ok [] ∧
    roundtripSetDefault (.pickle 0) [⟨4, 0, 8⟩] = .ok [⟨4, 0, 8⟩] ∧
    roundtripSetV (.pickle 0) [] = .ok [] ∧ roundtripSetV (.pickle 1) [] = .ok [] := by
  decide

/-- … and in general: the default rule fails exactly for the empty set under protocols 0, 1 -/
theorem ipset_default_reduce_fails_iff (how : How) (s : List Net) (hwf : ∀ n ∈ s, n.WF)
    (hd : s.Pairwise (fun a b => a.key ≠ b.key)) :
    roundtripSetDefault how s = (if s = [] ∧ (how = .pickle 0 ∨ how = .pickle 1) then .error .other else .ok s) := by
  -- any way of copying would do: the round trip unfolds to setstate ∘ getstate
  have hok : setstateSetV (getstateSetV s) = .ok s := state_roundtrip_set_v .copy s hwf hd
  unfold roundtripSetDefault reconstructV
  cases s with
  | nil =>
    cases how with
    | copy => simp [sendsState, getstateSetV, passesState]; exact hok
    | deepcopy => simp [sendsState, getstateSetV, passesState]; exact hok
    | pickle p =>
      by_cases hp : p < 2
      · have : p = 0 ∨ p = 1 := by omega
        simp [sendsState, getstateSetV, passesState, truthy, hp, this]
      · have : ¬ (p = 0 ∨ p = 1) := by omega
        simp [sendsState, getstateSetV, passesState, hp, this]; exact hok
  | cons n t =>
    have hs : sendsState how (getstateSetV (n :: t)) = true := sends_nonempty_tuple how _ _
    simp [hs, hok]

/-- For every valid glob text `s` and every way of copying: `IPGlob(s)` exists, and its round
    trip is an IPGlob with the same first and last address and the same `str()` — the canonical
    glob text, which `__setstate__` recomputes from the restored bounds (it is not pickled) -/
theorem state_roundtrip_glob (how : How) (s : List Char) (hv : Glob.validGlob s = true) :
    ∃ lo hi g, Glob.ipGlob s = .ok ⟨lo, hi, g⟩ ∧ roundtripGlobV how ⟨lo, hi, g⟩ = .ok ⟨lo, hi, g⟩ ∧
      Glob.validGlob g = true ∧ Glob.globToIptuple g = .ok (lo, hi) ∧
      Glob.globToIptuple s = .ok (lo, hi) := by
  obtain ⟨lo, hi, h1, _, hle, hhi, _⟩ := NV.C17.glob_denotes s hv
  obtain ⟨g, g1, g2, g3⟩ := NV.C17.single_when_shaped s lo hi hv h1
  have hnot : ¬ lo > hi := by omega
  have hobj : Glob.ipGlob s = .ok ⟨lo, hi, g⟩ := by
    simp [Glob.ipGlob, h1, hnot, g1, Glob.setGlob, g3]
  refine ⟨lo, hi, g, hobj, ?_, g2, g3, h1⟩
  have hm : maxInt 4 = 2 ^ 32 - 1 := by decide
  -- any way of copying would do: the round trip unfolds to setstate ∘ getstate
  have hr : setstateRngV (getstateRngV ⟨4, lo, hi⟩) = .ok ⟨4, lo, hi⟩ :=
    state_roundtrip_rng_v .copy ⟨4, lo, hi⟩ (Or.inl rfl) (show lo ≤ maxInt 4 by omega) (show hi ≤ maxInt 4 by omega)
  refine (reconstructV_tuple how _ _ _).trans ?_
  show setstateGlobV (getstateRngV ⟨4, lo, hi⟩) = _
  simp only [setstateGlobV, hr, bind, Except.bind, g1]
  simp [Glob.setGlob, g3, g1]

example : Glob.ipGlob "10.0.0-255.*".toList = .ok ⟨167772160, 167837695, "10.0.*.*".toList⟩ := by
  decide_lit
example : roundtripGlobV (.pickle 0) ⟨167772160, 167837695, "10.0.*.*".toList⟩ =
    .ok ⟨167772160, 167837695, "10.0.*.*".toList⟩ := by
  decide_lit
/-- the text really is recomputed: a (hypothetical) object carrying a non-canonical text comes
    back with the canonical one -/
example : roundtripGlobV .copy ⟨167772160, 167837695, "10.0.0-255.*".toList⟩ =
    .ok ⟨167772160, 167837695, "10.0.*.*".toList⟩ := by
  decide_lit

/-- the objects the property quantifies over: well-formed IP objects, an IPGlob built from a
    valid glob text, an IPSet whose members are well-formed pairwise different blocks, an EUI of
    one of the two families, any OUI / IAB -/
def PWF : PObj → Prop
  | .addr a => a.WF
  | .net n => n.WF
  | .rng r => (r.ver = 4 ∨ r.ver = 6) ∧ r.lo ≤ maxInt r.ver ∧ r.hi ≤ maxInt r.ver
  | .glob g => ∃ s, Glob.validGlob s = true ∧ Glob.ipGlob s = .ok g
  | .set s => (∀ n ∈ s, n.WF) ∧ s.Pairwise (fun a b => a.key ≠ b.key)
  | .eui e => e.ver = 48 ∨ e.ver = 64
  | .oui _ => True
  | .iab _ => True

/-- copy, deepcopy and pickle under every protocol rebuild the identical value-level object, for
    every kind of picklable object -/
theorem roundtrip_all (how : How) (x : PObj) (hx : PWF x) : roundtripV how x = .ok x := by
  cases x with
  | addr a => simp only [roundtripV, state_roundtrip_addr_v how a hx]; rfl
  | net n => simp only [roundtripV, state_roundtrip_net_v how n hx]; rfl
  | rng r => simp only [roundtripV, state_roundtrip_rng_v how r hx.1 hx.2.1 hx.2.2]; rfl
  | glob g =>
    obtain ⟨s, hv, hg⟩ := hx
    obtain ⟨lo, hi, t, h1, h2, _⟩ := state_roundtrip_glob how s hv
    rw [hg] at h1
    injection h1 with h1; subst h1
    simp only [roundtripV, h2]; rfl
  | set s => simp only [roundtripV, state_roundtrip_set_v how s hx.1 hx.2]; rfl
  | eui e => simp only [roundtripV, state_roundtrip_eui_v how e hx]; rfl
  | oui o => simp only [roundtripV, state_roundtrip_oui how o]; rfl
  | iab o => simp only [roundtripV, state_roundtrip_iab how o]; rfl

/-- the value-level fields `str()` is a function of: version/value, + prefix length, bounds, the
    glob TEXT for an IPGlob, the member networks for an IPSet, + dialect class for an EUI -/
def strFields : PObj → PyVal
  | .addr a => .tuple [.int a.ver, .int a.val]
  | .net n => .tuple [.int n.ver, .int n.val, .int n.plen]
  | .rng r => .tuple [.int r.ver, .int r.lo, .int r.hi]
  | .glob g => .str g.glob
  | .set s => .list (s.map fun n => .tuple [.int n.ver, .int n.val, .int n.plen])
  | .eui e => .tuple [.int e.ver, .int e.val, .cls e.dialect]
  | .oui o => .int o.val
  | .iab o => .int o.val

/-- what `==` and `hash()` look at: `key()` for IP objects (an IPGlob is a block: version, first,
    last), the dict of member networks for an IPSet, (version, value) for an EUI, the value for
    OUI / IAB -/
def eqFields : PObj → PyVal
  | .addr a => .tuple (a.key.map .int)
  | .net n => .tuple (n.key.map .int)
  | .rng r => .tuple (r.key.map .int)
  | .glob g => .tuple ((Rng.key ⟨4, g.lo, g.hi⟩).map .int)
  | .set s => .list (s.map fun n => .tuple (n.key.map .int))
  | .eui e => .tuple [.int e.ver, .int e.val]
  | .oui o => .int o.val
  | .iab o => .int o.val

/-- Same `str()`, equal, not unequal, equal hash — for ALL kinds of objects (IPAddress, IPNetwork,
    IPRange, IPGlob, IPSet, EUI, OUI, IAB), every way of copying, and whatever functions of the
    respective fields `str` / `==` / `hash` are (`==` reflexive on its fields). -/
theorem roundtrip_observations_all (how : How) (x : PObj) (hx : PWF x)
    (str : PyVal → String) (eqv : PyVal → PyVal → Bool) (hash : PyVal → Int)
    (hrefl : ∀ v, eqv v v = true) :
    ∃ y, roundtripV how x = .ok y ∧ str (strFields y) = str (strFields x) ∧
      eqv (eqFields y) (eqFields x) = true ∧ (!eqv (eqFields y) (eqFields x)) = false ∧
      hash (eqFields y) = hash (eqFields x) :=
  ⟨x, roundtrip_all how x hx, rfl, hrefl _, by simp [hrefl], rfl⟩

example : PWF (.glob ⟨167772160, 167837695, "10.0.*.*".toList⟩) :=
  ⟨"10.0.0-255.*".toList, by decide_lit, by decide_lit⟩
example : PWF (.set [⟨4, 0, 8⟩, ⟨6, 0, 64⟩]) := by
  refine ⟨?_, by decide⟩
  intro n hn
  simp only [List.mem_cons, List.mem_nil_iff, or_false] at hn
  rcases hn with rfl | rfl <;> simp [Net.WF, width]
example : PWF (.set []) := ⟨by simp, by simp⟩

end NV.C12
