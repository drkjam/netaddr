/-
Props/C02Setters.lean — property C02, second part: what the three setters assign (exact
characterisations), the closed forms of all derived attributes in one statement, and the
statement-order theorem behind "raises … leaving the object unchanged".

Model: Model/Network.lean (`applySet`, `stepSet`, …) and Model/NetworkSet.lean (`netIp`, the
statement-by-statement setter bodies `setterTrace`).
-/
import NetaddrVerif.Props.C02
import NetaddrVerif.Model.NetworkMask
namespace NV.C02
open NV NV.Network NV.SetTrace

/-! ### all derived attributes as functions of (version, value, prefixlen) -/

/-- Every derived attribute of a network in closed form, `H = 2^(width - prefixlen)` being the
    block size and `first = value - value mod H`: ip is the stored value (same version),
    hostmask `H-1`, netmask `2^w - H`, network = first, last = first + H - 1, size = H, broadcast
    = last except None for IPv4 /31 and /32, cidr = (first, same prefix, same version). -/
theorem attrs_closed_forms (n : Net) (h : n.WF) :
    let w := width n.ver
    let H := 2 ^ (w - n.plen)
    let first := n.val / H * H
    netIp n = ⟨n.ver, n.val⟩ ∧
    netHostmask w n.plen = H - 1 ∧
    netNetmask w n.plen = 2 ^ w - H ∧
    netNetwork w n.val n.plen = first ∧
    netFirst w n.val n.plen = first ∧
    netLast w n.val n.plen = first + (H - 1) ∧
    netSize w n.val n.plen = H ∧
    netBroadcast n.ver w n.val n.plen = (if n.ver = 4 ∧ 31 ≤ n.plen then none else some (first + (H - 1))) ∧
    netCidr n = ⟨n.ver, first, n.plen⟩ ∧
    first = n.val - n.val % H ∧ first ≤ n.val ∧ n.val ≤ first + (H - 1) ∧ first + H ≤ 2 ^ w := by
  intro w H first
  obtain ⟨hver, hv, hp⟩ := h
  have hH : 0 < H := Nat.two_pow_pos (w - n.plen)
  have hf : netFirst w n.val n.plen = first := netFirst_eq w _ _ hv
  have hl : netLast w n.val n.plen = first + (H - 1) := netLast_eq w _ _
  have hb := val_between w n.val n.plen hv
  rw [hf, hl] at hb
  refine ⟨rfl, netHostmask_eq w _, netNetmask_eq w _, hf, hf, hl, ?_, ?_, ?_,
    Nat.eq_sub_of_add_eq (Nat.div_add_mod' n.val H), hb.1, hb.2, block_lt w _ _ hv hp⟩
  · rw [netSize, hl, hf, Nat.add_sub_cancel_left, Nat.sub_add_cancel hH]
  · rw [broadcast_spec, hl]
    have hc : (n.ver = 4 ∧ w - n.plen ≤ 1) ↔ (n.ver = 4 ∧ 31 ≤ n.plen) :=
      and_congr_right fun h4 => by
        have hw : w = 32 := by show width n.ver = 32; rw [h4]; rfl
        omega
    simp only [hc]
  · show (⟨n.ver, netFirst w n.val n.plen, n.plen⟩ : Net) = _
    rw [hf]

example : (⟨4, 3232235777, 24⟩ : Net).WF := by simp [Net.WF, width]
example : netIp ⟨6, 7, 64⟩ = ⟨6, 7⟩ := rfl

/-! ### what a successful assignment assigns (exact characterisations) -/

/-- `n.value = x` succeeds exactly for an int `0 ≤ x ≤ max_int`, and then the stored value IS
    `x` and nothing else changes -/
theorem setValue_iff (n n' : Net) (x : SetArg) :
    applySet n (.value x) = .ok n' ↔
      ∃ v : Nat, x = .int v ∧ v ≤ maxInt n.ver ∧ n' = { n with val := v } := by
  show setValue n x = .ok n' ↔ _
  rw [setValue_eq]; exact storeBounded_ok_iff _ _ x n'

/-- `n.prefixlen = x` succeeds exactly for an int `0 ≤ x ≤ width`, and then the stored prefix
    length IS `x` and nothing else changes -/
theorem setPrefixlen_iff (n n' : Net) (x : SetArg) :
    applySet n (.prefixlen x) = .ok n' ↔
      ∃ p : Nat, x = .int p ∧ p ≤ width n.ver ∧ n' = { n with plen := p } := by
  show setPrefixlen n x = .ok n' ↔ _
  rw [setPrefixlen_eq]; exact storeBounded_ok_iff _ _ x n'

/-- the assigned field takes the assigned value (the part `setter_ok` leaves unsaid) -/
theorem setter_assigns (n n' : Net) (i : Int) :
    (applySet n (.value (.int i)) = .ok n' → (n'.val : Int) = i ∧ n'.plen = n.plen ∧ n'.ver = n.ver) ∧
    (applySet n (.prefixlen (.int i)) = .ok n' → (n'.plen : Int) = i ∧ n'.val = n.val ∧ n'.ver = n.ver) := by
  constructor
  · intro h
    obtain ⟨v, hx, _, rfl⟩ := (setValue_iff n n' _).1 h
    injection hx with hx
    exact ⟨hx.symm, rfl, rfl⟩
  · intro h
    obtain ⟨v, hx, _, rfl⟩ := (setPrefixlen_iff n n' _).1 h
    injection hx with hx
    exact ⟨hx.symm, rfl, rfl⟩

example : applySet ⟨4, 5, 24⟩ (.value (.int 77)) = .ok ⟨4, 77, 24⟩ := by decide
example : applySet ⟨4, 5, 24⟩ (.prefixlen (.int 0)) = .ok ⟨4, 5, 0⟩ := by decide

/-! ### the netmask setter -/

/-- arguments the harness can build: an `IPAddress` object is always a well-formed address -/
def ArgWF : SetArg → Prop
  | .addr a => a.WF
  | _ => True

theorem addrOfSetArg_wf (x : SetArg) (a : Addr) (hx : ArgWF x) (h : addrOfSetArg x = .ok a) : a.WF := by
  cases x with
  | int i =>
    rw [addrOfSetArg] at h
    split at h
    · rename_i hr
      cases h
      exact ⟨Or.inl rfl, lt_of_le_maxInt (Int.toNat_le.2 hr.2)⟩
    · split at h
      · rename_i hr
        cases h
        exact ⟨Or.inr rfl, lt_of_le_maxInt (Int.toNat_le.2 hr.2)⟩
      · cases h
  | addr b => cases h; exact hx
  | junk => cases h

/-- exactly which arguments `IPAddress(x)` refuses: non-int non-address objects and ints
    outside `0 .. 2^128-1`; always with AddrFormatError -/
theorem addrOfSetArg_error_iff (x : SetArg) :
    (∃ e, addrOfSetArg x = .error e) ↔
      (x = .junk ∨ ∃ i : Int, x = .int i ∧ (i < 0 ∨ (maxInt 6 : Int) < i)) := by
  have h4 : maxInt 4 = 2 ^ 32 - 1 := by decide
  have h6 : maxInt 6 = 2 ^ 128 - 1 := by decide
  cases x with
  | int i =>
    simp only [addrOfSetArg, reduceCtorEq, SetArg.int.injEq, false_or, exists_eq_left']
    constructor
    · rintro ⟨e, h⟩
      split at h
      · simp at h
      · split at h
        · simp at h
        · omega
    · intro h
      have c1 : ¬ (0 ≤ i ∧ i ≤ (maxInt 4 : Int)) := by omega
      have c2 : ¬ ((maxInt 4 : Int) < i ∧ i ≤ (maxInt 6 : Int)) := by omega
      exact ⟨.addrFormat, by simp [c1, c2]⟩
  | addr a => simp [addrOfSetArg]
  | junk => simp [addrOfSetArg]

/-! ### the netmask setter: the body `setNetmaskOf n r` after `r = IPAddress(value)`, then `r := addrOfSetArg x` -/

theorem applySet_netmask (n : Net) (x : SetArg) :
    applySet n (.netmask x) = NetMask.setNetmaskOf n (addrOfSetArg x) := rfl

theorem setNetmaskOf_ok (n : Net) (a : Addr) :
    NetMask.setNetmaskOf n (.ok a) =
      if a.ver ≠ n.ver then .error .value
      else if !isNetmask (width a.ver) a.val then .error .value
      else (netmaskBits (width a.ver) a.val).bind fun bits => setPrefixlen n (.int bits) := rfl

theorem setNetmaskOf_mask (n : Net) (a : Addr) (p : Nat)
    (hv : a.ver = n.ver) (hp : p ≤ width n.ver) (hm : a.val = netNetmask (width n.ver) p) :
    NetMask.setNetmaskOf n (.ok a) = .ok { n with plen := p } := by
  rw [setNetmaskOf_ok, hv, hm, if_neg (fun h => h rfl), isNetmask_netNetmask _ p hp, netmaskBits_netmask _ p hp]
  show setPrefixlen n (.int p) = _
  rw [setPrefixlen_eq]
  exact (storeBounded_ok_iff _ _ _ _).2 ⟨p, rfl, hp, rfl⟩

/-- the body on a returned address, decided: ValueError, or the address is the netmask of a prefix
    `p ≤ width` of the network's family and `p` is stored -/
theorem setNetmaskOf_outcome (n : Net) (a : Addr) (ha : a.WF) :
    NetMask.setNetmaskOf n (.ok a) = .error .value ∨
    ∃ p, a.ver = n.ver ∧ p ≤ width n.ver ∧ a.val = netNetmask (width n.ver) p ∧
      NetMask.setNetmaskOf n (.ok a) = .ok { n with plen := p } := by
  by_cases hv : a.ver = n.ver
  · cases hnm : isNetmask (width a.ver) a.val with
    | false => exact .inl (by rw [setNetmaskOf_ok, if_neg (not_not_intro hv), hnm]; rfl)
    | true =>
      obtain ⟨p, hp, hm⟩ := (isNetmask_iff _ _ ha.2).1 hnm
      rw [hv] at hp hm
      exact .inr ⟨p, hv, hp, hm, setNetmaskOf_mask n a p hv hp hm⟩
  · exact .inl ((setNetmaskOf_ok n a).trans (if_pos hv))

theorem setNetmask_of_mask (n : Net) (x : SetArg) (a : Addr) (p : Nat) (hx : addrOfSetArg x = .ok a)
    (hv : a.ver = n.ver) (hp : p ≤ width n.ver) (hm : a.val = netNetmask (width n.ver) p) :
    applySet n (.netmask x) = .ok { n with plen := p } := by
  rw [applySet_netmask, hx]
  exact setNetmaskOf_mask n a p hv hp hm

theorem setNetmaskOf_accepts (n n' : Net) (r : R Addr) (hwf : ∀ a, r = .ok a → a.WF) :
    NetMask.setNetmaskOf n r = .ok n' ↔
      ∃ a p, r = .ok a ∧ a.ver = n.ver ∧ p ≤ width n.ver ∧
        a.val = netNetmask (width n.ver) p ∧ n' = { n with plen := p } := by
  constructor
  · intro h
    cases r with
    | error e => cases h
    | ok a =>
      rcases setNetmaskOf_outcome n a (hwf a rfl) with he | ⟨p, hv, hp, hm, hk⟩
      · rw [he] at h; cases h
      · rw [hk] at h
        exact ⟨a, p, rfl, hv, hp, hm, (Except.ok.inj h).symm⟩
  · rintro ⟨a, p, rfl, hv, hp, hm, rfl⟩
    exact setNetmaskOf_mask n a p hv hp hm

/-- The netmask setter, completely: `n.netmask = x` succeeds exactly when `IPAddress(x)` exists,
    is of `n`'s family and is the netmask of some prefix `p ≤ width` — and then the object is `n`
    with prefix length `p` (value and version untouched).  A hostmask that is not also a netmask
    is NOT accepted (the setter only asks `is_netmask()`). -/
theorem setNetmask_iff (n n' : Net) (x : SetArg) (hx : ArgWF x) :
    applySet n (.netmask x) = .ok n' ↔
      ∃ a p, addrOfSetArg x = .ok a ∧ a.ver = n.ver ∧ p ≤ width n.ver ∧
        a.val = netNetmask (width n.ver) p ∧ n' = { n with plen := p } :=
  setNetmaskOf_accepts n n' (addrOfSetArg x) (fun a ha => addrOfSetArg_wf x a hx ha)

/-- the rejecting half, for the body on any result `r` of `IPAddress(value)`: its error when it raised,
    ValueError when it returned an address that is not a netmask of the network's family -/
theorem setNetmaskOf_not_accepted (n : Net) (r : R Addr) (hwf : ∀ a, r = .ok a → a.WF)
    (h : ¬ ∃ a p, r = .ok a ∧ a.ver = n.ver ∧ p ≤ width n.ver ∧ a.val = netNetmask (width n.ver) p) :
    ∃ e, NetMask.setNetmaskOf n r = .error e ∧ (∀ e', r = .error e' → e = e') ∧ ((∃ a, r = .ok a) → e = .value) := by
  cases r with
  | error e' => exact ⟨e', rfl, fun _ h => Except.error.inj h, fun ⟨_, h⟩ => nomatch h⟩
  | ok a =>
    rcases setNetmaskOf_outcome n a (hwf a rfl) with he | ⟨p, hv, hp, hm, _⟩
    · exact ⟨.value, he, nofun, fun _ => rfl⟩
    · exact absurd ⟨a, p, rfl, hv, hp, hm⟩ h

/-- every other argument is rejected — AddrFormatError when `IPAddress(x)` itself fails,
    ValueError otherwise (other family, or not a netmask) — and the object stays as it was -/
theorem setNetmask_rejects (n : Net) (x : SetArg) (hx : ArgWF x)
    (h : ¬ ∃ a p, addrOfSetArg x = .ok a ∧ a.ver = n.ver ∧ p ≤ width n.ver ∧
        a.val = netNetmask (width n.ver) p) :
    ∃ e, applySet n (.netmask x) = .error e ∧ stepSet n (.netmask x) = (n, some e) ∧
      ((∃ e', addrOfSetArg x = .error e') → e = .addrFormat) ∧
      ((∃ a, addrOfSetArg x = .ok a) → e = .value) := by
  obtain ⟨e, he, h1, h2⟩ := setNetmaskOf_not_accepted n (addrOfSetArg x) (fun a ha => addrOfSetArg_wf x a hx ha) h
  have hk := (applySet_netmask n x).trans he
  exact ⟨e, hk, by rw [stepSet, hk], fun ⟨e', h'⟩ => h1 e' h' ▸ addrOfSetArg_err h', h2⟩

/-- for every prefix `p` in `0..width`: assigning the netmask of `p` (as an address object of
    the network's family) sets the prefix length to `p` -/
theorem setNetmask_of_prefix (n : Net) (p : Nat) (hp : p ≤ width n.ver) :
    applySet n (.netmask (.addr ⟨n.ver, netNetmask (width n.ver) p⟩)) = .ok { n with plen := p } :=
  setNetmask_of_mask n _ ⟨n.ver, netNetmask (width n.ver) p⟩ p rfl rfl hp rfl

/-- the same with the mask given as a plain int: `IPAddress(int)` picks IPv4 for `0 .. 2^32-1`,
    so every IPv4 prefix works, every IPv6 prefix `p ≥ 1` works — and the all-zero IPv6 mask
    (p = 0) given as the int 0 is an IPv4 address and is rejected with ValueError -/
theorem setNetmask_of_prefix_int (n : Net) (p : Nat) (hp : p ≤ width n.ver) :
    (n.ver = 4 → applySet n (.netmask (.int (netNetmask 32 p))) = .ok { n with plen := p }) ∧
    (n.ver = 6 → 1 ≤ p → applySet n (.netmask (.int (netNetmask 128 p))) = .ok { n with plen := p }) ∧
    (n.ver = 6 → applySet n (.netmask (.int (netNetmask 128 0))) = .error .value) := by
  refine ⟨fun hv => ?_, fun hv hp1 => ?_, fun hv => ?_⟩
  · have hw : width n.ver = 32 := by rw [hv]; rfl
    rw [hw] at hp
    exact setNetmask_of_mask n _ ⟨4, netNetmask 32 p⟩ p
      (addrOfSetArg_int4 _ (Nat.le_sub_one_of_lt (netNetmask_lt 32 p))) hv.symm (hw ▸ hp) (by rw [hw])
  · have hw : width n.ver = 128 := by rw [hv]; rfl
    rw [hw] at hp
    -- a mask with at least one bit set has the top bit set: beyond IPv4
    have hlo : maxInt 4 < netNetmask 128 p := by
      have : 2 ^ (128 - p) ≤ 2 ^ 127 := Nat.pow_le_pow_right (by decide) (by omega)
      rw [netNetmask_eq]; exact Nat.lt_of_lt_of_le (by decide) (Nat.sub_le_sub_left this (2 ^ 128))
    exact setNetmask_of_mask n _ ⟨6, netNetmask 128 p⟩ p
      (addrOfSetArg_int6 _ hlo (Nat.le_sub_one_of_lt (netNetmask_lt 128 p))) hv.symm (hw ▸ hp) (by rw [hw])
  · rw [applySet_netmask, addrOfSetArg_int4 _ (by decide), setNetmaskOf_ok, if_pos (by rw [hv]; decide)]

example : applySet ⟨4, 5, 24⟩ (.netmask (.int 255)) = .error .value := by decide +kernel       -- a hostmask
example : applySet ⟨4, 5, 24⟩ (.netmask (.int 0)) = .ok ⟨4, 5, 0⟩ := by decide +kernel
example : applySet ⟨6, 5, 24⟩ (.netmask (.int 0)) = .error .value := by decide +kernel
example : applySet ⟨6, 5, 24⟩ (.netmask (.addr ⟨6, 0⟩)) = .ok ⟨6, 5, 0⟩ := by decide +kernel
example : applySet ⟨4, 5, 24⟩ (.netmask .junk) = .error .addrFormat := by decide +kernel
example : ArgWF (.addr ⟨4, 4294901760⟩) := ⟨Or.inl rfl, by decide⟩

/-! ### "or raises … leaving the object unchanged": order of statements -/

/-- `_set_value`, statement by statement, against the functional model -/
theorem setValueT_run (m : Net) (x : SetArg) :
    setValueT x ⟨m, []⟩ =
      match setValue m x with
      | .error e => (.error e, ⟨m, []⟩)
      | .ok n' => (.ok (), ⟨n', [.storeValue n'.val]⟩) := by
  cases x with
  | int i =>
    by_cases c : 0 ≤ i ∧ i ≤ (maxInt m.ver : Int)
    · simp [setValueT, setValue, expectInt, bind, M.bind, pure, M.pure, self, storeValue, c]
    · simp [setValueT, setValue, expectInt, bind, M.bind, pure, M.pure, self, raise, c]
  | addr a => simp [setValueT, setValue, expectInt, bind, M.bind, raise]
  | junk => simp [setValueT, setValue, expectInt, bind, M.bind, raise]

theorem setPrefixlenT_run (m : Net) (x : SetArg) :
    setPrefixlenT x ⟨m, []⟩ =
      match setPrefixlen m x with
      | .error e => (.error e, ⟨m, []⟩)
      | .ok n' => (.ok (), ⟨n', [.storePrefixlen n'.plen]⟩) := by
  cases x with
  | int i =>
    by_cases c : 0 ≤ i ∧ i ≤ (width m.ver : Int)
    · simp [setPrefixlenT, setPrefixlen, expectInt, bind, M.bind, pure, M.pure, self, storePrefixlen, c]
    · simp [setPrefixlenT, setPrefixlen, expectInt, bind, M.bind, pure, M.pure, self, raise, c]
  | addr a => simp [setPrefixlenT, setPrefixlen, expectInt, bind, M.bind, raise]
  | junk => simp [setPrefixlenT, setPrefixlen, expectInt, bind, M.bind, raise]

/-- the netmask setter body after `ip = IPAddress(value)`, whatever that call returned or raised
    (`r`): `setNetmaskT x` is the case `r = addrOfSetArg x`, the extended setter of Model/NetworkMask the
    case `r = addrOfMaskArg be x` -/
theorem setNetmaskOfT_run (n : Net) (r : R Addr) :
    NetMask.setNetmaskOfT r ⟨n, []⟩ =
      match NetMask.setNetmaskOf n r with
      | .error e => (.error e, ⟨n, []⟩)
      | .ok n' => (.ok (), ⟨n', [.storePrefixlen n'.plen]⟩) := by
  unfold NetMask.setNetmaskOfT NetMask.setNetmaskOf
  cases r with
  | error e => simp [bind, M.bind, call, Except.bind]
  | ok a =>
    by_cases hv : a.ver = n.ver
    · cases hnm : isNetmask (width n.ver) a.val with
      | false => simp [bind, M.bind, call, Except.bind, self, hv, hnm, raise]
      | true =>
        cases hb : netmaskBits (width n.ver) a.val with
        | error e => simp [bind, M.bind, call, Except.bind, self, hv, hnm, hb]
        | ok bits =>
          have := setPrefixlenT_run n (.int bits)
          simp [bind, M.bind, call, Except.bind, self, hv, hnm, hb, this]
    · simp [bind, M.bind, call, Except.bind, self, hv, raise]

/-- The statement-by-statement setter bodies (which keep every store through a raise) agree
    with the functional model: a rejected assignment ends with the SAME error, the object as it
    was and an EMPTY store log — every check of the three setters comes before its one store;
    an accepted assignment made exactly one store, the last statement. -/
theorem setterTrace_eq (n : Net) (op : SetOp) :
    setterTrace n op =
      match applySet n op with
      | .error e => (.error e, ⟨n, []⟩)
      | .ok n' => (.ok (), ⟨n', [match op with
          | .value _ => .storeValue n'.val
          | _ => .storePrefixlen n'.plen]⟩) := by
  cases op with
  | value x => exact setValueT_run n x
  | prefixlen x => exact setPrefixlenT_run n x
  | netmask x => exact setNetmaskOfT_run n (addrOfSetArg x)

/-- a trace of the shape `setterTrace_eq` (and `setterTraceX_eq` of Props/C02Audit2) give that ends in a raise: nothing was stored -/
theorem raise_of_run {r : R Net} {n : Net} {f : Net → St} {e : Err} {s : St}
    (h : (match r with
      | .error e => ((.error e : Except Err Unit), (⟨n, []⟩ : St))
      | .ok n' => (.ok (), f n')) = (.error e, s)) : s.log = [] ∧ s.obj = n ∧ r = .error e := by
  cases r with
  | ok n' => exact nomatch (Prod.mk.inj h).1
  | error e' =>
    obtain ⟨h1, h2⟩ := Prod.mk.inj h
    cases h1; cases h2
    exact ⟨rfl, rfl, rfl⟩

/-- no assignment precedes a raise: whenever a setter body raises, it has made no store at all
    and the object is the one it started from -/
theorem no_store_before_raise (n : Net) (op : SetOp) (e : Err) (s : St)
    (h : setterTrace n op = (.error e, s)) : s.log = [] ∧ s.obj = n ∧ applySet n op = .error e :=
  raise_of_run (setterTrace_eq n op ▸ h)

/-- the live-object step computed from the statement-level bodies (what the driver runs for
    `net_sets_trace`) is the `stepSet` of all the other C02 theorems -/
theorem stepTrace_eq_stepSet (n : Net) (op : SetOp) : stepTrace n op = stepSet n op := by
  unfold stepTrace stepSet
  rw [setterTrace_eq]
  cases applySet n op <;> rfl

/-- the order of statements matters: a body that stored first and checked afterwards would be
    told apart by `setterTrace`-style execution (the store survives the raise) -/
example : (do storePrefixlen 99; (raise .addrFormat : M Unit)) ⟨⟨4, 5, 24⟩, []⟩ =
    (.error .addrFormat, ⟨⟨4, 5, 99⟩, [.storePrefixlen 99]⟩) := rfl
example : setterTrace ⟨4, 5, 24⟩ (.prefixlen (.int 99)) = (.error .addrFormat, ⟨⟨4, 5, 24⟩, []⟩) := by decide
example : setterTrace ⟨4, 5, 24⟩ (.netmask (.int 4294901760)) = (.ok (), ⟨⟨4, 5, 16⟩, [.storePrefixlen 16]⟩) := by
  decide +kernel

end NV.C02
