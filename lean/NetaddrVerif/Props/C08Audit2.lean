/-
Props/C08Audit2.lean — property C08, third part: the EUI interface beyond strings and in-range
integers.  Dialects and the width of the identifier; `valid_mac` / `valid_eui64`; the six
comparison operators, also against operands that are no EUI; the whole constructor on every
argument kind (copy construction, the dialect argument, order and class of its exceptions); the
setters of a live object; separator-less dialects with several words; index and value kinds of
`__getitem__` / `__setitem__`; integers beyond the interpreter's int-to-str digit limit; what
`words` and `bits()` are; the dialect of the objects `eui64()` / `modified_eui64()` return.

The model functions are in Model/Eui2.lean (run by the driver ops eui_valid, eui_cmpw, eui_ctor,
eui_setvalue, eui_setdialect, eui_getany, eui_setany, eui_dobj) and Model/Eui.lean; helper lemmas
for the separator-less dialects are in Lemmas/C08LBare.lean, the clauses of the Model/Eui2.lean
functions as equations in Lemmas/C08LCtor2.lean.
-/
import NetaddrVerif.Props.C08Ext
import NetaddrVerif.Lemmas.C08LCtor2
import NetaddrVerif.Lemmas.C08LBare
namespace NV.C08A2
open NV NV.Eui NV.Codec NV.Gen NV.PyL NV.C08L.Ctor NV.C08

/-- **every built-in dialect fills the width of its family**: the six `mac_*` classes have
    `num_words * word_size = 48`, the five `eui64_*` classes `= 64` (over the tables regenerated
    from the source on every run, Gen/Dialects.lean; evaluated in `Eui.builtin_width48` / `builtin_width64`) -/
theorem builtin_width :
    (macDialects.length = 6 ∧ ∀ d ∈ macDialects, d.numWords * d.wordSize = 48) ∧
    (eui64Dialects.length = 5 ∧ ∀ d ∈ eui64Dialects, d.numWords * d.wordSize = 64) :=
  ⟨⟨rfl, builtin_width48⟩, ⟨rfl, builtin_width64⟩⟩

/-- **word assignment keeps the value inside the version's width** under a dialect whose words
    fill that width (`num_words * word_size = version`): `e[i] = x` succeeds for every index and
    word value of the dialect, the result is below `2^version`, word `i` reads `x`, every other
    word is unchanged.  (`C08.setItem_spec` bounds the result by the DIALECT's width only.) -/
theorem setItem_width (ver v : Nat) (d : Dialect) (hw : d.numWords * d.wordSize = ver) (hv : v < 2 ^ ver)
    (i x : Nat) (hi : i < d.numWords) (hx : x < 2 ^ d.wordSize) :
    ∃ r, setItem v d i x = .ok r ∧ r < 2 ^ ver ∧ getIdx r d i = .ok x ∧
      ∀ j : Nat, j < d.numWords → j ≠ i → getIdx r d j = getIdx v d j := by
  subst hw
  exact setItem_spec v d hv i x hi hx

/-- … in particular under every built-in dialect of the object's own family -/
theorem setItem_builtin (v : Nat) (d : Dialect) (i x : Nat) (hi : i < d.numWords) (hx : x < 2 ^ d.wordSize) :
    (d ∈ macDialects → v < 2 ^ 48 → ∃ r, setItem v d i x = .ok r ∧ r < 2 ^ 48) ∧
    (d ∈ eui64Dialects → v < 2 ^ 64 → ∃ r, setItem v d i x = .ok r ∧ r < 2 ^ 64) := by
  have key : ∀ ver, d.numWords * d.wordSize = ver → v < 2 ^ ver → ∃ r, setItem v d i x = .ok r ∧ r < 2 ^ ver :=
    fun ver hw hv => (setItem_width ver v d hw hv i x hi hx).imp fun _ h => ⟨h.1, h.2.1⟩
  exact ⟨fun hd => key 48 (builtin_width.1.2 d hd), fun hd => key 64 (builtin_width.2.2 d hd)⟩

example : (⟨"mac_cisco", 16, 3, ['.'], 4, false⟩ : Dialect).numWords * 16 = 48 := by decide
example : setItem 0x001b774954fd ⟨"mac_cisco", 16, 3, ['.'], 4, false⟩ 2 0xffff = .ok 0x001b7749ffff := by decide +kernel

/-- **what the code does for a dialect of the OTHER family** (`_validate_dialect` accepts any
    class with `word_size` and `word_fmt`, eui/__init__.py:464-474; such a dialect is outside the
    property's domain, this states the model's — and, by correspondence, the code's — behaviour):
    an EUI-48 carrying a built-in EUI-64 dialect prints 8 octets / 4 hextets / 16 digits; that text
    parses back as an **EUI-64** of the same numeric value and is **rejected** with `version=48` -/
theorem off_family_48_under_64 (d : Dialect) (hd : d ∈ eui64Dialects) (v : Nat) (hv : v < 2 ^ 48) :
    ∃ s, Eui.str d v = .ok s ∧ ofAnyF (.str s) none = .ok (64, v) ∧
      ofAnyF (.str s) (some 64) = .ok (64, v) ∧ ofAnyF (.str s) (some 48) = .error .addrFormat := by
  obtain ⟨f, hf, p, hfit⟩ := builtin64_fits d hd
  obtain ⟨toks, h1, hsp, ht, hs⟩ := print_parse rowOk64 hf hfit (Nat.lt_trans hv (by decide))
  have hno := eui64_spelling_not_mac hf hsp ht.groups ht.len
  rw [ctor_faithful]
  exact ⟨_, h1, (ofAny_of_str64 hno hs).1, (ofAny_of_str64 hno hs).2,
    ofAny_str48 hno⟩

example : Eui.str eui64Default 0x001b774954fd = .ok "00-00-00-1B-77-49-54-FD".toList := by
  decide_lit
example : ofAnyF (.str "00-00-00-1B-77-49-54-FD".toList) none = .ok (64, 0x001b774954fd) := by
  decide_lit
example : ofAnyF (.str "00-00-00-1B-77-49-54-FD".toList) (some 48) = .error .addrFormat := by
  decide_lit

/-- the other direction: an EUI-64 carrying a built-in EUI-48 dialect cannot be printed at all
    when its value needs more than 48 bits (IndexError of `int_to_words`); below 2^48 it prints
    as an EUI-48 text, which parses back as **version 48** and is rejected with `version=64` -/
theorem off_family_64_under_48 (d : Dialect) (hd : d ∈ macDialects) (v : Nat) :
    (v < 2 ^ 48 → ∃ s, Eui.str d v = .ok s ∧ ofAnyF (.str s) none = .ok (48, v) ∧
      ofAnyF (.str s) (some 64) = .error .addrFormat) ∧
    (2 ^ 48 ≤ v → Eui.str d v = .error .index) := by
  constructor
  · intro hv
    obtain ⟨f, hf, p, hfit⟩ := builtin48_fits d hd
    obtain ⟨toks, h1, hsp, ht, hs⟩ := print_parse rowOk48 hf hfit hv
    rw [ctor_faithful]
    exact ⟨_, h1, (ofAny_of_str48 hs).1,
      ofAny_str64 (mac_spelling_not_eui64 hf hsp ht.groups ht.len)⟩
  · intro hv
    have hw := builtin_width.1.2 d hd
    show intToStr d v = .error .index
    rw [intToStr, intToWords_error (by rw [hw]; omega)]
    rfl

example : Eui.str macDefault (2 ^ 48) = .error .index := by decide +kernel

/-- word 0 is the most significant one: after `e[0] = x` the value is at least
    `x * 2^(word_size * (num_words-1))`, for every dialect -/
theorem setItem_word0_lower (v : Nat) (d : Dialect) (hv : v < 2 ^ (d.numWords * d.wordSize)) (x : Nat)
    (hn : 0 < d.numWords) (hx : x < 2 ^ d.wordSize) :
    ∃ r, setItem v d 0 x = .ok r ∧ x * 2 ^ (d.wordSize * (d.numWords - 1)) ≤ r ∧ r < 2 ^ (d.numWords * d.wordSize) := by
  obtain ⟨r, hr, hlt, hg, _⟩ := setItem_spec v d hv 0 x hn hx
  refine ⟨r, hr, ?_, hlt⟩
  have e : wordAt r d 0 = x := Except.ok.inj ((getIdx_nat hlt hn).symm.trans hg)
  have h1 : x ≤ r / 2 ^ (d.wordSize * (d.numWords - 1)) := by
    rw [← e]; exact Nat.mod_le _ _
  calc x * 2 ^ (d.wordSize * (d.numWords - 1))
      ≤ r / 2 ^ (d.wordSize * (d.numWords - 1)) * 2 ^ (d.wordSize * (d.numWords - 1)) := Nat.mul_le_mul_right _ h1
    _ ≤ r := Nat.div_mul_le_self _ _

/-- **`e[0] = 0xff` on an EUI-48 that carries the default EUI-64 dialect** leaves a value of at
    least 2^56 in an object whose version is still 48 (the code does the same: `__setitem__` only
    consults the dialect, eui/__init__.py:551-563) — which is why dialects whose words do not fill
    the version's width are outside the property's domain -/
theorem off_family_setitem_escapes (v : Nat) (hv : v < 2 ^ 48) (x : Nat) (h1 : 1 ≤ x) (hx : x < 256) :
    ∃ r, setItem v eui64Default 0 x = .ok r ∧ 2 ^ 48 ≤ r := by
  obtain ⟨r, hr, hlo, _⟩ := setItem_word0_lower v eui64Default
    (Nat.lt_trans hv (by decide)) x (by decide) (by simpa [eui64Default] using hx)
  refine ⟨r, hr, ?_⟩
  have : x * 2 ^ (eui64Default.wordSize * (eui64Default.numWords - 1)) = x * 2 ^ 56 := by
    simp [eui64Default]
  rw [this] at hlo
  omega

example : setItem 0x001b774954fd eui64Default 0 0xff = .ok 0xff00001b774954fd := by decide +kernel
example : (2 : Nat) ^ 48 ≤ 0xff00001b774954fd := by decide

/-- **`valid_mac(s)` is True exactly when `eui48.str_to_int(s)` returns a value** (the two
    functions are transcribed separately: `validStr48` from strategy/eui48.py:138-152 — a loop
    over the patterns with `findall` —, `strToInt48` from :155-197) -/
theorem validStr48_iff (s : List Char) : validStr48 s = true ↔ ∃ v, strToInt48 s = .ok v := by
  rw [show validStr48 s = (firstMatch macFormats s).isSome from List.isSome_findSome?.symm]
  exact (strToIntOf_ok_iff rowOk48 s).symm

/-- **`valid_eui64(s)` is True exactly when `eui64.str_to_int(s)` returns a value** (`validStr64`
    from strategy/eui64.py:120-139 — the first match, tested for truth —, `strToInt64` from
    :142-176) -/
theorem validStr64_iff (s : List Char) : validStr64 s = true ↔ ∃ v, strToInt64 s = .ok v := by
  rw [show (∃ v, strToInt64 s = .ok v) ↔ _ from strToIntOf_ok_iff rowOk64 s]
  unfold validStr64
  cases hm : firstMatch eui64Formats s with
  | none => exact Iff.rfl
  | some r =>
    -- a captured group list is never empty and a single group has at least one digit
    obtain ⟨f, hf, hlen, htok⟩ := firstMatch_captured hm
    obtain ⟨_, hlo, hg, _⟩ := rowOk_elim (rowOk64 f hf)
    refine ⟨fun _ => rfl, fun _ => ?_⟩
    match r, hlen, htok with
    | [], hlen, _ => exact absurd (hlen ▸ hg) (by decide)
    | [w], _, htok =>
      have := (htok w List.mem_cons_self).1
      cases w with
      | nil => exact absurd this (by simp; omega)
      | cons c t => rfl
    | _ :: _ :: _, _, _ => rfl

/-- a non-str argument (an int, None, a bytes object …): both functions answer False -/
theorem valid_non_str : validMac .other = false ∧ validEui64 .other = false := ⟨rfl, rfl⟩

/-- … and therefore: `valid_mac(s)` / `valid_eui64(s)` hold exactly for the strings the constructor
    accepts with `version=48` / `version=64`, the value being inside the width -/
theorem valid_iff_ctor (s : List Char) :
    (validMac (.str s) = true ↔ ∃ v, v < 2 ^ 48 ∧ ofAnyF (.str s) (some 48) = .ok (48, v)) ∧
    (validEui64 (.str s) = true ↔ ∃ v, v < 2 ^ 64 ∧ ofAnyF (.str s) (some 64) = .ok (64, v)) := by
  obtain ⟨ok48, err48, ok64, err64⟩ := ofAnyF_str_explicit s
  constructor
  · show validStr48 s = true ↔ _
    rw [validStr48_iff]
    rcases strToInt48_total s with h | ⟨w, h, hw⟩
    · rw [h, err48 h]
      exact ⟨fun ⟨_, e⟩ => (nomatch e), fun ⟨_, _, e⟩ => (nomatch e)⟩
    · exact ⟨fun _ => ⟨w, hw, ok48 w h⟩, fun _ => ⟨w, h⟩⟩
  · show validStr64 s = true ↔ _
    rw [validStr64_iff]
    rcases strToInt64_total s with h | ⟨w, h, hw⟩
    · rw [h, err64 h]
      exact ⟨fun ⟨_, e⟩ => (nomatch e), fun ⟨_, _, e⟩ => (nomatch e)⟩
    · exact ⟨fun _ => ⟨w, hw, ok64 w h⟩, fun _ => ⟨w, h⟩⟩

example : validMac (.str "00-1B-77-49-54-FD".toList) = true := by
  decide_lit
example : validMac (.str "00-1B-77-49-54-FD\n".toList) = true := by
  decide_lit
example : validMac (.str "00-1B-77-49-54-FD-00-01".toList) = false := by
  decide_lit
example : validEui64 (.str "00-1B-77-49-54-FD-00-01".toList) = true := by
  decide_lit
example : validEui64 (.str "1234".toList) = false := by
  decide_lit

/-- `a == b` between EUIs: same version and same value (dialects play no part: `cmpOp` has no
    argument for them; the harness varies them) -/
theorem cmp_eq (ver1 v1 ver2 v2 : Nat) : cmpOp .eq ver1 v1 ver2 v2 = true ↔ (ver1 = ver2 ∧ v1 = v2) :=
  beq_iff_eq.trans (eq_hash_by_value ver1 v1 ver2 v2).2.1

theorem cmp_ne (ver1 v1 ver2 v2 : Nat) : cmpOp .ne ver1 v1 ver2 v2 = true ↔ ¬ (ver1 = ver2 ∧ v1 = v2) :=
  bne_iff_ne.trans (not_congr (eq_hash_by_value ver1 v1 ver2 v2).2.1)

theorem cmp_lt (ver1 v1 ver2 v2 : Nat) :
    cmpOp .lt ver1 v1 ver2 v2 = true ↔ (ver1 < ver2 ∨ (ver1 = ver2 ∧ v1 < v2)) :=
  beq_iff_eq.trans (eq_hash_by_value ver1 v1 ver2 v2).2.2.1

theorem cmp_le (ver1 v1 ver2 v2 : Nat) :
    cmpOp .le ver1 v1 ver2 v2 = true ↔ (ver1 < ver2 ∨ (ver1 = ver2 ∧ v1 ≤ v2)) := by
  refine (bne_iff_ne.trans (not_congr (eq_hash_by_value ver1 v1 ver2 v2).2.2.2)).trans ?_
  omega

theorem cmp_gt (ver1 v1 ver2 v2 : Nat) :
    cmpOp .gt ver1 v1 ver2 v2 = true ↔ (ver2 < ver1 ∨ (ver1 = ver2 ∧ v2 < v1)) :=
  beq_iff_eq.trans (eq_hash_by_value ver1 v1 ver2 v2).2.2.2

theorem cmp_ge (ver1 v1 ver2 v2 : Nat) :
    cmpOp .ge ver1 v1 ver2 v2 = true ↔ (ver2 < ver1 ∨ (ver1 = ver2 ∧ v2 ≤ v1)) := by
  refine (bne_iff_ne.trans (not_congr (eq_hash_by_value ver1 v1 ver2 v2).2.2.1)).trans ?_
  omega

example : cmpOp .lt 48 5 64 4 = true := by decide +kernel
example : cmpOp .eq 48 5 64 5 = false := by decide +kernel

/-- **strings**: the version / value part of the whole constructor is `ofAnyF` -/
theorem ctorValue_str (s : List Char) (version : Option Int) :
    ctorValue (.addr (.str s)) version = ofAnyF (.str s) version :=
  ctorValue_addr (.str s) (fun _ e => nomatch e) version

/-- **integers below the interpreter's int-to-str digit limit** (|n| < 10^4300; a bool is the
    integer 0 / 1): the version / value part of the whole constructor is `ofAnyF`, so that
    `C08.ofAnyF_int` and `C08.ofAnyF_error_class` describe it -/
theorem ctorValue_int (n : Int) (h : n.natAbs < 10 ^ strDigitLimit) (version : Option Int) :
    ctorValue (.addr (.int n)) version = ofAnyF (.int n) version :=
  ctorValue_addr (.int n) (fun _ e => AddrArg.int.inj e ▸ h) version

/-- `e.value = n` with an int beyond the digit limit is a **ValueError** (the AddrFormatError
    message formats it) -/
theorem setValueLive_int_huge (ver : Nat) (hver : ver = 48 ∨ ver = 64) (n : Int) (h : 10 ^ strDigitLimit ≤ n.natAbs) :
    setValueLive ver (.addr (.int n)) = .error .value :=
  setValueExplicit_int_huge ver h

/-- **integers of more than 4300 digits**: whatever the version argument, the
    constructor raises **ValueError** — from the version test (a version other than 48 / 64), or
    because every other rejection formats the integer into its message (`'%r' % (addr,)`,
    strategy/eui48.py:178, eui/__init__.py:456) and the interpreter refuses that.  `C08.ofAnyF_int`
    and `C08.ofAnyF_error_class` (TypeError / AddrFormatError) are statements about `ofAnyF`, which
    has no such limit: they describe the constructor below 10^4300 only (`ctorValue_int`). -/
theorem ctorValue_int_huge (n : Int) (h : 10 ^ strDigitLimit ≤ n.natAbs) (version : Option Int) (dia : DialectArg) :
    ctorValue (.addr (.int n)) version = .error .value ∧ ctor (.addr (.int n)) version dia = .error .value := by
  have key : ctorValue (.addr (.int n)) version = .error .value := by
    cases version with
    | none =>
      have := huge_out h
      rw [ctorValue_int_none, if_neg (by omega), if_neg (by omega), raiseFmt_huge h]
    | some k =>
      rw [ctorValue_some, setValueExplicit_int_huge 48 h, setValueExplicit_int_huge 64 h]
      simp only [ite_self]
  exact ⟨key, by rw [ctor_addr, key]; rfl⟩

set_option exponentiation.threshold 6000 in
example : ctorValue (.addr (.int ((10 ^ 5000 : Nat) : Int))) none = .error .value :=
  (ctorValue_int_huge _ (by rw [Int.natAbs_natCast]; exact Nat.pow_le_pow_right (by decide) (by decide)) none .none).1

/-- **copy construction** `EUI(e, version, dialect)` from an EUI object `e`: with no version, or
    the version of `e`, the result has the version, the value AND the dialect of `e` — the
    `dialect` argument is not even looked at (an object that is no dialect class passes); any other
    version is a **ValueError** -/
theorem copy_ctor (ver v : Nat) (d : Dialect) (dia : DialectArg) :
    ctor (.eui ver v d) none dia = .ok (ver, v, d) ∧
    ctor (.eui ver v d) (some ver) dia = .ok (ver, v, d) ∧
    (∀ k : Int, k ≠ ver → ctor (.eui ver v d) (some k) dia = .error .value) := by
  refine ⟨rfl, ?_, ?_⟩
  · simp [ctor]
  · intro k hk; simp [ctor, hk]

example : ctor (.eui 48 0x001b774954fd ⟨"mac_cisco", 16, 3, ['.'], 4, false⟩) (some 64) .none = .error .value := by rfl
example : ctor (.eui 48 0x001b774954fd ⟨"mac_cisco", 16, 3, ['.'], 4, false⟩) none .junk
    = .ok (48, 0x001b774954fd, ⟨"mac_cisco", 16, 3, ['.'], 4, false⟩) := by rfl

/-- **a finite float** `x` (`t = int(x)`, truncated towards zero): with an explicit version it is
    the integer `t` (accepted in `0 .. 2^version - 1`, AddrFormatError outside); with no version it is
    a **TypeError** (`_is_int` is False, so no default version is chosen and `eui48.str_to_int`
    refuses a non-str) -/
theorem ctor_float (t : Int) :
    ctorValue (.float t) none = .error .type_ ∧
    (∀ ver : Nat, ver = 48 ∨ ver = 64 →
      (0 ≤ t → t < 2 ^ ver → ctorValue (.float t) (some ver) = .ok (ver, t.toNat)) ∧
      (t < 0 ∨ 2 ^ ver ≤ t → ctorValue (.float t) (some ver) = .error .addrFormat)) ∧
    (∀ k : Int, k ≠ 48 → k ≠ 64 → ctorValue (.float t) (some k) = .error .value) := by
  refine ⟨rfl, ?_, fun k h1 h2 => ctorValue_badver _ h1 h2⟩
  intro ver hver
  have e : ctorValue (.float t) (some (ver : Int)) =
      if 0 ≤ t ∧ t ≤ (2 : Int) ^ ver - 1 then .ok (ver, t.toNat) else .error .addrFormat := by
    rcases hver with rfl | rfl <;> rfl
  rw [e]
  exact ⟨fun a b => if_pos (by omega), fun a => if_neg (by omega)⟩

example : ctorValue (.float 3) (some 48) = .ok (48, 3) := by decide +kernel

/-- **None and bytes**: None is a **TypeError** with or without a version (`int(None)` /
    `eui48.str_to_int(None)`); a bytes object passes `_is_str` and then fails inside `re`: a
    **TypeError** with no version or `version=48` (eui48.str_to_int lets it escape), an
    **AddrFormatError** with `version=64` (eui64.str_to_int wraps it) -/
theorem ctor_none_bytes :
    ctorValue .pyNone none = .error .type_ ∧ ctorValue .pyNone (some 48) = .error .type_ ∧
    ctorValue .pyNone (some 64) = .error .type_ ∧
    ctorValue .bytes none = .error .type_ ∧ ctorValue .bytes (some 48) = .error .type_ ∧
    ctorValue .bytes (some 64) = .error .addrFormat ∧
    (∀ (a : CtorArg) (k : Int), k ≠ 48 → k ≠ 64 → (∀ w v d, a ≠ .eui w v d) → ctorValue a (some k) = .error .value) := by
  exact ⟨rfl, rfl, rfl, rfl, rfl, rfl, fun a _ h1 h2 _ => ctorValue_badver a h1 h2⟩

/-- **the dialect argument** of a constructor call that is not a copy: None gives the default
    dialect of the version found (mac_eui48 / eui64_base), a dialect class is taken as it is —
    of whichever family —, anything else is a **TypeError** -/
theorem ctor_dialect (a : CtorArg) (ha : ∀ w v d, a ≠ .eui w v d) (version : Option Int) (ver v : Nat)
    (h : ctorValue a version = .ok (ver, v)) :
    ctor a version .none = .ok (ver, v, defaultDialect ver) ∧
    (∀ d, ctor a version (.cls d) = .ok (ver, v, d)) ∧
    ctor a version .junk = .error .type_ := by
  simp only [ctor_of_not_eui ha, h]
  exact ⟨rfl, fun _ => rfl, rfl⟩

/-- **order of the exceptions**: an exception of the version / value part comes before the
    dialect is looked at (`EUI('zz', dialect=5)` is an AddrFormatError, `EUI(5, version=3,
    dialect=5)` a ValueError) -/
theorem ctor_error_order (a : CtorArg) (ha : ∀ w v d, a ≠ .eui w v d) (version : Option Int) (e : Err)
    (h : ctorValue a version = .error e) (dia : DialectArg) : ctor a version dia = .error e := by
  rw [ctor_of_not_eui ha, h]
  rfl

example : ctor (.addr (.str "zz".toList)) none .junk = .error .addrFormat := by
  decide_lit
example : ctor (.addr (.int 5)) (some 3) .junk = .error .value := by rfl
example : ctor (.addr (.int 5)) none .junk = .error .type_ := by decide +kernel
example : ctor (.addr (.int 5)) none (.cls eui64Default) = .ok (48, 5, eui64Default) := by rfl

/-- **the exception class of every rejected constructor call that is not a copy** (integers below
    the digit limit; `C08.ofAnyF_error_class` extended to every argument kind): **ValueError**
    exactly for a version other than 48 / 64; **TypeError** for a versionless argument that is no
    str (an integer outside 0 … 2^64-1, a float, None, bytes), for None with any version and for
    bytes with `version=48`; **AddrFormatError** otherwise (a str that is no EUI of the requested /
    of any version, an int or float outside the explicit version's range, bytes with `version=64`) -/
theorem ctorValue_error_class (a : CtorArg) (ha : ∀ w v d, a ≠ .eui w v d)
    (hb : ∀ n, a = .addr (.int n) → n.natAbs < 10 ^ strDigitLimit) (ver : Option Int) (e : Err)
    (h : ctorValue a ver = .error e) :
    (e = .value ∧ ∃ k, ver = some k ∧ k ≠ 48 ∧ k ≠ 64) ∨
    (e = .type_ ∧ ((ver = none ∧ ∀ s, a ≠ .addr (.str s)) ∨ a = .pyNone ∨ (a = .bytes ∧ ver = some 48))) ∨
    (e = .addrFormat ∧ (ver = some 48 ∨ ver = some 64 ∨ (ver = none ∧ ∃ s, a = .addr (.str s)))) := by
  -- the version test comes first, whatever the argument
  by_cases hbad : ∃ k, ver = some k ∧ k ≠ 48 ∧ k ≠ 64
  · obtain ⟨k, rfl, h1, h2⟩ := hbad
    rw [ctorValue_badver _ h1 h2] at h
    exact Or.inl ⟨(Except.error.inj h).symm, k, rfl, h1, h2⟩
  have hv := (version_cases ver).resolve_left hbad
  right
  cases a with
  | eui w v d => exact absurd rfl (ha w v d)
  | addr x =>
    rw [ctorValue_addr x (fun n e => hb n (e ▸ rfl))] at h
    rcases ofAnyF_error_class _ _ _ h with ⟨_, a2⟩ | ⟨a1, a2, n, rfl, _⟩ | ⟨a1, a2⟩
    · exact absurd a2 hbad
    · exact Or.inl ⟨a1, Or.inl ⟨a2, fun s hs => nomatch hs⟩⟩
    · exact Or.inr ⟨a1, a2.imp id (Or.imp id fun ⟨a3, s, e⟩ => ⟨a3, s, e ▸ rfl⟩)⟩
  | float t =>
    have out : ∀ {w}, setValueExplicit w (.float t) = .error e → e = .addrFormat := by
      intro w hw
      simp only [setValueExplicit] at hw
      split at hw
      · cases hw
      · exact (Except.error.inj hw).symm
    rcases hv with rfl | rfl | rfl
    · exact Or.inl ⟨(Except.error.inj h).symm, Or.inl ⟨rfl, fun s hs => nomatch hs⟩⟩
    · exact Or.inr ⟨out h, Or.inl rfl⟩
    · exact Or.inr ⟨out h, Or.inr (Or.inl rfl)⟩
  | pyNone =>
    have : e = .type_ := by rcases hv with rfl | rfl | rfl <;> exact (Except.error.inj h).symm
    exact Or.inl ⟨this, Or.inr (Or.inl rfl)⟩
  | bytes =>
    rcases hv with rfl | rfl | rfl
    · exact Or.inl ⟨(Except.error.inj h).symm, Or.inl ⟨rfl, fun s hs => nomatch hs⟩⟩
    · exact Or.inl ⟨(Except.error.inj h).symm, Or.inr (Or.inr ⟨rfl, rfl⟩)⟩
    · exact Or.inr ⟨(Except.error.inj h).symm, Or.inr (Or.inl rfl)⟩

example : ctorValue .bytes (some 64) = .error .addrFormat := by decide +kernel
example : ctorValue (.float 3) none = .error .type_ := by decide +kernel

theorem cmpWith_eui (op : CmpOp) (ver v w x : Nat) : cmpWith op ver v (.eui w x) = .ok (cmpOp op ver v w x) := rfl

/-- **a str operand** goes through the constructor with no version (`self.__class__(other)`): if
    that gives `(w, x)` the result is the comparison with `EUI(other)` — whatever `self`'s version
    and dialect —, and if it raises, `NotImplemented` is returned: `==` False, `!=` True, an
    ordering operator a **TypeError** -/
theorem cmpWith_str (op : CmpOp) (ver v : Nat) (s : List Char) :
    (∀ w x, ofAnyF (.str s) none = .ok (w, x) →
      cmpWith op ver v (.arg (.addr (.str s))) = .ok (cmpOp op ver v w x)) ∧
    (∀ e, ofAnyF (.str s) none = .error e → cmpWith op ver v (.arg (.addr (.str s))) = notImplemented op) :=
  ⟨fun _ _ h => cmpWith_addr_ok ((ctorValue_str s none).trans h),
    fun _ h => cmpWith_addr_err ((ctorValue_str s none).trans h)⟩

/-- **an int operand** (a bool included): below 2^48 it is compared as the EUI-48 of that value,
    from 2^48 to 2^64-1 as the EUI-64 — so `EUI(5, version=64) == 5` is False —, and a negative
    or larger integer gives `NotImplemented` (also beyond the digit limit, where the constructor's
    ValueError is swallowed by `except Exception`) -/
theorem cmpWith_int (op : CmpOp) (ver v : Nat) (n : Int) :
    (0 ≤ n → n < 2 ^ 48 → cmpWith op ver v (.arg (.addr (.int n))) = .ok (cmpOp op ver v 48 n.toNat)) ∧
    (2 ^ 48 ≤ n → n < 2 ^ 64 → cmpWith op ver v (.arg (.addr (.int n))) = .ok (cmpOp op ver v 64 n.toNat)) ∧
    (n < 0 ∨ 2 ^ 64 ≤ n → cmpWith op ver v (.arg (.addr (.int n))) = notImplemented op) := by
  obtain ⟨i48, i64, iout, _⟩ := ofAnyF_int n
  refine ⟨fun h0 h1 => ?_, fun h0 h1 => ?_, fun h => ?_⟩
  · exact cmpWith_addr_ok ((ctorValue_int n (small_of_le n h0 (by omega)) none).trans (i48 h0 h1))
  · exact cmpWith_addr_ok ((ctorValue_int n (small_of_le n (by omega) (by omega)) none).trans (i64 h0 h1))
  · by_cases hb : n.natAbs < 10 ^ strDigitLimit
    · exact cmpWith_addr_err ((ctorValue_int n hb none).trans (iout h))
    · exact cmpWith_addr_err (ctorValue_int_huge n (by omega) none .none).1

/-- **a float, None or bytes operand**: the constructor raises, so `==` is False, `!=` True and an
    ordering operator a TypeError -/
theorem cmpWith_other (op : CmpOp) (ver v : Nat) (t : Int) :
    cmpWith op ver v (.arg (.float t)) = notImplemented op ∧
    cmpWith op ver v (.arg .pyNone) = notImplemented op ∧
    cmpWith op ver v (.arg .bytes) = notImplemented op := ⟨rfl, rfl, rfl⟩

example : cmpWith .eq 48 0x001b774954fd (.arg (.addr (.str "001b.7749.54fd".toList))) = .ok true := by
  decide_lit
example : cmpWith .eq 64 5 (.arg (.addr (.int 5))) = .ok false := by decide +kernel
example : cmpWith .eq 48 5 (.arg (.addr (.int 5))) = .ok true := by decide +kernel
example : cmpWith .lt 48 0x001b774954fd (.arg (.addr (.str "junk".toList))) = .error .type_ := by
  decide_lit
example : cmpWith .eq 48 0x001b774954fd (.arg (.addr (.str "junk".toList))) = .ok false := by
  decide_lit
example : cmpWith .ne 48 0x001b774954fd (.arg .pyNone) = .ok true := by decide +kernel

/-- **`e.value = x` is the explicit-version branch** of `_set_value` (the function `setExplicitF`
    of Model/Eui.lean) at the object's own version, for a str and for an int below the digit limit:
    no version detection and no integer fallback -/
theorem value_setter (ver : Nat) (a : AddrArg) (h : ∀ n, a = .int n → n.natAbs < 10 ^ strDigitLimit) :
    setValueLive ver (.addr a) = setExplicitF ver a :=
  setValueExplicit_addr ver a h

/-- **`e.value = '1234'` is an AddrFormatError although `EUI('1234')` is accepted**: a string of
    decimal digits that is no bare EUI (not 11, 12 or 16 characters) and denotes a number below 2^64
    is accepted by the constructor with no version (the integer fallback, `C08.decimal_string`) and
    refused by the value setter of an EUI-48 and of an EUI-64 -/
theorem setter_no_fallback (s : List Char) (h : DecStr s) (hl : s.length ≠ 11 ∧ s.length ≠ 12 ∧ s.length ≠ 16)
    (hv : digitsNat 10 s 0 < 2 ^ 64) :
    (∃ w, ofAnyF (.str s) none = .ok (w, digitsNat 10 s 0)) ∧
    setValueLive 48 (.addr (.str s)) = .error .addrFormat ∧
    setValueLive 64 (.addr (.str s)) = .error .addrFormat := by
  obtain ⟨a, b, _, c48, c64⟩ := decimal_string s h hl
  refine ⟨?_, c48, c64⟩
  by_cases h48 : digitsNat 10 s 0 < 2 ^ 48
  · exact ⟨48, a h48⟩
  · exact ⟨64, b (by omega) hv⟩

example : setValueLive 48 (.addr (.str "1234".toList)) = .error .addrFormat := by
  decide_lit
example : ofAnyF (.str "1234".toList) none = .ok (48, 1234) := by
  decide_lit
example : setValueLive 48 (.addr (.int 1234)) = .ok (48, 1234) := by decide +kernel

/-- **`e.dialect = x`**: None resets to the default dialect of the object's version, a dialect
    class (of either family) is taken as it is, anything else is a **TypeError** -/
theorem dialect_setter (ver : Nat) :
    setDialectLive ver .none = .ok (defaultDialect ver) ∧
    (∀ d, setDialectLive ver (.cls d) = .ok d) ∧
    setDialectLive ver .junk = .error .type_ ∧
    defaultDialect 48 = macDefault ∧ defaultDialect 64 = eui64Default := ⟨rfl, fun _ => rfl, rfl, rfl, rfl⟩

/-- **round trip for a separator-less user subclass** (`class nosep(mac_eui48): word_sep = ''`,
    and any dialect with an empty separator whose words are printed with exactly `word_size / 4`
    digits and fill 48 bits): the printed text is the twelve-digit bare spelling and parses back,
    with implicit and with explicit version, to (48, value).  `C08.roundtrip_fit48` does not
    cover these: its `fits` allows an empty separator for one-word dialects only. -/
theorem roundtrip_bare48 (d : Dialect) (f : MacFmt) (hf : f ∈ macFormats) (hfit : fitsBare d f 48 = true)
    (v : Nat) (hv : v < 2 ^ 48) :
    ∃ s, intToStr d v = .ok s ∧ strToInt48 s = .ok v ∧ ofAny (.str s) none = .ok (48, v) ∧
      ofAny (.str s) (some 48) = .ok (48, v) := by
  obtain ⟨h1, h2, _, h4, h5, h6, h7, h8⟩ := print_bare hfit hv
  have hs : strToInt48 _ = .ok v := h4 ▸ strToIntOf_bare rowOk48 f hf h5 h6 h2 ⟨h7, h8⟩
  exact ⟨_, h1, hs, ofAny_of_str48 hs⟩

theorem roundtrip_bare64 (d : Dialect) (f : MacFmt) (hf : f ∈ eui64Formats) (hfit : fitsBare d f 64 = true)
    (v : Nat) (hv : v < 2 ^ 64) :
    ∃ s, intToStr d v = .ok s ∧ strToInt64 s = .ok v ∧ ofAny (.str s) none = .ok (64, v) ∧
      ofAny (.str s) (some 64) = .ok (64, v) := by
  obtain ⟨h1, h2, _, h4, h5, h6, h7, h8⟩ := print_bare hfit hv
  have hs : strToInt64 _ = .ok v := h4 ▸ strToIntOf_bare rowOk64 f hf h5 h6 h2 ⟨h7, h8⟩
  -- sixteen digits: too long for the bare EUI-48 patterns
  have hno := strToIntOf_bare_none rowOk48 h2 (fun g hg h1 => by
    have := bare_rows64 f hf h6
    rcases bare_rows48 g hg h1 with ⟨a, b⟩ | ⟨a, b⟩ <;> omega)
  exact ⟨_, h1, hs, ofAny_of_str64 hno hs⟩

/-- **round trip, general form, extended**: a dialect that fits a row of `RE_MAC_FORMATS` in the
    sense of `fits` (separator and word shape of the row) OR of `fitsBare` (no separator, fully
    padded words) round-trips -/
theorem roundtrip_fit48_ext (d : Dialect) (f : MacFmt) (p : Nat) (hf : f ∈ macFormats)
    (hfit : fits d f p 48 = true ∨ fitsBare d f 48 = true) (v : Nat) (hv : v < 2 ^ 48) :
    ∃ s, intToStr d v = .ok s ∧ strToInt48 s = .ok v ∧ ofAny (.str s) none = .ok (48, v) ∧
      ofAny (.str s) (some 48) = .ok (48, v) := by
  rcases hfit with h | h
  · exact roundtrip_fit48 d f p hf h v hv
  · exact roundtrip_bare48 d f hf h v hv

theorem roundtrip_fit64_ext (d : Dialect) (f : MacFmt) (p : Nat) (hf : f ∈ eui64Formats)
    (hfit : fits d f p 64 = true ∨ fitsBare d f 64 = true) (v : Nat) (hv : v < 2 ^ 64) :
    ∃ s, intToStr d v = .ok s ∧ strToInt64 s = .ok v ∧ ofAny (.str s) none = .ok (64, v) ∧
      ofAny (.str s) (some 64) = .ok (64, v) := by
  rcases hfit with h | h
  · exact roundtrip_fit64 d f p hf h v hv
  · exact roundtrip_bare64 d f hf h v hv

/-- `class nosep(mac_eui48): word_sep = ''` and its hextet / 24-bit / EUI-64 relatives -/
example : fitsBare ⟨"nosep", 8, 6, [], 2, true⟩ ⟨[], 1, 12, 12⟩ 48 = true := by decide
example : fitsBare ⟨"nosep16", 16, 3, [], 4, false⟩ ⟨[], 1, 12, 12⟩ 48 = true := by decide
example : fitsBare ⟨"nosep64", 8, 8, [], 2, false⟩ ⟨[], 1, 16, 16⟩ 64 = true := by decide
example : (⟨[], 1, 12, 12⟩ : MacFmt) ∈ macFormats := by decide
example : intToStr ⟨"nosep", 8, 6, [], 2, true⟩ 0x001b774954fd = .ok "001B774954FD".toList := by
  decide_lit
example : fits ⟨"nosep", 8, 6, [], 2, true⟩ ⟨[], 1, 12, 12⟩ 12 48 = false := by decide

/-- `e[idx]`: an int index is `getIdx` (`C08.getIdx_spec`), a slice `getSlice`
    (`C08.getSlice_spec`), any other object a **TypeError** -/
theorem getItem_kinds (v : Nat) (d : Dialect) :
    (∀ i, getItem v d (.int i) = (getIdx v d i).map .word) ∧
    (∀ a b c, getItem v d (.slice a b c) = (getSlice v d a b c).map .words) ∧
    getItem v d .other = .error .type_ := ⟨fun _ => rfl, fun _ _ _ => rfl, rfl⟩

/-- **`e[idx] = value`, the order of the tests** (all integers below the digit limit):
    a slice index is a **NotImplementedError** whatever the value; an index that is no int a
    **TypeError** whatever the value; an int index outside `0 .. num_words-1` an **IndexError**
    even when the value is no int (`e[99] = 'x'`); then a value that is no int is a **TypeError**;
    an int value outside `0 .. 2^word_size-1` an **IndexError**; otherwise the assignment is
    `setItem` (`C08.setItem_spec`, `setItem_width`) -/
theorem setItemAny_precedence (v : Nat) (d : Dialect) :
    (∀ a b c val, setItemAny v d (.slice a b c) val = .error .notImpl) ∧
    (∀ val, setItemAny v d .other val = .error .type_) ∧
    (∀ (i : Int) val, i.natAbs < 10 ^ strDigitLimit → (i < 0 ∨ (d.numWords : Int) ≤ i) →
      setItemAny v d (.int i) val = .error .index) ∧
    (∀ i : Int, 0 ≤ i → i < d.numWords → setItemAny v d (.int i) .other = .error .type_) ∧
    (∀ i x : Int, 0 ≤ i → i < d.numWords → x.natAbs < 10 ^ strDigitLimit → (x < 0 ∨ (2 : Int) ^ d.wordSize ≤ x) →
      setItemAny v d (.int i) (.int x) = .error .index) ∧
    (∀ i x : Int, 0 ≤ i → i < d.numWords → 0 ≤ x → x < (2 : Int) ^ d.wordSize →
      setItemAny v d (.int i) (.int x) = setItem v d i x) := by
  refine ⟨fun _ _ _ _ => rfl, fun _ => rfl, ?_, ?_, ?_, ?_⟩
  · intro i val hb hi
    rw [setItemAny_idx_out v d hi, raiseFmt_small hb]
  · intro i h0 h1
    simp only [setItemAny]
    rw [if_neg (by omega)]
  · intro i x h0 h1 hb hx
    rw [setItemAny_val v d h0 h1, if_pos (by omega), raiseFmt_small hb]
  · intro i x h0 h1 h2 h3
    rw [setItemAny_val v d h0 h1, if_neg (by omega)]

/-- `e[idx] = value` with an int index, or (for an index in range) an int value, beyond the
    digit limit is a **ValueError** — the IndexError messages format them with `%d`
    (eui/__init__.py:552, 558).  `C08.setItem_reject` (IndexError) is a statement about `setItem`,
    which has no such limit; it describes the code below 10^4300 (`setItemAny_precedence`). -/
theorem setItemAny_huge (v : Nat) (d : Dialect) :
    (∀ (i : Int) val, 10 ^ strDigitLimit ≤ i.natAbs → d.numWords < 10 ^ strDigitLimit →
      setItemAny v d (.int i) val = .error .value) ∧
    (∀ i x : Int, 0 ≤ i → i < d.numWords → 10 ^ strDigitLimit ≤ x.natAbs → d.wordSize ≤ 12900 →
      setItemAny v d (.int i) (.int x) = .error .value) := by
  constructor
  · intro i val hb hn
    rw [setItemAny_idx_out v d (by omega), raiseFmt_huge hb]
  · intro i x h0 h1 hb hws
    have hp : (2 : Nat) ^ d.wordSize ≤ 10 ^ strDigitLimit := by
      have h2 : (2 : Nat) ^ d.wordSize ≤ 2 ^ (3 * strDigitLimit) :=
        Nat.pow_le_pow_right (by decide) (by show d.wordSize ≤ 3 * 4300; omega)
      have h3 : (2 : Nat) ^ (3 * strDigitLimit) ≤ 10 ^ strDigitLimit := by
        rw [Nat.pow_mul]; exact Nat.pow_le_pow_left (by decide) _
      exact Nat.le_trans h2 h3
    have hx : x < 0 ∨ (2 : Int) ^ d.wordSize ≤ x := by
      by_cases hneg : x < 0
      · exact Or.inl hneg
      · right
        have : ((2 : Nat) ^ d.wordSize : Nat) ≤ x.natAbs := Nat.le_trans hp hb
        have e : ((x.natAbs : Nat) : Int) = x := Int.natAbs_of_nonneg (by omega)
        rw [← e]
        exact_mod_cast this
    rw [setItemAny_val v d h0 h1, if_pos (by omega), raiseFmt_huge hb]

set_option exponentiation.threshold 5000 in
example : setItemAny 0x001b774954fd macDefault (.int 99) .other = .error .index := by decide +kernel
example : setItemAny 0x001b774954fd macDefault .other (.int 9999) = .error .type_ := by decide +kernel
example : setItemAny 0x001b774954fd macDefault (.slice none none none) .other = .error .notImpl := by decide +kernel
set_option exponentiation.threshold 5000 in
example : setItemAny 0x001b774954fd macDefault (.int 0) (.int 0xff) = .ok 0xff1b774954fd := by decide +kernel

/-- **`words`** of an EUI are the octets of the value, most significant first: 6 (EUI-48) / 8
    (EUI-64) numbers below 256 whose big-endian value is the identifier (`C15.intToWords_spec`
    instantiated; `C08.accessors_dialect_free` only says which codec is called) -/
theorem words_are (v : Nat) :
    (v < 2 ^ 48 → ∃ ws, Eui.words 48 v = .ok ws ∧ ws.length = 6 ∧ (∀ x ∈ ws, x < 256) ∧ beWordsValue 8 ws = v) ∧
    (v < 2 ^ 64 → ∃ ws, Eui.words 64 v = .ok ws ∧ ws.length = 8 ∧ (∀ x ∈ ws, x < 256) ∧ beWordsValue 8 ws = v) :=
  ⟨fun h => (C15.intToWords_spec v 8 6).1 h, fun h => (C15.intToWords_spec v 8 8).1 h⟩

private theorem bits_of (v n : Nat) (sep : List Char) (h : v < 2 ^ (n * 8)) :
    ∃ ws, intToWords v 8 n = .ok ws ∧ intToBits v 8 n sep = .ok (sep.intercalate (ws.map (padBits 8))) ∧
      intToBits v 8 n ['-'] = .ok (['-'].intercalate (ws.map (padBits 8))) := by
  obtain ⟨ws, a, b⟩ := (C15.intToBits_spec v 8 n sep).1 h
  obtain ⟨ws', a', b'⟩ := (C15.intToBits_spec v 8 n ['-']).1 h
  obtain rfl : ws = ws' := Except.ok.inj (a.symm.trans a')
  exact ⟨ws, a, b, b'⟩

/-- **`bits(sep)`** is every one of those octets spelled with exactly 8 binary digits, joined by
    the separator; `bits()` uses '-' (`C15.intToBits_spec` instantiated) -/
theorem bits_are (v : Nat) (sep : List Char) :
    (v < 2 ^ 48 → ∃ ws, Eui.words 48 v = .ok ws ∧
      Eui.bits 48 v (some sep) = .ok (sep.intercalate (ws.map (padBits 8))) ∧
      Eui.bits 48 v none = .ok (['-'].intercalate (ws.map (padBits 8)))) ∧
    (v < 2 ^ 64 → ∃ ws, Eui.words 64 v = .ok ws ∧
      Eui.bits 64 v (some sep) = .ok (sep.intercalate (ws.map (padBits 8))) ∧
      Eui.bits 64 v none = .ok (['-'].intercalate (ws.map (padBits 8)))) :=
  ⟨bits_of v 6 sep, bits_of v 8 sep⟩

example : Eui.words 48 0x001b774954fd = .ok [0x00, 0x1b, 0x77, 0x49, 0x54, 0xfd] := by decide +kernel

theorem eui64Obj_of_eui64 {ver v e : Nat} (h : eui64 ver v = .ok (64, e)) :
    eui64Obj ver v = .ok (64, e, eui64Default) := by
  obtain ⟨_, hval, hlt⟩ := eui64_inv h
  have h64 := (ofAnyF_int (e : Int)).2.2.2.2.2.1 (Int.natCast_nonneg _) (by omega)
  rw [eui64Obj, hval, ctor_addr, ctorValue_int _ (small_of_le _ (Int.natCast_nonneg _) (by omega)), h64,
    Int.toNat_natCast]
  rfl

/-- **`eui64()` and `modified_eui64()` return objects in the default EUI-64 dialect**
    (eui64_base) whatever the receiver's dialect is (the model functions have no argument for it;
    the harness varies it): version and value are those of `C08.eui64_spec` /
    `C08.modified_flips_bit57` -/
theorem derived_objects_default_dialect (ver v : Nat) (hver : ver = 48 ∨ ver = 64) (hv : v < 2 ^ ver) :
    ∃ e, eui64 ver v = .ok (64, e) ∧ eui64Obj ver v = .ok (64, e, eui64Default) ∧
      modifiedEui64Obj ver v = .ok (64, e ^^^ 2 ^ 57, eui64Default) ∧
      modifiedEui64 ver v = .ok (64, e ^^^ 2 ^ 57) := by
  obtain ⟨e, h1⟩ : ∃ e, eui64 ver v = .ok (64, e) := by
    rcases hver with rfl | rfl
    · exact ⟨_, (eui64_spec v).1 hv⟩
    · exact ⟨_, (eui64_spec v).2 hv⟩
  have hobj := eui64Obj_of_eui64 h1
  refine ⟨e, h1, hobj, ?_, (modified_flips_bit57 ver v e h1).1⟩
  simp only [modifiedEui64Obj, hobj]
  rfl

example : eui64Obj 48 0x001b774954fd = .ok (64, 0x001b77fffe4954fd, eui64Default) := by rfl
example : modifiedEui64Obj 48 0x001b774954fd = .ok (64, 0x021b77fffe4954fd, eui64Default) := by rfl

end NV.C08A2
