/-
Props/C11Audit2.lean — property C11: the in-place steps as runs of statements, and the generator at limit 0.

The clause "next(k)/previous(k) and N+=k / N-=k … raising IndexError instead of
leaving the address space" (with the object unchanged after a refused `+=` / `-=`, and the
receiver of next()/previous() never modified) is stated in Props/C11.lean by `C11.step_failure` and
`C11.next_previous`, which hold by the shape of `Subnet.stepIadd` / by the model being a
function of `n`.  Here the four method bodies are run statement by statement
(Model/SubnetTrace.lean: compute, the two range tests in the code's order, ONE store, return; for
next()/previous() the constructor of the private copy first, then the same body on the copy), and
the theorems are about the event log of that run:

* `iadd_trace`, `isub_trace`, `next_trace`, `previous_trace` — the complete log, one of three runs;
* `inplace_store_after_tests` — a refused step raises IndexError with NO store and the receiver
  as it was; an accepted step performs exactly one store, of the exact new value, and that store
  is the last statement before `return self`;
* `copy_never_stores_receiver` — next()/previous() never store into the receiver, on any path;
* `stepRun_eq_step`, `copyRun_eq_next_previous` — the runs end in the results of the functional
  models `Subnet.stepIadd / stepIsub / next / previous`, so `C11.iadd_spec`, `isub_spec`,
  `next_previous` (closed forms in F, S, k) speak about these runs too;
* `tests_exclusive`, `inRange_iff` — the two tests cannot both fire (their order, which differs
  between `+=` and `-=`, decides nothing), and "both passed" is the property's
  `0 ≤ F ± k·S` and `F ± k·S + S ≤ 2^width`.

The driver ops `iaddT / isubT / nextT / prevT` print the observable part of these logs (stores,
per object) and the harness compares it with the stores really made on an instrumented
`IPNetwork` subclass.

`Subnet.subnetTake n q count 0` is `.ok []` whatever the arguments (the Python generator runs nothing
before the first `next()`): `subnetTake_zero`, `subnetTake_pos`.
-/
import NetaddrVerif.Props.C11
import NetaddrVerif.Lemmas.C11LTrace
namespace NV.C11A2
open NV NV.Subnet NV.Subnet.Trace NV.C11LT

/-! ### the complete logs -/

/-- `n += k` / `n -= k` on the receiver: the body from the fresh state -/
theorem run_stepProg (minus : Bool) (n : Net) (k : Int) :
    run (stepProg minus k) n = specBody .recv minus k { recv := n } n :=
  runStmts_body .recv minus k _ n rfl rfl

/-- the complete event log of `n += k`, decided by the exact `x = F + k·S`
    (`newValue false n k`).  Block above `max_int`: compute, first test fires, raise — no store.
    Below zero: compute, first test passes, second fires, raise — no store.  Otherwise: compute,
    both tests pass, one store of `x`, return. -/
theorem iadd_trace (n : Net) (k : Int) :
    (iaddRun n k).log =
      if Above n (newValue false n k) then
        [.computed .recv (newValue false n k), .testAbove .recv true, .raise .index]
      else if newValue false n k < 0 then
        [.computed .recv (newValue false n k), .testAbove .recv false, .testBelow .recv true, .raise .index]
      else
        [.computed .recv (newValue false n k), .testAbove .recv false, .testBelow .recv false,
         .store .recv (newValue false n k), .ret .recv] := by
  show (run (stepProg false k) n).log = _
  rw [run_stepProg, specBody, if_neg Bool.false_ne_true, apply_ite St.log, apply_ite St.log]
  rfl

/-- the complete event log of `n -= k`: the `< 0` test comes first here (ip/__init__.py:1139-1142) -/
theorem isub_trace (n : Net) (k : Int) :
    (isubRun n k).log =
      if newValue true n k < 0 then
        [.computed .recv (newValue true n k), .testBelow .recv true, .raise .index]
      else if Above n (newValue true n k) then
        [.computed .recv (newValue true n k), .testBelow .recv false, .testAbove .recv true, .raise .index]
      else
        [.computed .recv (newValue true n k), .testBelow .recv false, .testAbove .recv false,
         .store .recv (newValue true n k), .ret .recv] := by
  show (run (stepProg true k) n).log = _
  rw [run_stepProg, specBody, if_pos rfl, apply_ite St.log, apply_ite St.log]
  rfl

/-- the state after the first statement of next() / previous() -/
theorem run_copyProg (minus : Bool) (n : Net) (k : Int) :
    run (copyProg minus k) n =
      specBody .copy minus k { recv := n, copy := some (netCopy n), log := [.copied (netCopy n)] } (netCopy n) := by
  show runStmts (.mkCopy :: body .copy minus k) { recv := n } = _
  rw [runStmts_cons _ _ _ rfl]
  exact runStmts_body .copy minus k _ (netCopy n) rfl rfl

/-- the complete event log of `n.next(k)`: the private copy `c = (F, p)` is constructed, then
    the `+=` body runs with `self = c`; every test and the store name the copy -/
theorem next_trace (n : Net) (k : Int) :
    (nextRun n k).log =
      .copied (netCopy n) ::
      (if Above (netCopy n) (newValue false (netCopy n) k) then
        [.computed .copy (newValue false (netCopy n) k), .testAbove .copy true, .raise .index]
      else if newValue false (netCopy n) k < 0 then
        [.computed .copy (newValue false (netCopy n) k), .testAbove .copy false, .testBelow .copy true, .raise .index]
      else
        [.computed .copy (newValue false (netCopy n) k), .testAbove .copy false, .testBelow .copy false,
         .store .copy (newValue false (netCopy n) k), .ret .copy]) := by
  show (run (copyProg false k) n).log = _
  rw [run_copyProg, specBody, if_neg Bool.false_ne_true, apply_ite (List.cons _), apply_ite (List.cons _),
    apply_ite St.log, apply_ite St.log]
  rfl

theorem previous_trace (n : Net) (k : Int) :
    (prevRun n k).log =
      .copied (netCopy n) ::
      (if newValue true (netCopy n) k < 0 then
        [.computed .copy (newValue true (netCopy n) k), .testBelow .copy true, .raise .index]
      else if Above (netCopy n) (newValue true (netCopy n) k) then
        [.computed .copy (newValue true (netCopy n) k), .testBelow .copy false, .testAbove .copy true, .raise .index]
      else
        [.computed .copy (newValue true (netCopy n) k), .testBelow .copy false, .testAbove .copy false,
         .store .copy (newValue true (netCopy n) k), .ret .copy]) := by
  show (run (copyProg true k) n).log = _
  rw [run_copyProg, specBody, if_pos rfl, apply_ite (List.cons _), apply_ite (List.cons _),
    apply_ite St.log, apply_ite St.log]
  rfl

/-! ### what the logs say -/

/-- "the step is accepted": neither test fires -/
def InRange (n : Net) (nv : Int) : Prop := ¬ Above n nv ∧ 0 ≤ nv

instance (n : Net) (nv : Int) : Decidable (InRange n nv) := by unfold InRange; infer_instance

theorem not_inRange {n : Net} {x : Int} (h : ¬ InRange n x) : Above n x ∨ x < 0 :=
  Decidable.or_iff_not_imp_left.mpr fun hA => Int.not_le.mp fun h0 => h ⟨hA, h0⟩

/-- `n += k` / `n -= k`: no store on a refused step, exactly one — the last statement before
    `return self` — on an accepted one.  For both operators, every receiver (well-formed or
    not) and every `k`, with `x = newValue minus n k`:
    * the run always ends (`return` or `raise`), and never touches a second object;
    * if a test fires, the outcome is IndexError, the log contains NO store, the receiver is the
      object the statement started with;
    * if both pass, the log is `pre ++ [store x, return self]` with no store in `pre`, the
      receiver now holds `x` (version and prefix as before), and the receiver is what is returned. -/
theorem inplace_store_after_tests (minus : Bool) (n : Net) (k : Int) :
    let st := run (stepProg minus k) n
    let x := newValue minus n k
    st.copy = none ∧
    (¬ InRange n x → st.out = some (.error .index) ∧ stores st.log = [] ∧ st.recv = n) ∧
    (InRange n x → st.out = some (.ok .recv) ∧ st.recv = { n with val := x.toNat } ∧
      stores st.log = [(.recv, x)] ∧
      ∃ pre, st.log = pre ++ [.store .recv x, .ret .recv] ∧ stores pre = []) := by
  intro st x
  have hst : st = _ := run_stepProg minus n k
  by_cases hr : InRange n x
  · obtain ⟨pre, he, hp, hs⟩ := specBody_accepted .recv minus k { recv := n } n rfl hr.1 (Int.not_lt.mpr hr.2)
    rw [hst, he]
    exact ⟨rfl, fun h => absurd hr h, fun _ => ⟨rfl, rfl, hs, pre, rfl, hp⟩⟩
  · obtain ⟨l, he, hl⟩ := specBody_refused .recv minus k { recv := n } n rfl (not_inRange hr)
    rw [hst, he]
    exact ⟨rfl, fun _ => ⟨rfl, hl, rfl⟩, fun h => absurd h hr⟩

/-- next() / previous() never store into the receiver.  For every receiver (host bits or
    not), every `k`, on the accepted and on both refused paths, with `c = (F, p)` the private copy
    and `x = newValue minus c k`:
    * the receiver is afterwards the object it was, and no `store` event of the log names it;
    * the only store (apart from the copy's own constructor) is the single `c._value = x` of an
      accepted step — none when the step is refused (IndexError);
    * an accepted call returns the copy, which holds `x`. -/
theorem copy_never_stores_receiver (minus : Bool) (n : Net) (k : Int) :
    let st := run (copyProg minus k) n
    let c := netCopy n
    let x := newValue minus c k
    st.recv = n ∧ (∀ s ∈ stores st.log, s.1 = .copy) ∧
    (¬ InRange c x → st.out = some (.error .index) ∧ stores st.log = [] ∧ st.copy = some c) ∧
    (InRange c x → st.out = some (.ok .copy) ∧ st.copy = some { c with val := x.toNat } ∧
      stores st.log = [(.copy, x)] ∧
      ∃ pre, st.log = pre ++ [.store .copy x, .ret .copy] ∧ stores pre = []) := by
  intro st c x
  have hst : st = _ := run_copyProg minus n k
  by_cases hr : InRange c x
  · obtain ⟨pre, he, hp, hs⟩ := specBody_accepted .copy minus k
      { recv := n, copy := some c, log := [.copied c] } c rfl hr.1 (Int.not_lt.mpr hr.2)
    rw [hst, he]
    dsimp only
    rw [hs]
    exact ⟨rfl, fun s hm => congrArg Prod.fst (List.mem_singleton.mp hm), fun h => absurd hr h,
      fun _ => ⟨rfl, rfl, rfl, pre, rfl, hp⟩⟩
  · obtain ⟨l, he, hl⟩ := specBody_refused .copy minus k
      { recv := n, copy := some c, log := [.copied c] } c rfl (not_inRange hr)
    rw [hst, he]
    dsimp only
    rw [hl]
    exact ⟨rfl, nofun, fun _ => ⟨rfl, rfl, rfl⟩, fun h => absurd h hr⟩

/-! ### `+=` / `-=` as their two tests (`Subnet.iadd_tests`, `isub_tests` of Lemmas/C11L) -/

theorem iadd_eq (n : Net) (k : Int) :
    iadd n k = if Above n (newValue false n k) then .error .index
               else if newValue false n k < 0 then .error .index
               else .ok { n with val := (newValue false n k).toNat } := iadd_tests n k

theorem isub_eq (n : Net) (k : Int) :
    isub n k = if newValue true n k < 0 then .error .index
               else if Above n (newValue true n k) then .error .index
               else .ok { n with val := (newValue true n k).toNat } := isub_tests n k

/-! ### the runs end where the functional models end -/

/-- the statement-level runs of `n += k` / `n -= k` end with the receiver and the exception of
    `Subnet.stepIadd` / `Subnet.stepIsub` (the functions behind the driver ops `iadd` / `isub`
    and behind `C11.iadd_spec`, `isub_spec`, `step_failure`) -/
theorem stepRun_eq_step (n : Net) (k : Int) :
    (iaddRun n k).stepResult = stepIadd n k ∧ (isubRun n k).stepResult = stepIsub n k := by
  constructor
  · show (run (stepProg false k) n).stepResult = _
    rw [run_stepProg, stepIadd, iadd_tests, specBody, if_neg Bool.false_ne_true, apply_ite St.stepResult,
      apply_ite St.stepResult]
    split
    · rfl
    · split <;> rfl
  · show (run (stepProg true k) n).stepResult = _
    rw [run_stepProg, stepIsub, isub_tests, specBody, if_pos rfl, apply_ite St.stepResult, apply_ite St.stepResult]
    split
    · rfl
    · split <;> rfl

/-- the statement-level runs of `n.next(k)` / `n.previous(k)` return what `Subnet.next` /
    `Subnet.previous` return (the functions behind the driver ops `next` / `prev` and behind
    `C11.next_previous`), and leave the receiver as it was -/
theorem copyRun_eq_next_previous (n : Net) (k : Int) :
    (nextRun n k).result = (next n k, n) ∧ (prevRun n k).result = (previous n k, n) := by
  constructor
  · show (run (copyProg false k) n).result = _
    rw [run_copyProg, next, iadd_tests, specBody, if_neg Bool.false_ne_true, apply_ite St.result, apply_ite St.result,
      apply_ite (fun r => (r, n)), apply_ite (fun r => (r, n))]
    rfl
  · show (run (copyProg true k) n).result = _
    rw [run_copyProg, previous, isub_tests, specBody, if_pos rfl, apply_ite St.result, apply_ite St.result,
      apply_ite (fun r => (r, n)), apply_ite (fun r => (r, n))]
    rfl

/-! ### the tests in the property's terms -/

/-- the two tests cannot both fire on a well-formed network (the block size is at most
    `max_int + 1`), so their order — `> max_int` first in `__iadd__`, `< 0` first in `__isub__` —
    decides neither the outcome nor the exception class -/
theorem tests_exclusive (n : Net) (hn : n.WF) (x : Int) : ¬ (Above n x ∧ x < 0) := by
  have hle := pow_sub_le (width n.ver) n.plen
  rw [above_iff n hn]
  omega

/-- "both tests pass" is the acceptance condition of `C11.iadd_spec` / `isub_spec`: with `S` the
    block size and `F` the network address, `0 ≤ F ± k·S` and `F ± k·S + S ≤ 2^width`; and
    `newValue` is that `F ± k·S` -/
theorem inRange_iff (minus : Bool) (n : Net) (hn : n.WF) (k : Int) :
    let S : Int := ((2 ^ (width n.ver - n.plen) : Nat) : Int)
    let F : Int := (n.first : Nat)
    newValue minus n k = (if minus then F - S * k else F + S * k) ∧
    (InRange n (newValue minus n k) ↔
      0 ≤ newValue minus n k ∧ newValue minus n k + S ≤ ((2 ^ width n.ver : Nat) : Int)) := by
  intro S F
  exact ⟨newValue_eq minus n hn k, (and_congr_right fun _ => Int.not_lt.symm).trans (step_tests n hn _)⟩

/-! ### non-vacuity: an accepted step, a step refused above, a step refused below — logs,
results, and the hypotheses of the theorems above -/

example :
    (iaddRun ⟨4, 0xC0000205, 28⟩ 1).log =
      [.computed .recv 0xC0000210, .testAbove .recv false, .testBelow .recv false,
       .store .recv 0xC0000210, .ret .recv] ∧
    (iaddRun ⟨4, 0xC0000205, 28⟩ 1).stepResult = (⟨4, 0xC0000210, 28⟩, none) ∧
    (iaddRun ⟨4, 0xFFFFFFF5, 28⟩ 1).log =
      [.computed .recv 0x100000000, .testAbove .recv true, .raise .index] ∧
    (iaddRun ⟨4, 0xFFFFFFF5, 28⟩ 1).stepResult = (⟨4, 0xFFFFFFF5, 28⟩, some .index) ∧
    (isubRun ⟨6, 5, 126⟩ 2).log = [.computed .recv (-4), .testBelow .recv true, .raise .index] ∧
    (isubRun ⟨6, 5, 126⟩ (-1)).log =
      [.computed .recv 8, .testBelow .recv false, .testAbove .recv false, .store .recv 8, .ret .recv] := by
  decide +kernel

example :
    (nextRun ⟨4, 0xC0000205, 28⟩ 2).log =
      [.copied ⟨4, 0xC0000200, 28⟩, .computed .copy 0xC0000220, .testAbove .copy false,
       .testBelow .copy false, .store .copy 0xC0000220, .ret .copy] ∧
    (nextRun ⟨4, 0xC0000205, 28⟩ 2).result = (.ok ⟨4, 0xC0000220, 28⟩, ⟨4, 0xC0000205, 28⟩) ∧
    (prevRun ⟨4, 5, 28⟩ 1).log =
      [.copied ⟨4, 0, 28⟩, .computed .copy (-16), .testBelow .copy true, .raise .index] ∧
    (prevRun ⟨4, 5, 28⟩ 1).result = (.error .index, ⟨4, 5, 28⟩) ∧
    (nextRun ⟨4, 0xC0000205, 28⟩ 2).log.filterMap Ev.observable =
      ["c:wv:3221225984,c:wp:28,c:wm", "c:wv:3221226016"] := by
  decide +kernel

/-- both sides of `InRange` occur -/
example : InRange ⟨4, 0xC0000205, 28⟩ (newValue false ⟨4, 0xC0000205, 28⟩ 1) ∧
    ¬ InRange ⟨4, 0xFFFFFFF5, 28⟩ (newValue false ⟨4, 0xFFFFFFF5, 28⟩ 1) ∧
    ¬ InRange ⟨6, 5, 126⟩ (newValue true ⟨6, 5, 126⟩ 2) := by decide +kernel

/-- a body that stored BEFORE testing is a different statement list with a different log: the
    store shows in front of the tests and the receiver has moved although IndexError is raised —
    this is what `inplace_store_after_tests` excludes for the code's order -/
example :
    let st := run [.compute .recv false 1, .store .recv, .ifAboveRaise .recv, .ifBelowRaise .recv, .ret .recv]
      ⟨4, 0xFFFFFFF5, 28⟩
    stores st.log = [(.recv, 0x100000000)] ∧ st.out = some (.error .index) ∧ st.recv ≠ ⟨4, 0xFFFFFFF5, 28⟩ := by
  decide +kernel

/-! ### the generator at `limit = 0` -/

/-- `list(islice(n.subnet(q, count), 0))` is `[]` whatever the arguments — a generator body
    does not run before the first `next()`, so neither the prefix check, nor the count check, nor
    the loop is reached (ip/__init__.py:1295-1334; e.g.
    `list(islice(IPNetwork('10.0.0.0/24').subnet(25, 99), 0)) == []`).  No well-formedness
    hypothesis. -/
theorem subnetTake_zero (n : Net) (q : Int) (count : Option Int) : subnetTake n q count 0 = .ok [] := by
  unfold subnetTake; rw [if_pos rfl]

/-- with at least one item asked for, the checks run first (at the first `next()`), then the
    loop for `min count limit` turns -/
theorem subnetTake_pos (n : Net) (q : Int) (count : Option Int) (limit : Nat) (h : 0 < limit) :
    subnetTake n q count limit =
      match subnetCount n q count with
      | .error e => .error e
      | .ok none => .ok []
      | .ok (some c) => subnetLoop n q.toNat (min c limit) 0 [] := by
  unfold subnetTake; rw [if_neg (by omega)]
  cases subnetCount n q count with
  | error e => rfl
  | ok o => cases o <;> rfl

/-- the count that `C11.subnetTake_spec` rejects with `ValueError` for every positive limit goes
    unnoticed at limit 0 -/
example : subnetTake ⟨4, 0x0A000000, 24⟩ 25 (some 99) 0 = .ok [] ∧
    subnetTake ⟨4, 0x0A000000, 24⟩ 25 (some 99) 1 = .error .value ∧
    subnetTake ⟨4, 0x0A000000, 24⟩ 25 (some 2) 1 = .ok [⟨4, 0x0A000000, 25⟩] := by decide +kernel

end NV.C11A2
