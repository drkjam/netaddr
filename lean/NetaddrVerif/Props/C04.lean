/-
Props/C04.lean — property C04 "Containment and CIDR matching are exactly interval inclusion".
Property theorems only; helper lemmas are in Lemmas/C04L.lean and Lemmas/C04M.lean.

Statement (properties.jsonl): for every pair of same-or-different-kind objects, `x in y`
(x an address, network, range, glob or their string forms; y a network, range or glob) is
True exactly when both have the same IP version and y.first <= x.first and x.last <= y.last,
and it never raises for valid objects.  all_matching_cidrs returns exactly the candidate
networks that contain the address, ordered from least to most specific; largest_/
smallest_matching_cidr return the least / most specific of them, or None when there is none.

String operands are converted by `IPNetwork(other)` / `IPAddress(other)` before the same
code runs (C01/C03); an `IPGlob` is an `IPRange` (subclass, inherited `__contains__`).
-/
import NetaddrVerif.Lemmas.C04M
namespace NV.C04
open NV NV.Contains

/-- `IPListMixin.__contains__` is interval inclusion for every kind of operand. -/
theorem mixinContains_iff (y : Cont) (x : Obj) :
    mixinContains y x = true ↔ (x.ver = y.ver ∧ y.first ≤ x.first ∧ x.last ≤ y.last) := by
  unfold mixinContains
  refine ver_guard (fun _ => ?_)
  cases x <;> simp only [Bool.and_eq_true, decide_eq_true_eq, ge_iff_le] <;> exact Iff.rfl

/-- **C04, containment.**  For every container `y` (network with any host bits and any
    prefix, range, glob) and every operand `x` (address, network, range, glob) — all nine
    kind combinations, both through the class's own `__contains__` and through
    `IPListMixin.__contains__` — `x in y` is `True` exactly when both have the same IP version
    and `y.first <= x.first` and `x.last <= y.last`.  The model functions are total `Bool`
    functions without an error branch: the modelled code paths contain no `raise`, which is
    the "never raises for valid objects" part. -/
theorem contains_iff (y : Cont) (x : Obj) (hy : y.WF) (hx : x.WF) :
    (contains y x = true ↔ (x.ver = y.ver ∧ y.first ≤ x.first ∧ x.last ≤ y.last)) ∧
    (mixinContains y x = true ↔ (x.ver = y.ver ∧ y.first ≤ x.first ∧ x.last ≤ y.last)) :=
  ⟨contains_own_iff y x hy hx, mixinContains_iff y x⟩

/-- non-vacuity: the witness of the defect fixed by 4a3aa59 (F1 in DESIGN.md's table of findings: a network ending
    exactly at the range end) and its neighbours -/
example : contains (.rng ⟨4, 167772160, 167772415⟩) (.net ⟨4, 167772165, 24⟩) = true := by decide
example : contains (.rng ⟨4, 167772160, 167772414⟩) (.net ⟨4, 167772165, 24⟩) = false := by decide
example : contains (.net ⟨4, 167772165, 24⟩) (.rng ⟨4, 167772160, 167772415⟩) = true := by decide
example : contains (.net ⟨4, 167772165, 24⟩) (.rng ⟨4, 167772160, 167772416⟩) = false := by decide
example : contains (.net ⟨4, 167772165, 24⟩) (.net ⟨4, 167772165, 23⟩) = false := by decide
example : contains (.net ⟨6, 1, 128⟩) (.addr ⟨4, 1⟩) = false := by decide
example : (Cont.net ⟨4, 167772165, 24⟩).WF ∧ (Obj.rng ⟨4, 167772160, 167772415⟩).WF := by
  refine ⟨⟨Or.inl rfl, by decide, by decide⟩, ⟨Or.inl rfl, by decide, by decide⟩⟩

theorem netContains_iff (y : Net) (x : Obj) (hy : y.WF) (hx : x.WF) :
    netContains y x = true ↔ (x.ver = y.ver ∧ y.first ≤ x.first ∧ x.last ≤ y.last) :=
  Contains.netContains_iff y x hy hx
theorem rngContains_iff (y : Rng) (x : Obj) (hx : x.WF) :
    rngContains y x = true ↔ (x.ver = y.ver ∧ y.lo ≤ x.first ∧ x.last ≤ y.hi) :=
  Contains.rngContains_iff y x hx

/-- `sorted()` by `sort_key` really sorts: the output
    is a pairwise-ordered permutation of the input (what the early exit relies on) -/
theorem sorted_spec (l : List Net) :
    (sortNets l).Perm l ∧ (sortNets l).Pairwise (fun a b => tupleLe a.sortKey b.sortKey = true) :=
  ⟨sortNets_perm l, sortNets_pairwise l⟩

/-- **The early `break` is sound**: the scan of `all_matching_cidrs` over the sorted
    candidates, with its early exit, returns exactly the sorted candidates that contain the
    address — for every finite candidate list in any order (nested, overlapping, disjoint,
    duplicated, mixed-version, with host bits). -/
theorem all_matching_eq_filter (ip : Addr) (cidrs : List Net) (hip : ip.WF) (hc : ∀ c ∈ cidrs, c.WF) :
    allMatching ip cidrs = (sortNets cidrs).filter (fun c => netContains c (.addr ip)) := by
  unfold allMatching
  rw [allLoop_eq ip hip (sortNets cidrs) [] (fun c h => hc c ((sortNets_perm cidrs).mem_iff.1 h))
    (sortNets_pairwise cidrs) (by intro m hm; simp at hm)]
  rfl

/-- **C04, matching.**  `all_matching_cidrs(ip, cidrs)`
    * contains a network exactly when it is a candidate of the address's version whose
      `[first, last]` contains the address,
    * with the multiplicity it has among the candidates (a permutation of the matching
      candidates),
    * ordered from least to most specific (prefix lengths non-decreasing; and in `sort_key`
      order). -/
theorem all_matching_spec (ip : Addr) (cidrs : List Net) (hip : ip.WF) (hc : ∀ c ∈ cidrs, c.WF) :
    (∀ c, c ∈ allMatching ip cidrs ↔ (c ∈ cidrs ∧ ip.ver = c.ver ∧ c.first ≤ ip.val ∧ ip.val ≤ c.last)) ∧
    (allMatching ip cidrs).Perm (cidrs.filter (fun c => netContains c (.addr ip))) ∧
    (allMatching ip cidrs).Pairwise (fun a b => a.plen ≤ b.plen) ∧
    (allMatching ip cidrs).Pairwise (fun a b => tupleLe a.sortKey b.sortKey = true) := by
  rw [all_matching_eq_filter ip cidrs hip hc]
  have hmem : ∀ c, c ∈ sortNets cidrs ↔ c ∈ cidrs := fun c => (sortNets_perm cidrs).mem_iff
  refine ⟨?_, (sortNets_perm cidrs).filter _, ?_, (sortNets_pairwise cidrs).filter _⟩
  · intro c
    rw [List.mem_filter, hmem]
    exact and_congr_right fun h1 => hit_iff ip c (hc c h1) hip
  · refine List.Pairwise.imp_of_mem ?_ ((sortNets_pairwise cidrs).filter _)
    intro a b ha hb hab
    rw [List.mem_filter, hmem] at ha hb
    exact plen_le_of_hits ip a b (hc a ha.1) (hc b hb.1) hip ha.2 hb.2 hab

/-- `largest_matching_cidr` is the first, `smallest_matching_cidr` the last element of
    `all_matching_cidrs` (hence the least / most specific matching candidate), and both are
    `None` exactly when no candidate contains the address. -/
theorem smallest_largest_spec (ip : Addr) (cidrs : List Net) (hip : ip.WF) (hc : ∀ c ∈ cidrs, c.WF) :
    largestMatching ip cidrs = (allMatching ip cidrs).head? ∧
    smallestMatching ip cidrs = (allMatching ip cidrs).getLast? ∧
    (largestMatching ip cidrs = none ↔ allMatching ip cidrs = []) ∧
    (smallestMatching ip cidrs = none ↔ allMatching ip cidrs = []) ∧
    (∀ m, largestMatching ip cidrs = some m → m ∈ allMatching ip cidrs ∧ ∀ c ∈ allMatching ip cidrs, m.plen ≤ c.plen) ∧
    (∀ m, smallestMatching ip cidrs = some m → m ∈ allMatching ip cidrs ∧ ∀ c ∈ allMatching ip cidrs, c.plen ≤ m.plen) := by
  have hl : largestMatching ip cidrs = (allMatching ip cidrs).head? := by
    rw [all_matching_eq_filter ip cidrs hip hc]; exact largeLoop_eq ip _
  have hs : smallestMatching ip cidrs = (allMatching ip cidrs).getLast? := smallLoop_eq ip (sortNets cidrs) []
  have hp := (all_matching_spec ip cidrs hip hc).2.2.1
  exact ⟨hl, hs, hl ▸ List.head?_eq_none_iff, hs ▸ List.getLast?_eq_none_iff,
    fun m hm => head?_pairwise hp (fun _ => Nat.le_refl _) (hl ▸ hm),
    fun m hm => getLast?_pairwise hp (fun _ => Nat.le_refl _) (hs ▸ hm)⟩

/-- **The order of the candidates does not matter**: permuting (shuffling) the candidate list
    changes none of the three results (`sort_key` ties are equal objects, so `sorted()` of two
    permutations is the same list). -/
theorem order_invariant (ip : Addr) (cidrs cidrs' : List Net) (h : cidrs.Perm cidrs') :
    allMatching ip cidrs = allMatching ip cidrs' ∧
    smallestMatching ip cidrs = smallestMatching ip cidrs' ∧
    largestMatching ip cidrs = largestMatching ip cidrs' := by
  unfold allMatching smallestMatching largestMatching
  rw [sortNets_perm_eq cidrs cidrs' h]
  exact ⟨rfl, rfl, rfl⟩

/-- non-vacuity: the scan loops on a `sort_key`-ordered candidate list (nested chain, a
    non-matching sibling between and after the matches, another family last): the early exit
    fires at `10.0.1.0/24` and skips the IPv6 candidate (`sorted()` itself is well-founded
    recursion and does not unfold under `decide`; `sorted_spec` covers it) -/
example : allLoop ⟨4, 167772161⟩ [⟨4, 167772165, 8⟩, ⟨4, 167772160, 24⟩, ⟨4, 167772160, 32⟩, ⟨4, 167772161, 32⟩,
    ⟨4, 167772416, 24⟩, ⟨6, 1, 0⟩] [] = [⟨4, 167772165, 8⟩, ⟨4, 167772160, 24⟩, ⟨4, 167772161, 32⟩] := by decide
example : smallLoop ⟨4, 167772161⟩ [⟨4, 167772165, 8⟩, ⟨4, 167772160, 24⟩, ⟨4, 167772416, 24⟩] none =
    some ⟨4, 167772160, 24⟩ := by decide
example : largeLoop ⟨4, 167772161⟩ [⟨4, 167772165, 8⟩, ⟨4, 167772160, 24⟩, ⟨4, 167772416, 24⟩] =
    some ⟨4, 167772165, 8⟩ := by decide
example : largeLoop ⟨4, 5⟩ [⟨4, 167772416, 24⟩] = none := by decide
example : (⟨4, 167772161⟩ : Addr).WF ∧ ∀ c ∈ [(⟨4, 167772165, 8⟩ : Net), ⟨4, 167772160, 24⟩, ⟨6, 1, 0⟩], c.WF := by
  refine ⟨⟨Or.inl rfl, by decide⟩, ?_⟩
  intro c hc
  simp only [List.mem_cons, List.mem_nil_iff, or_false] at hc
  rcases hc with rfl | rfl | rfl
  · exact ⟨Or.inl rfl, by decide, by decide⟩
  · exact ⟨Or.inl rfl, by decide, by decide⟩
  · exact ⟨Or.inr rfl, by decide, by decide⟩

end NV.C04
