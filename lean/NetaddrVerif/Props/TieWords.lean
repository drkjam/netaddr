/-
Props/TieWords.lean — translation tie for the generic word codecs of netaddr/strategy/__init__.py
(C15): `valid_words`, `int_to_words`, `words_to_int` — three `for` loops over a count / a list /
an enumerated reversed list — translated from the current source text and proved equal to
`Codec.validWordsZ`, `Codec.intToWords`, `Codec.wordsToInt`.
-/
import NetaddrVerif.Gen.Trans
import NetaddrVerif.Lemmas.TieL
import NetaddrVerif.Model.Codec
import NetaddrVerif.Props.C15Deep
namespace NV.Tie
open NV NV.Trans NV.Codec

/-- the `for` loop of `valid_words`; `words`, `nw` (and `mi` in `words_loop`) are parameters the generated loops
    thread through and never read -/
theorem valid_loop (ws : Nat) (words : List Int) (nw : Int) : ∀ items : List Int,
    valid_words_loop1 items words (ws : Int) nw ((2 ^ ws - 1 : Nat) : Int) =
      items.all (fun i => decide (0 ≤ i ∧ i ≤ (2 : Int) ^ ws - 1)) := by
  intro items
  induction items with
  | nil => simp only [valid_words_loop1, decide_true, List.all_nil]
  | cons x t ih =>
    rw [valid_words_loop1, ih, ← Py.two_pow_sub_one, List.all_cons]
    by_cases h : 0 ≤ x ∧ x ≤ (2 : Int) ^ ws - 1
    · rw [if_neg (not_not_intro h), decide_eq_true h, Bool.true_and]
    · rw [if_pos h, decide_eq_false h, Bool.false_and]
      rfl

theorem valid_words_eq (words : List Int) (ws nw : Nat) :
    valid_words words (ws : Int) (nw : Int) = validWordsZ words ws nw := by
  simp only [tie_unfold, validWordsZ]
  rw [Py.pow_sub_one, valid_loop]
  by_cases h : words.length = nw
  · rw [if_neg (not_not_intro (congrArg Nat.cast h)), beq_iff_eq.2 h, Bool.true_and]
  · rw [if_pos fun e => h (Int.natCast_inj.1 e), beq_false_of_ne h, Bool.false_and]
    rfl

def liftI (l : List Nat) : List Int := l.map (fun (n : Nat) => (n : Int))

/-- the `for _ in range(num_words)` loop of `int_to_words`: the words come out low end first, `acc` holds those emitted -/
theorem words_loop (ws : Nat) (nw mi : Int) : ∀ (cnt v : Nat) (acc : List Nat),
    int_to_words_loop1 cnt (v : Int) (ws : Int) nw (liftI acc) mi ((2 ^ ws - 1 : Nat) : Int) =
      .ok (liftI (acc ++ wordsLoop ws cnt v)).reverse := by
  intro cnt
  induction cnt with
  | zero => intro v acc; simp only [int_to_words_loop1, wordsLoop, List.append_nil]
  | succ cnt ih =>
    intro v acc
    rw [int_to_words_loop1]
    simp only [Py.iand_ofNat]
    have ha : liftI acc ++ [((v &&& (2 ^ ws - 1) : Nat) : Int)] = liftI (acc ++ [v &&& (2 ^ ws - 1)]) :=
      (List.map_append (l₂ := [v &&& (2 ^ ws - 1)])).symm
    rw [Py.shr_natCast, ha, ih (v >>> ws) (acc ++ [v &&& (2 ^ ws - 1)])]
    simp only [List.append_assoc, List.cons_append, List.nil_append, wordsLoop]

def liftRL : R (List Nat) → R (List Int)
  | .ok l => .ok (liftI l)
  | .error e => .error e

theorem int_to_words_eq (v ws nw : Nat) :
    int_to_words (v : Int) (ws : Int) (nw : Int) = liftRL (intToWords v ws nw) := by
  simp only [tie_unfold, intToWords]
  have em : ((nw : Int) * (ws : Int)) = ((nw * ws : Nat) : Int) := by push_cast; rfl
  rw [em, Py.pow_sub_one, Py.pow_sub_one]
  have hw := words_loop ws (nw : Int) ((2 ^ (nw * ws) - 1 : Nat) : Int) nw v []
  rw [ite_not, Int.toNat_natCast]
  refine Py.ite_eq (·) liftRL Py.guard_natCast (fun _ => hw.trans ?_) fun _ => rfl
  simp only [liftRL, liftI, List.nil_append, List.map_reverse]

/-- the `for i, num in enumerate(reversed(words))` loop of `words_to_int`: word `i` is or-ed in at bit `ws * i` -/
theorem or_loop (ws : Nat) (words : List Int) (nw : Int) : ∀ (l : List Nat) (i acc : Nat),
    words_to_int_loop1 (liftI l) (i : Int) words (ws : Int) nw (acc : Int) = .ok ((orShift ws l i acc : Nat) : Int) := by
  intro l
  induction l with
  | nil => intro i acc; simp only [liftI, List.map_nil, words_to_int_loop1, orShift]
  | cons x t ih =>
    intro i acc
    simp only [liftI, List.map_cons]
    rw [words_to_int_loop1]
    have em : ((ws : Int) * (i : Int)) = ((ws * i : Nat) : Int) := by push_cast; rfl
    have e1 : ((i : Int) + 1) = ((i + 1 : Nat) : Int) := by push_cast; rfl
    simp only [em, Py.shl_natCast, Py.ior_ofNat, e1]
    exact ih (i + 1) (acc ||| x <<< (ws * i))

theorem validZ_lift (l : List Nat) (ws nw : Nat) : validWordsZ (liftI l) ws nw = validWords l ws nw :=
  C15.validWordsZ_natCast l ws nw

def liftRI : R Nat → R Int
  | .ok n => .ok (n : Int)
  | .error e => .error e

theorem words_to_int_eq (words : List Nat) (ws nw : Nat) :
    words_to_int (liftI words) (ws : Int) (nw : Int) = liftRI (wordsToInt words ws nw) := by
  unfold words_to_int wordsToInt
  rw [valid_words_eq, validZ_lift]
  rw [ite_not]
  refine Py.ite_eq (·) liftRI Iff.rfl (fun _ => ?_) fun _ => rfl
  have hr : (liftI words).reverse = liftI words.reverse := List.map_reverse.symm
  rw [hr]
  exact or_loop ws (liftI words) (nw : Int) words.reverse 0 0

example : int_to_words 0xC0A80105 8 4 = .ok [192, 168, 1, 5] ∧ words_to_int [192, 168, 1, 5] 8 4 = .ok 0xC0A80105 ∧
    words_to_int [192, 168, 1, 256] 8 4 = .error .value ∧ int_to_words (2 ^ 32) 8 4 = .error .index := by decide

end NV.Tie
