/-
Props/C20.lean — property C20 "SubnetSplitter never hands out overlapping space".
The property theorems and the definitions they are stated with; lemmas are in Lemmas/C20L, C20L2
(which build on C09 and C11).

Statement (properties.jsonl): over any sequence of extract_subnet and remove_subnet calls on a
SubnetSplitter, every subnet ever returned has the requested prefix, lies inside the base network
and is disjoint from every subnet returned or removed before; at every point the subnets handed
out plus available_subnets() tile the base network exactly, with no overlap and no gap.  A
request that cannot be met returns [] or raises ValueError and leaves the available space
unchanged.

Vocabulary (Lemmas/C20L, C20L2): `nmem n a` = address `a` lies in `first..last` of `n`; `Dj` = two
networks share no address; `Cov l` = union of a list; `Tiling b s g` = the free blocks `s` and the
blocks handed out or removed so far `g` are networks of the base's family, pairwise disjoint, and
cover exactly the base `b`.

The one ingredient not proved in this file is the exactness of `cidr_merge`, which is property
C05's subject.  It enters as the hypothesis `MergeExact` (the merged blocks are networks of the
family and have the same union as the inputs — Props/C05 `merge_wf` + `merge_den`); every theorem
that needs it is named `…_partial` and says so.  Everything else (selection loop, `subnet()`,
repeated `cidr_exclude`, set union, removal, iteration order) is proved here for every history.
-/
import NetaddrVerif.Lemmas.C20L2
namespace NV.C20
open NV NV.Splitter NV.C20L

/-- `available_subnets()` is a rearrangement of the free set (nothing is invented or lost by the
    sort) -/
theorem available_is_state (s : List Net) : (availableSubnets s).Perm s := List.mergeSort_perm _ _

/-- the blocks handed out or removed so far, after one more call (ghost state of the history) -/
def gone (s g : List Net) (op : Op) : List Net :=
  match op, (step s op).2 with
  | .extract _ _ _, .ok subs => subs ++ g
  | .remove x, .ok _ =>
    match s.find? (keyEq x) with
    | some y => y :: g
    | none => g
  | _, _ => g

/-- what one call must satisfy, given the blocks `g` handed out or removed before it -/
def StepFacts (b : Net) (s g : List Net) (op : Op) : Prop :=
  match op, (step s op).2 with
  | .extract pfx _ _, .ok subs =>
    (∀ x ∈ subs, (x.plen : Int) = pfx ∧ x.ver = b.ver ∧ x.val % 2 ^ (width b.ver - x.plen) = 0 ∧
        (∀ a, nmem x a → nmem b a) ∧ (∀ y ∈ g, Dj x y)) ∧
      subs.Pairwise Dj ∧ (subs = [] → (step s op).1.Perm s)
  | .extract pfx _ _, .error e => (step s op).1.Perm s ∧ (pfx ≤ (width b.ver : Nat) → e = .value)
  | .remove x, .ok _ => (∃ y ∈ s, keyEq x y = true) ∧ (step s op).1 = s.eraseP (keyEq x)
  | .remove x, .error e => e = .key ∧ (step s op).1 = s ∧ ¬ ∃ y ∈ s, keyEq x y = true

/-- the invariant and the per-call facts along a whole history -/
def AllGood (b : Net) : List Net → List Net → List Op → Prop
  | s, g, [] => Tiling b s g
  | s, g, op :: ops => Tiling b s g ∧ StepFacts b s g op ∧ AllGood b (step s op).1 (gone s g op) ops

theorem init_tiling (b : Net) (hb : b.WF) : Tiling b (init b) [] := by
  refine ⟨?_, ?_, ?_⟩
  · intro n hn
    simp only [init, List.append_nil, List.mem_singleton] at hn
    subst hn; exact ⟨rfl, hb.2.1, hb.2.2⟩
  · simp [init]
  · intro a; simp [init, Cov]

/-- the returned blocks of a tiling are inside the base and disjoint from everything else in it -/
theorem returned_facts (b : Net) (s' subs g : List Net) (ht : Tiling b s' (subs ++ g)) :
    (∀ x ∈ subs, x.ver = b.ver ∧ (∀ a, nmem x a → nmem b a) ∧ (∀ y ∈ g, Dj x y) ∧ (∀ y ∈ s', Dj x y)) ∧
    subs.Pairwise Dj := by
  have hd := ht.disj
  rw [List.pairwise_append, List.pairwise_append] at hd
  obtain ⟨_, ⟨hsubs, _, hsg⟩, hcross⟩ := hd
  refine ⟨?_, hsubs⟩
  intro x hx
  refine ⟨(ht.ok x (by simp [hx])).1, ?_, fun y hy => hsg x hx y hy, ?_⟩
  · intro a ha
    exact (ht.cover a).2 ⟨x, by simp [hx], ha⟩
  · intro y hy
    exact dj_symm (hcross y hy x (by simp [hx]))

/-- **one extract_subnet call** (needs `cidr_merge` exactness, C05): the invariant is preserved
    with the returned blocks added to the handed-out list, every returned block has the
    requested prefix, no host bits, lies inside the base and is disjoint from everything handed
    out or removed before; `[]` or an error leave the available space unchanged (up to the
    unobservable iteration order), and the only error for a prefix within the width is ValueError. -/
theorem extract_step_partial (hM : MergeExact) (b : Net) (hb : b.WF) (s g : List Net) (ht : Tiling b s g)
    (pfx : Int) (count : Option Int) (hint : Option Net) :
    Tiling b (step s (.extract pfx count hint)).1 (gone s g (.extract pfx count hint)) ∧
    StepFacts b s g (.extract pfx count hint) := by
  have hperm := reorder_perm s hint
  have ht' : Tiling b (reorder s hint) g := tiling_of_perm (hperm.append_right g) ht
  have hspec := extractLoop_spec hM b hb (reorder s hint) g ht' pfx count
    (availableSubnets (reorder s hint)) (fun c hc => (available_is_state _).mem_iff.1 hc)
  unfold StepFacts gone
  simp only [step, extractSubnet]
  cases hx : extractLoop (reorder s hint) pfx count (availableSubnets (reorder s hint)) with
  | error e =>
    simp only
    exact ⟨ht', hperm, hspec.2 e hx⟩
  | ok r =>
    obtain ⟨subs, s'⟩ := r
    simp only
    obtain ⟨h1, h2, h3⟩ := hspec.1 subs s' hx
    obtain ⟨hr1, hr2⟩ := returned_facts b s' subs g h1
    refine ⟨h1, ?_, hr2, ?_⟩
    · intro x hxs
      obtain ⟨hv, hin, hg, _⟩ := hr1 x hxs
      exact ⟨(h2 x hxs).1, hv, (h2 x hxs).2, hin, hg⟩
    · intro he; rw [h3 he]; exact hperm

/-- **one remove_subnet call**: a block that is currently available leaves the free list and joins
    the removed list, the invariant is preserved; any other argument raises KeyError and changes
    nothing -/
theorem remove_step (b : Net) (s g : List Net) (ht : Tiling b s g) (x : Net) :
    Tiling b (step s (.remove x)).1 (gone s g (.remove x)) ∧ StepFacts b s g (.remove x) := by
  unfold StepFacts gone
  simp only [step, removeSubnet]
  by_cases hany : s.any (keyEq x) = true
  · simp only [hany, ite_true]
    obtain ⟨y, hy, hk⟩ := List.any_eq_true.1 hany
    cases hf : s.find? (keyEq x) with
    | none =>
      have := List.find?_eq_none.1 hf y hy
      exact absurd hk this
    | some z =>
      simp only
      have hp := (find_cons_eraseP_perm (keyEq x) s z hf).append_right g
      exact ⟨tiling_of_perm (List.perm_middle.trans hp) ht, ⟨y, hy, hk⟩, trivial⟩
  · have hany' : s.any (keyEq x) = false := by simpa using hany
    simp only [hany', Bool.false_eq_true, ite_false]
    exact ⟨ht, trivial, trivial, fun ⟨y, hy, hk⟩ => hany (List.any_eq_true.2 ⟨y, hy, hk⟩)⟩

theorem step_tiling_partial (hM : MergeExact) (b : Net) (hb : b.WF) (s g : List Net) (ht : Tiling b s g) (op : Op) :
    Tiling b (step s op).1 (gone s g op) ∧ StepFacts b s g op := by
  cases op with
  | extract pfx count hint => exact extract_step_partial hM b hb s g ht pfx count hint
  | remove x => exact remove_step b s g ht x

/-- **C20, the history theorem** (needs `cidr_merge` exactness, C05 — hence `_partial`): from any
    state satisfying the invariant, along every finite sequence of extract_subnet / remove_subnet
    calls (any prefixes, counts, hints and removal arguments) the invariant holds at every point
    and every call satisfies `StepFacts`.

    Full statement = this theorem with the hypothesis `hM` discharged by Props/C05
    (`merge_wf`, `merge_den`): `history_invariant` in Props/C20Full.lean. -/
theorem history_invariant_partial (hM : MergeExact) (b : Net) (hb : b.WF) (ops : List Op) :
    ∀ (s g : List Net), Tiling b s g → AllGood b s g ops := by
  induction ops with
  | nil => intro s g ht; exact ht
  | cons op ops ih =>
    intro s g ht
    obtain ⟨h1, h2⟩ := step_tiling_partial hM b hb s g ht op
    exact ⟨ht, h2, ih _ _ h1⟩

/-- the property as stated: a fresh `SubnetSplitter(base)` and any history -/
theorem splitter_partial (hM : MergeExact) (b : Net) (hb : b.WF) (ops : List Op) :
    AllGood b (init b) [] ops :=
  history_invariant_partial hM b hb ops _ _ (init_tiling b hb)

/-- **a request that raises leaves the available space unchanged** (`extract_subnet`: as a set,
    `Perm`; `remove_subnet`: equal, and the error is KeyError), whatever `cidr_merge` does -/
theorem failed_request_unchanged (s : List Net) (pfx : Int) (count : Option Int) (hint : Option Net) :
    (∀ e, (step s (.extract pfx count hint)).2 = .error e → (step s (.extract pfx count hint)).1.Perm s) ∧
    (∀ x e, (step s (.remove x)).2 = .error e → (step s (.remove x)).1 = s ∧ e = .key) := by
  constructor
  · intro e h
    simp only [step] at h ⊢
    cases hx : extractSubnet (reorder s hint) pfx count with
    | error e' => simp only; exact reorder_perm s hint
    | ok r => rw [hx] at h; simp at h
  · intro x e h
    simp only [step, removeSubnet] at h ⊢
    by_cases hany : s.any (keyEq x) = true
    · simp [hany] at h
    · have hany' : s.any (keyEq x) = false := by simpa using hany
      simp only [hany', Bool.false_eq_true, ite_false] at h ⊢
      exact ⟨trivial, by simpa using h.symm⟩

/-- non-vacuity: a concrete base network satisfies the hypotheses (the F6 scenario
    `SubnetSplitter('10.0.0.0/24')` is replayed on the driver and the real code by the corpus) -/
example : (⟨4, 0x0A000000, 24⟩ : Net).WF := ⟨Or.inl rfl, by decide, by decide⟩
example : Tiling ⟨4, 0x0A000000, 24⟩ (init ⟨4, 0x0A000000, 24⟩) [] :=
  init_tiling _ ⟨Or.inl rfl, by decide, by decide⟩

end NV.C20
