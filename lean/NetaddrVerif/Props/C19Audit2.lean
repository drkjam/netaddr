/-
Props/C19Audit2.lean — C19: the observations `IPNetwork.info`, `IPRange.info` and `EUI.oui / .iab / .info`.

`.info` is a `BaseIP` property (netaddr/ip/__init__.py:228-236), so `iana.query` also runs on blocks:
`_within_bounds(block, key)` is block-in-block containment (C04's `netContains` / `rngContains`) or, for a
single-address key, `block == address` (never true), and `block.is_multicast()` is `block in IPV4_MULTICAST`.
`EUI.info` (netaddr/eui/__init__.py:729-739) composes `OUI(value >> 24 | 40).registration()` and, iff
`is_iab()`, `IAB(value >> 12 | 28).registration()`.

Proved here, about `Registry.queryObjD` and `Registry.euiOui / euiIab / euiInfo` (what the driver ops
`iana_query_obj` and `eui_info` execute):
  * `withinBoundsObj_iff`, `isMulticastObj4_iff`, `queryObjD_exact` — per registry key, the dict of a block's
    `.info` has exactly the records whose published block or range CONTAINS THE WHOLE operand
    (`first..last` of the operand inside the record's `first..last`); a single-address record is returned
    only for an `IPAddress` operand; `Multicast` only when the whole operand lies in `IPV4_MULTICAST`;
  * `queryObjD_addr` — on an address operand it is `queryD` (so on addresses the two theorems say the same, by `coversObj_addr`;
    `queryD_exact` needs neither `TablesWF` nor a valid address);
  * `shipped_keys_wf` — the hypothesis of `queryObjD_exact` holds for the regenerated tables;
  * `euiOui_exact`, `euiIab_exact`, `euiInfo_exact`, `euiInfo_offsets`, `euiInfo_err` — the EUI compositions
    over `lookup_exact_oui` / `lookup_exact_iab`, in terms of the records of the two registry texts only.
-/
import NetaddrVerif.Props.C19Exact
import NetaddrVerif.Lemmas.C19LAudit2
import NetaddrVerif.Lemmas.C04L
namespace NV.C19A2
open NV NV.Registry NV.C19 NV.C19L NV.Contains

/-! ## `.info` of a block -/

/-- The published block or range of `k` contains the whole operand `x`.  For a single-address key the code
    compares `key()` tuples (`ip == ip_range`), which is true only for an `IPAddress` operand with that
    version and value. -/
def coversObj (k : Key) (x : Obj) : Prop :=
  match k with
  | .addr a => x = .addr a
  | k => Key.ver k = x.ver ∧ Key.first k ≤ x.first ∧ x.last ≤ Key.last k

/-- a registry key no constructor / loader can fail to satisfy: a network key is a valid `IPNetwork` -/
def KeyWF : Key → Prop
  | .net n => n.WF
  | _ => True

/-- `_within_bounds` on any operand is interval inclusion (for single-address keys: identity) -/
theorem withinBoundsObj_iff (x : Obj) (k : Key) (hk : KeyWF k) (hx : x.WF) :
    withinBoundsObj x k = true ↔ coversObj k x := by
  cases k with
  | net n =>
    have hn : n.WF := hk
    have hfl := net_first_last n hn.2.1
    simp only [withinBoundsObj, coversObj, Key.ver]
    rw [Contains.netContains_iff n x hn hx, hfl.1, hfl.2]
    exact and_congr_left' eq_comm
  | rng r =>
    simp only [withinBoundsObj, coversObj, Key.ver, Key.first, Key.last]
    rw [Contains.rngContains_iff r x hx]
    exact and_congr_left' eq_comm
  | addr a =>
    cases x with
    | addr b =>
      simp only [withinBoundsObj, coversObj, Bool.and_eq_true, beq_iff_eq, Obj.addr.injEq]
      constructor
      · rintro ⟨h1, h2⟩; cases a; cases b; simp_all
      · rintro rfl; exact ⟨rfl, rfl⟩
    | net n => simp [withinBoundsObj, coversObj]
    | rng r => simp [withinBoundsObj, coversObj]

theorem coversObj_addr (k : Key) (a : Addr) : coversObj k (.addr a) ↔ covers k a := by
  cases k with
  | addr b =>
    simp only [coversObj, covers, Key.ver, Key.first, Key.last, Obj.addr.injEq]
    constructor
    · rintro rfl; exact ⟨rfl, Nat.le_refl _, Nat.le_refl _⟩
    · rintro ⟨h1, h2, h3⟩; cases a; cases b; simp_all; omega
  | net n => simp [coversObj, covers, Obj.ver, Obj.first, Obj.last]
  | rng r => simp [coversObj, covers, Obj.ver, Obj.first, Obj.last]

/-- the gate of the multicast registry for a block: the WHOLE block lies in `IPV4_MULTICAST` -/
theorem isMulticastObj4_iff (x : Obj) (hx : x.WF) : isMulticastObj4 x = true ↔ coversObj multicastNet x :=
  withinBoundsObj_iff x multicastNet ⟨Or.inl rfl, by decide, by decide⟩ hx

theorem mem_scanObj (x : Obj) (hx : x.WF) (t : List Rec) (ht : ∀ r ∈ t, KeyWF r.key) (r : Rec) :
    r ∈ scanObj x t ↔ r ∈ t ∧ coversObj r.key x := by
  rw [scanObj, List.mem_filter]
  exact and_congr_right fun h => withinBoundsObj_iff x r.key (ht r h) hx

def TablesWF (T : Tables) : Prop :=
  (∀ r ∈ T.ipv4, KeyWF r.key) ∧ (∀ r ∈ T.ipv6, KeyWF r.key) ∧
  (∀ r ∈ T.ipv6u, KeyWF r.key) ∧ (∀ r ∈ T.mcast, KeyWF r.key)

/-- one entry of a block's `.info`: the scan of registry `t`, made only when `c` holds -/
theorem entryExact_scanObj (x : Obj) (hx : x.WF) {t : List Rec} (ht : ∀ r ∈ t, KeyWF r.key) {c : Prop} [Decidable c] :
    EntryExact (if c then scanObjD x t none else none) t (fun r => c ∧ coversObj r.key x) := by
  by_cases hc : c
  · rw [if_pos hc, scanObjD_none]
    refine entryExact_of List.filter_sublist (fun r => ?_)
    rw [mem_scanObj x hx t ht]
    exact ⟨fun h => ⟨h.1, hc, h.2⟩, fun h => ⟨h.1, h.2.2⟩⟩
  · rw [if_neg hc]
    exact ⟨⟨fun _ r _ h => hc h.1, fun _ => rfl⟩, fun l hl => nomatch hl⟩

theorem queryObjD_eq (T : Tables) (x : Obj) :
    queryObjD T x = ⟨if x.ver = 4 then scanObjD x T.ipv4 none else none,
      if x.ver = 6 then scanObjD x T.ipv6 none else none, if x.ver = 6 then scanObjD x T.ipv6u none else none,
      if x.ver = 4 ∧ isMulticastObj4 x = true then scanObjD x T.mcast none else none⟩ := by
  unfold queryObjD
  by_cases h4 : x.ver = 4
  · simp [h4]
  · by_cases h6 : x.ver = 6 <;> simp [h4, h6]

/-- `.info` of ANY `BaseIP` object `x` (address, network with any
    host bits, range — an `IPGlob` is its range), per registry key of the returned dict — the key is absent iff no record of that
    registry contains the whole of `x` (for `Multicast`: or `x` is not IPv4 or does not lie wholly inside
    `IPV4_MULTICAST`; keys of the other family are always absent); a present key maps to a NON-EMPTY list,
    in registry order, of exactly the records whose published block or range contains `first..last` of `x`
    (a single-address record only when `x` is that very `IPAddress`). -/
theorem queryObjD_exact (T : Tables) (hT : TablesWF T) (x : Obj) (hx : x.WF) :
    EntryExact (queryObjD T x).ipv4 T.ipv4 (fun r => x.ver = 4 ∧ coversObj r.key x) ∧
    EntryExact (queryObjD T x).mcast T.mcast
      (fun r => x.ver = 4 ∧ coversObj multicastNet x ∧ coversObj r.key x) ∧
    EntryExact (queryObjD T x).ipv6 T.ipv6 (fun r => x.ver = 6 ∧ coversObj r.key x) ∧
    EntryExact (queryObjD T x).ipv6u T.ipv6u (fun r => x.ver = 6 ∧ coversObj r.key x) := by
  rw [queryObjD_eq]
  refine ⟨entryExact_scanObj x hx hT.1, ?_, entryExact_scanObj x hx hT.2.1, entryExact_scanObj x hx hT.2.2.1⟩
  simpa only [isMulticastObj4_iff x hx, and_assoc] using
    entryExact_scanObj x hx hT.2.2.2 (c := x.ver = 4 ∧ isMulticastObj4 x = true)

/-- on an `IPAddress` operand the block query IS the address query of `Props/C19Exact.lean` -/
theorem queryObjD_addr (T : Tables) (a : Addr) : queryObjD T (.addr a) = queryD T a := by
  unfold queryObjD queryD isMulticastObj4 isMulticast4
  simp only [Obj.ver, scanObjD_addr, withinBoundsObj_addr]
  by_cases h4 : a.ver = 4
  · have e : (⟨4, a.val⟩ : Addr) = a := by cases a; simp_all
    rw [if_pos h4, if_pos h4, e]
  · rw [if_neg h4, if_neg h4]

/-- a valid row (`C19.validRow`) of kind 0 read as a key (`Driver.C19.mkKey`) is a valid `IPNetwork` -/
theorem validRow_net_wf (ver x y : Nat) (h : validRow (0, ver, x, y) = true) : KeyWF (.net ⟨ver, x, y⟩) := by
  simp only [validRow, ↓reduceIte, Bool.and_eq_true, Bool.or_eq_true, beq_iff_eq, decide_eq_true_eq] at h
  exact ⟨h.1.1, h.1.2, h.2⟩

/-- the hypothesis `TablesWF` holds for the shipped data: every network row of the four regenerated
    tables (what the driver's `genTables` is built from) is a valid `IPNetwork` key (via
    `C19.shipped_tables_valid`, re-checked by the kernel whenever the data changes) -/
theorem shipped_keys_wf (ver x y : Nat)
    (h : (0, ver, x, y) ∈ Gen.ianaIPv4 ++ Gen.ianaIPv6 ++ Gen.ianaIPv6Unicast ++ Gen.ianaMulticast) :
    KeyWF (.net ⟨ver, x, y⟩) := by
  have hv := shipped_tables_valid
  simp only [Bool.and_eq_true, List.all_eq_true] at hv
  apply validRow_net_wf
  simp only [List.mem_append] at h
  rcases h with ((h | h) | h) | h
  · exact hv.1.1.1 _ h
  · exact hv.1.1.2 _ h
  · exact hv.1.2 _ h
  · exact hv.2 _ h

/-- a block that is NOT wholly inside a record is not reported by it, even when they overlap; and a /32
    never matches the single-address record of its own address (non-vacuity of the two ways a block's
    `.info` differs from its addresses') -/
example : queryObjD ⟨[⟨0, .net ⟨4, 0x0A000000, 8⟩⟩, ⟨1, .net ⟨4, 0x0A000000, 16⟩⟩], [], [],
      [⟨0, .rng ⟨4, 0xE0000100, 0xE00001FF⟩⟩, ⟨1, .addr ⟨4, 0xE0000101⟩⟩]⟩ (.net ⟨4, 0x0A000001, 12⟩)
    = ⟨some [⟨0, .net ⟨4, 0x0A000000, 8⟩⟩], none, none, none⟩ := by decide +kernel
example : queryObjD ⟨[], [], [], [⟨0, .rng ⟨4, 0xE0000100, 0xE00001FF⟩⟩, ⟨1, .addr ⟨4, 0xE0000101⟩⟩]⟩
      (.net ⟨4, 0xE0000101, 32⟩) = ⟨none, none, none, some [⟨0, .rng ⟨4, 0xE0000100, 0xE00001FF⟩⟩]⟩ := by
  decide +kernel
example : queryObjD ⟨[], [], [], [⟨0, .rng ⟨4, 0xE0000100, 0xE00001FF⟩⟩]⟩ (.rng ⟨4, 0xDFFFFFFF, 0xE0000101⟩)
    = ⟨none, none, none, none⟩ := by decide +kernel
example : TablesWF ⟨[⟨0, .net ⟨4, 0x0A000000, 8⟩⟩], [], [], [⟨0, .rng ⟨4, 0xE0000100, 0xE00001FF⟩⟩]⟩ ∧
    (Obj.net ⟨4, 0x0A000001, 12⟩).WF := by
  refine ⟨⟨?_, by simp, by simp, ?_⟩, Or.inl rfl, by decide, by decide⟩
  · intro r hr; simp at hr; subst hr; exact ⟨Or.inl rfl, by decide, by decide⟩
  · intro r hr; simp at hr; subst hr; trivial

/-! ## `EUI.oui`, `EUI.iab`, `EUI.info` -/

/-- a constructible `EUI`: EUI-48 with a 48-bit value or EUI-64 with a 64-bit value -/
def EuiWF (ver val : Nat) : Prop := (ver = 48 ∧ val < 2 ^ 48) ∨ (ver = 64 ∧ val < 2 ^ 64)

/-- the 24-bit OUI of an EUI: its top 24 bits -/
def ouiOf (ver val : Nat) : Nat := val / 2 ^ (ver - 24)
/-- the 36-bit IAB identifier of an EUI: its top 36 bits -/
def iabOf (ver val : Nat) : Nat := val / 2 ^ (ver - 36)
/-- the EUI lies in one of the two IAB ranges (`00-50-C2`, `40-D8-55`) -/
def IsIab (ver val : Nat) : Prop := ouiOf ver val = 0x0050c2 ∨ ouiOf ver val = 0x40d855

theorem euiOuiArg_eq (ver val : Nat) (hw : EuiWF ver val) : euiOuiArg ver val = some (ouiOf ver val) := by
  rcases hw with ⟨rfl, _⟩ | ⟨rfl, _⟩ <;> simp [euiOuiArg, ouiOf, Nat.shiftRight_eq_div_pow]

theorem euiIabArg_eq (ver val : Nat) (hw : EuiWF ver val) : euiIabArg ver val = some (iabOf ver val) := by
  rcases hw with ⟨rfl, _⟩ | ⟨rfl, _⟩ <;> simp [euiIabArg, iabOf, Nat.shiftRight_eq_div_pow]

theorem euiIsIab_iff (ver val : Nat) (hw : EuiWF ver val) : euiIsIab ver val = true ↔ IsIab ver val := by
  rcases hw with ⟨rfl, _⟩ | ⟨rfl, _⟩ <;>
    simp [euiIsIab, IsIab, ouiOf, iabEuiValues, Nat.shiftRight_eq_div_pow]

theorem ouiOf_le {ver val : Nat} (hw : EuiWF ver val) : ouiOf ver val ≤ 0xffffff := by
  rcases hw with ⟨rfl, h⟩ | ⟨rfl, h⟩ <;> simp only [ouiOf] <;> omega

theorem iabOf_shr {ver val : Nat} (hw : EuiWF ver val) : iabOf ver val >>> 12 = ouiOf ver val := by
  rcases hw with ⟨rfl, h⟩ | ⟨rfl, h⟩ <;>
    simp only [iabOf, ouiOf, Nat.shiftRight_eq_div_pow, Nat.div_div_eq_div_mul] <;> rfl

/-- `split_iab_mac` returns the 36-bit identifier of an IAB-range EUI unchanged.  (`Registry.splitIabMac`, `euiIsIab`,
    `iabEuiValues` are the same functions as `Eui.splitIabMac`, `Eui.isIabOf`, `Gen.iabEuiValues` of C08 — by `rfl`, `rfl` at
    either width, `decide` — and no theorem says so: `C08.splitIabMac_iab`, `C08.iab_split48/64` are about those copies.) -/
theorem splitIabMac_iab (ver val : Nat) (hw : EuiWF ver val) (hi : IsIab ver val) (strict : Bool) :
    splitIabMac (iabOf ver val) strict = .ok (iabOf ver val, 0) := by
  unfold splitIabMac
  rw [iabOf_shr hw]
  have : iabEuiValues.contains (ouiOf ver val) = true := by
    rcases hi with h | h <;> rw [h] <;> decide
  rw [if_pos this]

theorem euiOui_eq {read : Nat → Nat → List Char} {index : List (Nat × Nat × Nat)} {ver val : Nat}
    (hw : EuiWF ver val) : euiOui read index ver val = (ouiRecords read index (ouiOf ver val)).map some := by
  simp only [euiOui, euiOuiArg_eq ver val hw, ouiOfInt, ouiCtorInt, ouiOf_le hw, ↓reduceIte]
  rfl

theorem euiIab_eq {read : Nat → Nat → List Char} {index : List (Nat × Nat × Nat)} {ver val : Nat}
    (hw : EuiWF ver val) :
    euiIab read index ver val =
      if euiIsIab ver val then (iabRecord read index (iabOf ver val)).map some else .ok none := by
  by_cases hb : euiIsIab ver val = true
  · have hi := (euiIsIab_iff ver val hw).mp hb
    simp only [euiIab, hb, ↓reduceIte, euiIabArg_eq ver val hw, iabOfInt, splitIabMac_iab ver val hw hi]
    rfl
  · simp only [euiIab, hb, Bool.false_eq_true, ↓reduceIte]

theorem euiInfo_eq {readO : Nat → Nat → List Char} {indexO : List (Nat × Nat × Nat)}
    {readI : Nat → Nat → List Char} {indexI : List (Nat × Nat × Nat)} {ver val : Nat} (hw : EuiWF ver val) :
    euiInfo readO indexO readI indexI ver val = (do
      let rs ← ouiRecords readO indexO (ouiOf ver val)
      let r0 ← registration0 rs
      if euiIsIab ver val then do
        let r ← iabRecord readI indexI (iabOf ver val)
        pure ⟨r0, some r⟩
      else pure ⟨r0, none⟩) := by
  rw [euiInfo, euiOui_eq hw, euiIab_eq hw, Exc.map_bind]
  refine bind_congr fun rs => bind_congr fun r0 => ?_
  split
  · exact Exc.map_bind _ _ _
  · rfl

/-- the only errors of `euiInfo`, for any read and index functions: NotRegisteredError and IndexError -/
theorem euiInfo_err_of_wf {readO : Nat → Nat → List Char} {indexO : List (Nat × Nat × Nat)}
    {readI : Nat → Nat → List Char} {indexI : List (Nat × Nat × Nat)} {ver val : Nat} (hw : EuiWF ver val) {e : Err}
    (h : euiInfo readO indexO readI indexI ver val = .error e) : e = .notRegistered ∨ e = .index := by
  rw [euiInfo_eq hw] at h
  rcases Exc.bind_eq_error.1 h with h | ⟨rs, _, h⟩
  · exact lookup_err.1 h
  rcases Exc.bind_eq_error.1 h with h | ⟨r0, _, h⟩
  · cases rs <;> cases h
    exact Or.inr rfl
  split at h
  · rcases Exc.bind_eq_error.1 h with h | ⟨r, _, h⟩
    · exact lookup_err.2 h
    · cases h
  · cases h

section compose
variable (bo bi : List Nat) (idxO idxI : List (Int × Nat × Nat)) (decode : List Nat → List Char)

/-- `EUI.oui` reading the registry text `bo` through its own loaded index -/
abbrev ouiThrough (ver val : Nat) := euiOui (fun o s => decode (slice bo o s)) (dictView idxO) ver val
/-- `EUI.iab` reading the registry text `bi` through its own loaded index -/
abbrev iabThrough (ver val : Nat) := euiIab (fun o s => decode (slice bi o s)) (dictView idxI) ver val
/-- `EUI.info` reading both texts through their own loaded indices -/
abbrev infoThrough (ver val : Nat) :=
  euiInfo (fun o s => decode (slice bo o s)) (dictView idxO) (fun o s => decode (slice bi o s)) (dictView idxI) ver val

abbrev ouiRecs (ver val : Nat) := carrying ouiStart ouiCont ouiKeyCell bo (ouiOf ver val)
abbrev iabRecs (ver val : Nat) := carrying iabStart iabCont iabKeyCell bi (iabOf ver val)

/-- `EUI.oui`: never `None` for a constructible EUI; it is `OUI(top 24 bits)` — NotRegisteredError iff
    no record of the OUI registry text carries the top 24 bits of the value the EUI has NOW; otherwise one
    registration per carrying record, all of them, in file order, each the parse of that record's bytes. -/
theorem euiOui_exact (h : ouiPipeline bo = .ok idxO) (ver val : Nat) (hw : EuiWF ver val) :
    (ouiThrough bo idxO decode ver val).map (Option.map (List.map (fun x => x.2.2))) =
      (if ouiRecs bo ver val = [] then .error .notRegistered
       else ((ouiRecs bo ver val).mapM (fun r => parseRecord (decode r.flatten))).map some) := by
  have hl := (lookup_exact_oui bo idxO h decode (ouiOf ver val)).1
  simp only [ouiThrough, ouiRecs, euiOui_eq hw]
  rw [Exc.map_some_comm, hl]
  split <;> rfl

/-- `EUI.iab`: `None` iff the EUI is outside the two IAB ranges; inside, it is
    `IAB(top 36 bits)` — NotRegisteredError iff no record of the IAB registry text carries them, otherwise the
    parse of the FIRST carrying record. -/
theorem euiIab_exact (h : iabPipeline bi = .ok idxI) (ver val : Nat) (hw : EuiWF ver val) :
    (¬ IsIab ver val → iabThrough bi idxI decode ver val = .ok none) ∧
    (IsIab ver val →
      (iabThrough bi idxI decode ver val).map (Option.map (fun x => x.2.2)) =
        (match iabRecs bi ver val with
         | [] => .error .notRegistered
         | r :: _ => (parseRecord (decode r.flatten)).map some)) := by
  simp only [iabThrough, iabRecs, euiIab_eq hw]
  constructor
  · intro hn
    rw [if_neg (fun hb => hn ((euiIsIab_iff ver val hw).mp hb))]
  · intro hi
    have hl := (lookup_exact_iab bi idxI h decode (iabOf ver val)).1
    rw [if_pos ((euiIsIab_iff ver val hw).mpr hi), Exc.map_some_comm, hl]
    cases carrying iabStart iabCont iabKeyCell bi (iabOf ver val) <;> rfl

/-- what `EUI.info` must be, said with the two registry texts only: the parse of the FIRST record carrying
    the EUI's OUI — after every record carrying that OUI has been parsed, because `OUI()` parses them all —
    under `'OUI'`, and, iff the EUI is in an IAB range (tested by `euiIsIab`, which is `IsIab` by `euiIsIab_iff`), the parse of the first record carrying its 36-bit
    identifier under `'IAB'`; NotRegisteredError when a needed record does not exist, the OUI first. -/
def infoSpec (ver val : Nat) : R (Parsed × Option Parsed) :=
  match ouiRecs bo ver val with
  | [] => .error .notRegistered
  | r :: rest =>
    match (r :: rest).mapM (fun r => parseRecord (decode r.flatten)) with
    | .error e => .error e
    | .ok [] => .error .index        -- unreachable: mapM keeps the length
    | .ok (p0 :: _) =>
      if euiIsIab ver val then
        match iabRecs bi ver val with
        | [] => .error .notRegistered
        | q :: _ =>
          match parseRecord (decode q.flatten) with
          | .error e => .error e
          | .ok p => .ok (p0, some p)
      else .ok (p0, none)

/-- for every pair of registry texts that index and load, and every
    constructible EUI, `EUI.info` through parser → csv → `load_index` → `OUI()` / `IAB()` with seek+read on the
    same texts is `infoSpec`: determined by the value the EUI has at the moment of the call and the records of
    the two texts, nothing else. -/
theorem euiInfo_exact (hO : ouiPipeline bo = .ok idxO) (hI : iabPipeline bi = .ok idxI)
    (ver val : Nat) (hw : EuiWF ver val) :
    (infoThrough bo bi idxO idxI decode ver val).map (fun i => (i.oui.2.2, i.iab.map (fun x => x.2.2))) =
      infoSpec bo bi decode ver val := by
  have ho := (lookup_exact_oui bo idxO hO decode (ouiOf ver val)).1
  have hi := (lookup_exact_iab bi idxI hI decode (iabOf ver val)).1
  simp only [infoThrough, infoSpec, ouiRecs, iabRecs, euiInfo_eq hw]
  generalize ouiRecords (fun o s => decode (slice bo o s)) (dictView idxO) (ouiOf ver val) = X at ho ⊢
  generalize iabRecord (fun o s => decode (slice bi o s)) (dictView idxI) (iabOf ver val) = Y at hi ⊢
  generalize carrying ouiStart ouiCont ouiKeyCell bo (ouiOf ver val) = co at ho ⊢
  generalize carrying iabStart iabCont iabKeyCell bi (iabOf ver val) = ci at hi ⊢
  -- `ho`, `hi` say what the two lookups return; the rest is the shape of the two programs
  cases co with
  | nil =>
    cases X <;> cases ho
    rfl
  | cons r rest =>
    rw [if_neg (List.cons_ne_nil _ _)] at ho
    simp only
    rw [← ho]
    cases X with
    | error e => rfl
    | ok rs =>
      cases rs with
      | nil => rfl
      | cons r0 rs' =>
        cases euiIsIab ver val with
        | false => rfl
        | true =>
          cases ci with
          | nil =>
            cases Y <;> cases hi
            rfl
          | cons q qs =>
            simp only at hi ⊢
            rw [← hi]
            cases Y <;> rfl

/-- the offset/size reported inside each registration cut exactly the record it was parsed from
    out of its registry text -/
theorem euiInfo_offsets (hO : ouiPipeline bo = .ok idxO) (hI : iabPipeline bi = .ok idxI)
    (ver val : Nat) (hw : EuiWF ver val) (i : EuiInfo)
    (h : infoThrough bo bi idxO idxI decode ver val = .ok i) :
    (∃ r rest, ouiRecs bo ver val = r :: rest ∧ slice bo i.oui.1 i.oui.2.1 = r.flatten) ∧
    (i.iab = none ↔ ¬ IsIab ver val) ∧
    (∀ x, i.iab = some x → ∃ q rest, iabRecs bi ver val = q :: rest ∧ slice bi x.1 x.2.1 = q.flatten) := by
  rw [infoThrough, euiInfo_eq hw] at h
  obtain ⟨rs, ho, h⟩ := Exc.bind_eq_ok.mp h
  obtain ⟨r0, hr0, h⟩ := Exc.bind_eq_ok.mp h
  have h1 : ∃ r rest, ouiRecs bo ver val = r :: rest ∧ slice bo r0.1 r0.2.1 = r.flatten := by
    have hall := (lookup_exact_oui bo idxO hO decode (ouiOf ver val)).2 rs ho
    simp only [ouiRecs]
    generalize carrying ouiStart ouiCont ouiKeyCell bo (ouiOf ver val) = cs at hall
    cases hall with
    | nil => cases hr0
    | cons hr _ => cases hr0; exact ⟨_, _, rfl, hr.1⟩
  by_cases hb : euiIsIab ver val = true
  · rw [if_pos hb] at h
    obtain ⟨x, hq, h⟩ := Exc.bind_eq_ok.mp h
    cases h
    refine ⟨h1, ⟨fun hn => (nomatch hn), fun hn => absurd ((euiIsIab_iff ver val hw).mp hb) hn⟩, ?_⟩
    intro y hy
    cases hy
    exact (lookup_exact_iab bi idxI hI decode (iabOf ver val)).2 x hq
  · rw [if_neg hb] at h
    cases h
    exact ⟨h1, ⟨fun _ hn => hb ((euiIsIab_iff ver val hw).mpr hn), fun _ => rfl⟩, fun y hy => (nomatch hy)⟩

/-- the only errors of `EUI.info`: NotRegisteredError (a needed record does not exist) and IndexError
    (a `(hex)` line with fewer than three fields in a record `OUI()` / `IAB()` parses) -/
theorem euiInfo_err (hO : ouiPipeline bo = .ok idxO) (hI : iabPipeline bi = .ok idxI)
    (ver val : Nat) (hw : EuiWF ver val) (e : Err)
    (h : infoThrough bo bi idxO idxI decode ver val = .error e) : e = .notRegistered ∨ e = .index :=
  euiInfo_err_of_wf hw h

end compose

/-! ### non-vacuity: a two-registry example -/

/-- an OUI registry with one record for 00-50-C2 and an IAB registry with one record for 00-50-C2-AB-C -/
def exOui : List Nat := bytes "00-50-C2   (hex)\t\tIEEE REGISTRATION AUTHORITY\r\n0050C2     (base 16)\t\tIEEE\r\n\t\t\t\t445 HOES LANE\r\n\r\n"
def exIab : List Nat := bytes "00-50-C2   (hex)\t\tACME CORP\r\nABC000-ABCFFF     (base 16)\t\tACME CORP\r\n\t\t\t\t1 MAIN STREET\r\n\r\n"

example : ouiPipeline exOui = .ok [(0x0050C2, 0, 96)] ∧ iabPipeline exIab = .ok [(0x0050C2ABC, 0, 90)] := by
  rw [exOui, exIab, bytes_lit, bytes_lit]
  constructor <;> decide +kernel
example : EuiWF 48 0x0050C2ABC123 ∧ IsIab 48 0x0050C2ABC123 ∧ iabOf 48 0x0050C2ABC123 = 0x0050C2ABC := by
  refine ⟨Or.inl ⟨rfl, by decide⟩, Or.inl (by decide), by decide⟩
/-- `EUI('00-50-C2-AB-C1-23').info` over the two texts: both registrations; the same EUI moved to
    `00-50-C3-…` has no OUI record any more -/
example : (euiInfo (fun o s => (slice exOui o s).map Char.ofNat) [(0x0050C2, 0, 96)]
      (fun o s => (slice exIab o s).map Char.ofNat) [(0x0050C2ABC, 0, 90)] 48 0x0050C2ABC123).map
      (fun i => (i.oui.2.2.org, i.iab.map (fun x => x.2.2.org))) =
    .ok (some "IEEE REGISTRATION AUTHORITY".toList, some (some "ACME CORP".toList)) := by
  rw [exOui, exIab, bytes_lit, bytes_lit]
  decide_lit
example : euiInfo (fun o s => (slice exOui o s).map Char.ofNat) [(0x0050C2, 0, 96)]
      (fun o s => (slice exIab o s).map Char.ofNat) [(0x0050C2ABC, 0, 90)] 48 0x0050C3ABC123 =
    .error .notRegistered := by
  rw [exOui, exIab, bytes_lit, bytes_lit]
  decide +kernel

end NV.C19A2
