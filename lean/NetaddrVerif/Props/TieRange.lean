/-
Props/TieRange.lean — translation tie for `iprange_to_cidrs` (C05; `IPRange.cidrs()`,
`glob_to_cidrs`, `IPSet.add(IPRange)` are built on it): the current source text — the call of
`spanning_cidr([start, end])`, the two trimming steps through `cidr_partition(...)[2]` /
`[0]`, `cidr_list.pop()`, `+=`, `append` — translated by `harness/pytrans.py` equals
`iprangeToCidrs` of `Model/Cidr.lean`, and raises IndexError exactly when `pop()` would meet an
empty list (`iprange_to_cidrs_eq`).  For well-formed networks that cannot happen
(`after_nonempty`: by C13 the span reaches past `start`, and what `cidr_partition` leaves above the
excluded address covers that stretch, `C05L.part_spec`), so there the text is the model
(`iprange_to_cidrs_ok`).
-/
import NetaddrVerif.Gen.Trans
import NetaddrVerif.Props.TieCidr
import NetaddrVerif.Props.TieSpan
import NetaddrVerif.Lemmas.C09L
import NetaddrVerif.Props.C13
import NetaddrVerif.Lemmas.C05LRange
namespace NV.Tie
open NV NV.Trans

/-- `spanning_cidr([start, end])` in the model's terms -/
def spanOf2 (w : Nat) (s e : Pfx) : Pfx :=
  spanningOf w (min (s.first w) (e.first w)) (max (s.last w) (e.last w))

theorem spanning2 (w : Nat) (s e : Pfx) : spanningCidr w [s, e] = .ok (spanOf2 w s e) := rfl

theorem spanOf2_plen (w : Nat) (s e : Pfx) : (spanOf2 w s e).plen ≤ w := by
  unfold spanOf2 spanningOf; exact Span.span_plen _ _ _ _ _

/-- the tail of the translated function after `cidr_span` is fixed -/
theorem trim_top_trans (ver : Nat) (hi : Nat) (pre : List Pfx) (c : Pfx) (hc : c.plen ≤ width ver) :
    (if (IPNetwork_last ver (c.val : Int) (c.plen : Int)) > (hi : Int) then
        (.ok (liftL ver pre ++ (cidr_partition ver (c.val : Int) (c.plen : Int)
          ver ((hi : Int) + 1) ((width ver : Nat) : Int)).1) : R (List (Int × Int × Int)))
      else .ok (liftL ver pre ++ [((c.val : Int), (c.plen : Int), (ver : Int))]))
      = .ok (liftL ver (C05L.trimTop (width ver) hi pre c)) := by
  rw [net_last ver c.val c.plen hc, C05L.trimTop]
  refine Py.ite_eq (·) (fun l => Except.ok (liftL ver l)) Int.ofNat_lt (fun _ => ?_)
    fun _ => congrArg Except.ok (liftL_concat ver pre c.val c.plen)
  rw [← Int.natCast_add_one, cidr_partition_eq ver c ⟨hi + 1, width ver⟩ hc (Nat.le_refl _)]
  exact congrArg Except.ok (liftL_append ver _ _).symm

theorem iprange_to_cidrs_eq (ver : Nat) (s e : Pfx) (hs : s.plen ≤ width ver) (he : e.plen ≤ width ver) :
    iprange_to_cidrs ver (s.val : Int) (s.plen : Int) ver (e.val : Int) (e.plen : Int) =
      if (spanOf2 (width ver) s e).first (width ver) < s.first (width ver) ∧
          (cidrPartition (width ver) (spanOf2 (width ver) s e) ⟨s.first (width ver) - 1, width ver⟩).2.2 = []
      then .error .index
      else .ok (liftL ver (iprangeToCidrs (width ver) s e)) := by
  -- plan: the call of `spanning_cidr` is `spanOf2`; the model is unfolded into its two trimming steps (`C05L.trims_eq`);
  -- then by whether the span starts below `s`: `pop()` is `getLast?` + `dropLast`, and both branches end in `trim_top_trans`
  have hsp : spanning_cidr [(ver, (s.val : Int), (s.plen : Int)), (ver, (e.val : Int), (e.plen : Int))]
      = .ok (((spanOf2 (width ver) s e).val : Int), ((spanOf2 (width ver) s e).plen : Int), (ver : Int)) := by
    have := spanning_cidr_eq ver [s, e] (List.forall_mem_cons.2 ⟨hs, List.forall_mem_singleton.2 he⟩)
    rwa [spanning2] at this
  have hcp := spanOf2_plen (width ver) s e
  generalize hspan : spanOf2 (width ver) s e = span at hsp hcp ⊢
  unfold iprange_to_cidrs
  simp only [hsp, Int.toNat_natCast]
  rw [net_first ver s.val s.plen hs, net_last ver e.val e.plen he, net_first ver span.val span.plen hcp,
    C05L.iprangeToCidrs_eq, C05L.trims_eq, show spanningOf _ _ _ = span from hspan]
  simp only [Pfx.first, Pfx.last]
  by_cases h1 : netFirst (width ver) span.val span.plen < netFirst (width ver) s.val s.plen
  · rw [if_pos (Int.ofNat_lt.2 h1), Py.natCast_pred (Nat.zero_lt_of_lt h1),
      cidr_partition_eq ver span ⟨_, width ver⟩ hcp (Nat.le_refl _)]
    simp only [h1, ↓reduceIte, true_and, liftL_getLast, liftL_dropLast]
    generalize hL : (cidrPartition (width ver) span ⟨netFirst (width ver) s.val s.plen - 1, width ver⟩).2.2 = L
    cases hg : L.getLast? with
    | none => rw [if_pos (List.getLast?_eq_none_iff.1 hg)]; rfl
    | some last =>
      have hmem : last ∈ L := List.mem_of_getLast? hg
      rw [if_neg (List.ne_nil_of_mem hmem)]
      rw [← hL] at hmem
      exact trim_top_trans ver _ L.dropLast last (C09L.part_after_plen (width ver) span _ hcp (Nat.le_refl _) last hmem)
  · rw [if_neg (mt Int.ofNat_lt.1 h1)]
    simp only [h1, ↓reduceIte, false_and]
    exact trim_top_trans ver _ [] span hcp

example : iprange_to_cidrs 4 0x0A000001 32 4 0x0A000006 32 =
    .ok [(0x0A000001, 32, 4), (0x0A000002, 31, 4), (0x0A000004, 31, 4), (0x0A000006, 32, 4)] := by decide

open NV.C09L in
theorem after_nonempty (w : Nat) (s e : Pfx) (hs : PWF w s) (he : PWF w e)
    (h : (spanOf2 w s e).first w < s.first w) :
    (cidrPartition w (spanOf2 w s e) ⟨s.first w - 1, w⟩).2.2 ≠ [] := by
  -- C13: the span is an aligned block that reaches up to the last address of `s`
  obtain ⟨r, hr, hpl, hv, hal, hf, hcov, -⟩ := NV.C13.spanning_spec w s e [] <| List.forall_mem_cons.2
    ⟨⟨hs.val_lt, hs.plen_le⟩, List.forall_mem_singleton.2 ⟨he.val_lt, he.plen_le⟩⟩
  obtain rfl : spanOf2 w s e = r := Except.ok.inj ((spanning2 w s e).symm.trans hr)
  generalize spanOf2 w s e = r at *
  rw [hf] at h
  have hend : r.last w + 1 = r.val + 2 ^ (w - r.plen) := hf ▸ (⟨hv, hpl⟩ : PWF w r).last_first
  have hE : s.first w < r.val + 2 ^ (w - r.plen) :=
    hend ▸ Nat.lt_succ_of_le (Nat.le_trans (netFirst_le_netLast w s.val s.plen) (hcov s List.mem_cons_self).2)
  have hp : r.plen < w := by
    rcases Nat.lt_or_ge r.plen w with hp | hp
    · exact hp
    · rw [Nat.sub_eq_zero_of_le hp] at hE; omega
  -- C05L: what `cidr_partition` leaves above the excluded address covers `[s.first, end of the span)`
  have hrun := (C05L.part_spec w r.val r.plen (s.first w - 1) hp hal (hend ▸ (⟨hv, hpl⟩ : PWF w r).last_lt)
    (Nat.le_sub_one_of_lt h) (Nat.lt_of_le_of_lt (Nat.sub_le _ _) hE)).2
  exact hrun.ne_nil (Nat.sub_add_cancel (Nat.zero_lt_of_lt h) ▸ hE)

theorem iprange_to_cidrs_ok (ver : Nat) (s e : Pfx) (hs : NV.C09L.PWF (width ver) s) (he : NV.C09L.PWF (width ver) e) :
    iprange_to_cidrs ver (s.val : Int) (s.plen : Int) ver (e.val : Int) (e.plen : Int) =
      .ok (liftL ver (iprangeToCidrs (width ver) s e)) := by
  rw [iprange_to_cidrs_eq ver s e hs.plen_le he.plen_le]
  exact if_neg fun h => after_nonempty (width ver) s e hs he h.1 h.2

end NV.Tie
