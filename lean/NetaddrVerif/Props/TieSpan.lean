/-
Props/TieSpan.lean — translation tie for `spanning_cidr` (C13; `iprange_to_cidrs` starts from it):
the current source text — the iterator protocol (`iter`, two `next` calls inside `try / except
StopIteration`), the `for` loop over `chain([network_b], (IPNetwork(ip) for ip in it))` with the
running `min` / `max` and the mixed-family `TypeError`, and the widening `while` loop with
`highest & -(1 << (width - prefixlen))` — translated by `harness/pytrans.py` equals
`spanningCidr` of `Model/Cidr.lean` on every list of networks of one family.
-/
import NetaddrVerif.Gen.Trans
import NetaddrVerif.Lemmas.TieL
import NetaddrVerif.Model.Cidr
import NetaddrVerif.Props.Tie
namespace NV.Tie
open NV NV.Trans

/-- `iand_neg_pow` (Lemmas/TieL) with the power spelled `2 ** k` -/
theorem iand_neg_pow' (a k : Nat) :
    Py.iand (a : Int) (-(Py.pow (2 : Int) (k : Int))) = (((a >>> k) <<< k : Nat) : Int) := by
  have : Py.pow (2 : Int) (k : Int) = Py.shl (1 : Int) (k : Int) := by
    rw [Py.pow_natCast, ← Nat.one_shiftLeft, ← Py.shl_natCast]
    rfl
  rw [this, iand_neg_pow]

/-- a network of the model as the object `(version, value, prefixlen)` the translation iterates over -/
def liftN (ver : Nat) (b : Pfx) : Nat × Int × Int := (ver, (b.val : Int), (b.plen : Int))

/-- the widening `while` loop.  `ia`, `it` (here and in `span_for`) are parameters the generated loops thread through and never read. -/
theorem span_loop (ver : Nat) (ia it : List (Nat × Int × Int)) (lo hi : Nat) :
    ∀ (p fuel ipnum : Nat), p ≤ width ver → p ≤ fuel →
      spanning_cidr_loop2 fuel ia (p : Int) (ipnum : Int) it (ver : Int) ((width ver : Nat) : Int) (lo : Int) (hi : Int)
        = .ok (((spanLoop (width ver) lo hi p ipnum).val : Int), ((spanLoop (width ver) lo hi p ipnum).plen : Int), (ver : Int)) := by
  intro p
  induction p with
  | zero =>
    intro fuel ipnum _ _
    cases fuel with
    | zero => rfl
    | succ f =>
      rw [spanning_cidr_loop2]
      exact if_neg fun h => Int.lt_irrefl 0 h.1
  | succ p ih =>
    intro fuel ipnum hw hf
    cases fuel with
    | zero => omega
    | succ f =>
      rw [spanning_cidr_loop2, spanLoop]
      refine Py.ite_eq (·) (fun b : Pfx => Except.ok ((b.val : Int), (b.plen : Int), (ver : Int)))
        (by omega) (fun _ => ?_) fun _ => rfl
      simp only [Int.natCast_add_one, Int.add_sub_cancel, Py.natCast_sub (Nat.le_of_succ_le hw)]
      -- the mask of the text is `-(1 << n)`; its other spelling `-(2 ** n)` is accepted as well (refactors/twin-tie-1)
      first | rw [iand_neg_pow] | rw [iand_neg_pow']
      exact ih f _ (Nat.le_of_succ_le hw) (Nat.le_of_succ_le_succ hf)

theorem span_for (ver : Nat) (ia it : List (Nat × Int × Int)) : ∀ (l : List Pfx) (lo hi : Nat),
    (∀ b ∈ l, b.plen ≤ width ver) →
      spanning_cidr_loop1 (l.map (liftN ver)) ia (lo : Int) (hi : Int) it (ver : Int) ((width ver : Nat) : Int)
        = spanning_cidr_loop2 (((width ver : Nat) : Int).toNat + 1) ia ((width ver : Nat) : Int)
            ((l.foldl (fun m n => max m (n.last (width ver))) hi : Nat) : Int) it (ver : Int) ((width ver : Nat) : Int)
            ((l.foldl (fun m n => min m (n.first (width ver))) lo : Nat) : Int)
            ((l.foldl (fun m n => max m (n.last (width ver))) hi : Nat) : Int) := by
  intro l
  induction l with
  | nil => intro lo hi _; simp [spanning_cidr_loop1]
  | cons b t ih =>
    intro lo hi hb
    have hp : b.plen ≤ width ver := hb b List.mem_cons_self
    simp only [List.map_cons, liftN, List.foldl_cons]
    rw [spanning_cidr_loop1, if_neg fun h => h rfl]
    simp only [net_first ver b.val b.plen hp, net_last ver b.val b.plen hp, Py.min_natCast, Py.max_natCast]
    exact ih _ _ fun x hx => hb x (List.mem_cons_of_mem _ hx)

theorem spanning_cidr_eq (ver : Nat) (nets : List Pfx) (hp : ∀ b ∈ nets, b.plen ≤ width ver) :
    spanning_cidr (nets.map (liftN ver)) =
      match spanningCidr (width ver) nets with
      | .ok b => .ok ((b.val : Int), (b.plen : Int), (ver : Int))
      | .error e => .error e := by
  unfold spanning_cidr spanningCidr
  match nets, hp with
  | [], _ => rfl
  | [_], _ => rfl
  | a :: b :: rest, hp =>
    have ha : a.plen ≤ width ver := hp a List.mem_cons_self
    simp only [List.map_cons, liftN, List.singleton_append, net_first ver a.val a.plen ha, net_last ver a.val a.plen ha]
    refine (span_for ver _ _ (b :: rest) _ _ fun x hx => hp x (List.mem_cons_of_mem _ hx)).trans ?_
    rw [Int.toNat_natCast]
    exact span_loop ver _ _ _ _ (width ver) (width ver + 1) _ (Nat.le_refl _) (Nat.le_succ _)

example : spanning_cidr [(4, 0x0A000000, 8), (4, 0x0A010000, 16)] = .ok (0x0A000000, 8, 4) ∧
    spanning_cidr [(4, 0xC0000200, 24), (4, 0xC0000300, 24)] = .ok (0xC0000200, 23, 4) ∧
    spanning_cidr [(4, 5, 32)] = .error .value ∧
    spanning_cidr [(4, 5, 32), (6, 5, 128)] = .error .type_ := by decide

end NV.Tie
