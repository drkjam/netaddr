/-
Props/C10.lean — property C10 "Ranged objects behave exactly like the list of their addresses".
Property theorems only; the spec vocabulary (`listOf`, `pyIndex`, `pySlice`, `Ranged.WF`) and the
helper lemmas are in Lemmas/C10L.lean, the facts about the modelled `range` / `slice.indices` in Lemmas/PyRange.lean.

Statement (properties.jsonl): for every IPNetwork, IPRange and IPGlob, iteration yields every
address from first to last once, ascending; size (and len() when it fits in a machine word,
else IndexError) is last-first+1; x[i] returns what list(x)[i] would for every integer i,
raising IndexError exactly when the list would; for IPv4 x[a:b:c] yields exactly
list(x)[a:b:c] for every slice (IPv6 slicing raises TypeError).  iter_iprange(start, end, step)
yields start, start+step, ... while within the closed interval, for positive and negative steps.

The theorems are about `NV.ListLike.*`, the definitions the driver executes.  A ranged object
is `Ranged` (version, first, last); `ranged_of_network` / `ranged_of_range` show that every
well-formed IPNetwork (any host bits) and IPRange/IPGlob is a well-formed `Ranged`.

Some of the model functions have a twin translated from netaddr's source text (Gen/Trans.lean); Props/Tie*.lean
prove the two equal (DESIGN.md 4.5; the `tie_theorems` of obligations/C10.json).
-/
import NetaddrVerif.Lemmas.C10L
import NetaddrVerif.Lemmas.MapM
import NetaddrVerif.Lemmas.PyRange
namespace NV.C10
open NV NV.ListLike

/-- every well-formed network — any value, any prefix — is a well-formed ranged object whose
    list runs over its CIDR block -/
theorem ranged_of_network (n : Net) (h : n.WF) :
    (ofNet n).WF ∧ (ofNet n).first = n.val / 2 ^ (width n.ver - n.plen) * 2 ^ (width n.ver - n.plen) ∧
    (ofNet n).last = (ofNet n).first + (2 ^ (width n.ver - n.plen) - 1) :=
  ⟨ofNet_wf n h, netFirst_eq _ _ _ h.2.1, netLast_eq_add _ _ _ h.2.1⟩

theorem ranged_of_range (r : Rng) (hver : r.ver = 4 ∨ r.ver = 6) (hle : r.lo ≤ r.hi) (hmax : r.hi ≤ maxInt r.ver) :
    (ofRng r).WF ∧ (ofRng r).first = r.lo ∧ (ofRng r).last = r.hi := ⟨⟨hver, hle, hmax⟩, rfl, rfl⟩

example : (ofNet ⟨4, 0x0a000005, 29⟩).WF := ofNet_wf _ ⟨Or.inl rfl, by decide, by decide⟩
example : listOf (ofNet ⟨4, 0x0a000005, 30⟩) = [⟨4, 0x0a000004⟩, ⟨4, 0x0a000005⟩, ⟨4, 0x0a000006⟩, ⟨4, 0x0a000007⟩] := by decide

/-! ### iter_iprange -/

/-- `iter_iprange(start, end, step)` with `step > 0` yields exactly `start + step·i` for `i < n`,
    where `n` is the number of such values that are `≤ end` (all the first `n` are, the next one is
    not — so `n` is unique, and `n = 0` when `start > end`); every yielded value lies in
    `start..end`, hence inside the address space. -/
theorem iter_iprange_pos (a b : Addr) (step : Int) (ha : a.WF) (hb : b.WF) (hv : a.ver = b.ver) (hs : 0 < step) :
    ∃ n : Nat, iterIprange a b step =
        .ok ((List.range n).map (fun (i : Nat) => (⟨a.ver, ((a.val : Int) + step * i).toNat⟩ : Addr))) ∧
      (∀ i : Nat, i < n → (a.val : Int) + step * i ≤ b.val) ∧ (b.val : Int) < a.val + step * n := by
  obtain ⟨n, hn, hr, hall, hnext⟩ := iprLoop_pos a.ver b.val step ha.1 hs
    (hv ▸ val_le_maxInt b hb) (iprFuel a b) (a.val - step)
    (by rw [Int.sub_add_cancel]; exact Int.natCast_nonneg _)
  simp only [Int.sub_add_cancel] at hr hall hnext
  refine ⟨n, ?_, hall, ?_⟩
  · rw [iterIprange, iterIprangeF_eq _ a b step hv (Int.ne_of_gt hs), decide_eq_false (Int.not_lt.2 (Int.le_of_lt hs))]
    exact hr
  · by_cases hlt : n < iprFuel a b
    · exact hnext hlt
    · -- the fuel `|end - start| + 1` cannot run out: already `step·n ≥ n` would pass `end`
      exact Int.lt_add_of_sub_left_lt ((fuel_suffices _ step n (Nat.le_of_not_lt hlt)).1 hs)

/-- `iter_iprange(start, end, step)` with `step < 0` yields exactly `start + step·i` for `i < n`,
    all `≥ end`, the next one being `< end` (`n = 0` when `start < end`); no yielded value is
    below `end ≥ 0`: the generator never steps below address 0. -/
theorem iter_iprange_neg (a b : Addr) (step : Int) (ha : a.WF) (_hb : b.WF) (hv : a.ver = b.ver) (hs : step < 0) :
    ∃ n : Nat, iterIprange a b step =
        .ok ((List.range n).map (fun (i : Nat) => (⟨a.ver, ((a.val : Int) + step * i).toNat⟩ : Addr))) ∧
      (∀ i : Nat, i < n → (b.val : Int) ≤ a.val + step * i) ∧ (a.val : Int) + step * n < b.val := by
  obtain ⟨n, hn, hr, hall, hnext⟩ := iprLoop_neg a.ver b.val step ha.1 hs (Int.natCast_nonneg _)
    (iprFuel a b) (a.val - step) (by rw [Int.sub_add_cancel]; exact val_le_maxInt a ha)
  simp only [Int.sub_add_cancel] at hr hall hnext
  refine ⟨n, ?_, hall, ?_⟩
  · rw [iterIprange, iterIprangeF_eq _ a b step hv (Int.ne_of_lt hs), decide_eq_true hs]
    exact hr
  · by_cases hlt : n < iprFuel a b
    · exact hnext hlt
    · exact Int.add_lt_of_lt_sub_left ((fuel_suffices _ step n (Nat.le_of_not_lt hlt)).2 hs)

/-- closed form of the number of yielded addresses for a positive step:
    `(end - start) // step + 1` when `start ≤ end`, none otherwise -/
theorem iter_iprange_count_pos (a b : Addr) (step : Int) (ha : a.WF) (hb : b.WF) (hv : a.ver = b.ver) (hs : 0 < step) :
    ∃ l, iterIprange a b step = .ok l ∧
      l.length = if a.val ≤ b.val then (((b.val : Int) - a.val) / step).toNat + 1 else 0 := by
  obtain ⟨n, hr, hall, hnext⟩ := iter_iprange_pos a b step ha hb hv hs
  refine ⟨_, hr, ?_⟩
  rw [List.length_map, List.length_range]
  cases n with
  | zero => exact (if_neg (by omega)).symm
  | succ m =>
    have h0 := hall 0 (Nat.succ_pos m)
    have h1 := hall m (Nat.lt_succ_self m)
    rw [mul_natCast_succ] at hnext
    have hq1 : (m : Int) ≤ ((b.val : Int) - a.val) / step :=
      (Int.le_ediv_iff_mul_le hs).2 (by rw [Int.mul_comm]; omega)
    have hq2 : ((b.val : Int) - a.val) / step < (m : Int) + 1 :=
      (Int.ediv_lt_iff_lt_mul hs).2 (by rw [Int.add_mul, Int.mul_comm]; omega)
    rw [if_pos (by omega)]
    omega

/-- the generator never leaves the closed interval between `start` and `end` (in particular it
    never constructs an address below 0 or above `max_int`), and keeps the version -/
theorem iter_iprange_in_bounds (a b : Addr) (step : Int) (ha : a.WF) (hb : b.WF) (hv : a.ver = b.ver)
    (hs : step ≠ 0) :
    ∃ l, iterIprange a b step = .ok l ∧ ∀ y ∈ l, y.ver = a.ver ∧
      ((a.val ≤ y.val ∧ y.val ≤ b.val) ∨ (b.val ≤ y.val ∧ y.val ≤ a.val)) := by
  rcases Int.lt_or_gt_of_ne hs with hn | hp
  · obtain ⟨n, hr, hall, _⟩ := iter_iprange_neg a b step ha hb hv hn
    refine ⟨_, hr, fun y hy => ?_⟩
    obtain ⟨i, hi, rfl⟩ := List.mem_map.1 hy
    have h1 := hall i (List.mem_range.1 hi)
    have h2 := Int.mul_nonpos_of_nonpos_of_nonneg (Int.le_of_lt hn) (Int.natCast_nonneg i)
    refine ⟨rfl, Or.inr ?_⟩
    show b.val ≤ Int.toNat _ ∧ Int.toNat _ ≤ a.val
    omega
  · obtain ⟨n, hr, hall, _⟩ := iter_iprange_pos a b step ha hb hv hp
    refine ⟨_, hr, fun y hy => ?_⟩
    obtain ⟨i, hi, rfl⟩ := List.mem_map.1 hy
    have h1 := hall i (List.mem_range.1 hi)
    have h2 := Int.mul_nonneg (Int.le_of_lt hp) (Int.natCast_nonneg i)
    refine ⟨rfl, Or.inl ?_⟩
    show a.val ≤ Int.toNat _ ∧ Int.toNat _ ≤ b.val
    omega

/-- exactly these calls are rejected: different versions (TypeError), else a zero step (ValueError) -/
theorem iter_iprange_errors (a b : Addr) (step : Int) :
    (a.ver ≠ b.ver → iterIprange a b step = .error .type_) ∧
    (a.ver = b.ver → step = 0 → iterIprange a b step = .error .value) :=
  ⟨fun h => by rw [iterIprange, iterIprangeF, if_pos h],
   fun h h0 => by rw [iterIprange, iterIprangeF, if_neg (not_not_intro h), if_pos h0]⟩

example : iterIprange ⟨4, 10⟩ ⟨4, 0⟩ (-3) = .ok [⟨4, 10⟩, ⟨4, 7⟩, ⟨4, 4⟩, ⟨4, 1⟩] := by decide
example : iterIprange ⟨4, 4294967293⟩ ⟨4, 4294967295⟩ 2 = .ok [⟨4, 4294967293⟩, ⟨4, 4294967295⟩] := by decide

/-! ### iteration, size, len -/

/-- `iter(x)` observed for any number `fuel` of items yields the first `fuel` addresses of
    `first, first+1, …, last` (for all fuel) -/
theorem iter_prefix (x : Ranged) (h : x.WF) (fuel : Nat) : iterF fuel x = .ok ((listOf x).take fuel) :=
  (bind_endpoints x h _).trans (iterIprangeF_ranged x h fuel)

/-- iteration yields every address from first to last once, ascending -/
theorem iter_spec (x : Ranged) (h : x.WF) : iter x = .ok (listOf x) := by
  rw [iter, bind_endpoints x h, iterIprange, iterIprangeF_ranged x h, List.take_of_length_le]
  have := h.le
  rw [length_listOf, iprFuel]
  show x.last - x.first + 1 ≤ ((x.last : Int) - x.first).natAbs + 1
  omega

/-- the list is strictly ascending by one and runs from `first` to `last` -/
theorem listOf_shape (x : Ranged) :
    (listOf x).length = x.last - x.first + 1 ∧
    ∀ k, k < x.last - x.first + 1 → (listOf x)[k]? = some ⟨x.ver, x.first + k⟩ :=
  ⟨length_listOf x, fun k hk => getElem?_listOf x k (length_listOf x ▸ hk)⟩

/-- `size` is `last - first + 1` = the length of the list; `len()` returns it when it is at most
    `sys.maxsize` and raises IndexError exactly otherwise -/
theorem size_len (x : Ranged) (h : x.WF) (maxsize : Nat) :
    size x = ((x.last - x.first + 1 : Nat) : Int) ∧ size x = ((listOf x).length : Int) ∧
    ((listOf x).length ≤ maxsize → len maxsize x = .ok ((listOf x).length : Int)) ∧
    (maxsize < (listOf x).length → len maxsize x = .error .index) := by
  have hs := size_eq x h
  refine ⟨by rw [hs, length_listOf], hs, fun hle => ?_, fun hlt => ?_⟩
  · rw [len, hs]
    exact if_neg (by omega)
  · rw [len, hs]
    exact if_pos (by omega)

example : len (2 ^ 63 - 1) ⟨6, 0, 2 ^ 63 - 1⟩ = .error .index := by decide
example : len (2 ^ 63 - 1) ⟨6, 0, 2 ^ 63 - 2⟩ = .ok (2 ^ 63 - 1) := by decide

/-! ### integer indexing -/

/-- `x[i]` is `list(x)[i]` for every integer `i`, with Python's index semantics, including the
    IndexError set (`pyIndex` raises exactly for `i < -len` or `i ≥ len`) -/
theorem index_spec (x : Ranged) (h : x.WF) (i : Int) : getItemInt x i = pyIndex (listOf x) i := by
  unfold getItemInt pyIndex
  rw [size_eq x h]
  by_cases hneg : -((listOf x).length : Int) ≤ i ∧ i < 0
  · -- `last + i + 1` is offset `len + i` from `first`
    have h0 : 0 ≤ ((listOf x).length : Int) + i := by omega
    have h1 : ((listOf x).length : Int) + i < (listOf x).length := by omega
    rw [if_pos hneg, if_neg (fun hp => Int.not_lt.2 hp.1 hneg.2), if_pos hneg, Int.add_right_comm, last_succ x h,
      Int.add_assoc, mkAddr_offset x h _ h0 h1, getElem?_offset x _ h0 h1]
  · rw [if_neg hneg, if_neg hneg]
    by_cases hpos : 0 ≤ i ∧ i < ((listOf x).length : Int)
    · rw [if_pos hpos, if_pos ⟨hpos.1, Int.le_sub_one_of_lt hpos.2⟩, mkAddr_offset x h i hpos.1 hpos.2,
        getElem?_offset x i hpos.1 hpos.2]
    · rw [if_neg hpos, if_neg (fun hp => hpos ⟨hp.1, Int.lt_of_le_sub_one hp.2⟩)]

theorem index_error_iff (x : Ranged) (h : x.WF) (i : Int) :
    getItemInt x i = .error .index ↔ (i < -((listOf x).length : Int) ∨ ((listOf x).length : Int) ≤ i) := by
  rw [index_spec x h]
  exact pyIndex_error_iff _ i

example : getItemInt (ofNet ⟨4, 0, 29⟩) (-8) = .ok ⟨4, 0⟩ := by decide
example : getItemInt (ofNet ⟨4, 0, 29⟩) (-9) = .error .index := by decide
example : getItemInt (ofNet ⟨6, 0, 0⟩) (-1) = .ok ⟨6, 2 ^ 128 - 1⟩ := by decide

/-! ### slicing -/

/-- IPv4: `x[a:b:c]` yields exactly `list(x)[a:b:c]` for every slice — `None`, negative,
    over-long components and every non-zero step; a zero step raises ValueError on both sides -/
theorem slice_spec (x : Ranged) (h : x.WF) (h4 : x.ver = 4) (a b c : Option Int) :
    getItemSlice x a b c = pySlice (listOf x) a b c := by
  rw [getItemSlice, if_neg (by omega), pySlice, size_eq x h, Int.toNat_natCast]
  cases hsi : Py.sliceIndices a b c (listOf x).length with
  | none => rfl
  | some t =>
    obtain ⟨s, e, st⟩ := t
    have hin := sliceIdx_in_range a b c _ s e st hsi
    show iterSlice x s e st = .ok _
    rw [pick_listOf x _ hin]
    exact mapM_eq_pure_map _ _ _ (fun v hv => mkAddr_offset x h v (hin v hv).1 (hin v hv).2)

/-- no position is lost in `pySlice`: the positions taken are valid positions of the list, so the
    result has exactly one element per position of `range(*slice.indices(len))` -/
theorem slice_length (x : Ranged) (h : x.WF) (h4 : x.ver = 4) (a b c : Option Int) (s e st : Int)
    (hsi : Py.sliceIndices a b c (listOf x).length = some (s, e, st)) :
    ∃ l, getItemSlice x a b c = .ok l ∧ l.length = (Py.pyRange s e st).length ∧
      ∀ k (hk : k < (Py.pyRange s e st).length), l[k]? = (listOf x)[((Py.pyRange s e st)[k]).toNat]? ∧
        0 ≤ (Py.pyRange s e st)[k] ∧ (Py.pyRange s e st)[k] < (listOf x).length := by
  have hin := sliceIdx_in_range a b c _ s e st hsi
  rw [slice_spec x h h4, pySlice, hsi]
  refine ⟨_, rfl, ?_, fun k hk => ?_⟩
  · rw [pick_listOf x _ hin, List.length_map]
  · have hmem := hin _ (List.getElem_mem hk)
    refine ⟨?_, hmem⟩
    rw [pick_listOf x _ hin, List.getElem?_map, List.getElem?_eq_getElem hk, getElem?_offset x _ hmem.1 hmem.2]
    rfl

/-! #### sanity of the spec-level slice -/

/-- the spec-level slice means what Python means: `l[a:b]` for `0 ≤ a ≤ b ≤ len(l)` is
    `l` without its first `a` elements, cut to `b - a` elements -/
theorem pySlice_start_stop {α : Type} (l : List α) (a b : Nat) (hab : a ≤ b) (hb : b ≤ l.length) :
    pySlice l (some a) (some b) none = .ok ((l.drop a).take (b - a)) := by
  obtain ⟨k, rfl⟩ := Nat.exists_eq_add_of_le hab
  rw [pySlice, sliceIndices_nat a (a + k) _ (Nat.le_trans hab hb) hb, Nat.add_sub_cancel_left]
  show Except.ok (List.filterMap _ (Py.pyRange a ((a + k : Nat) : Int) 1)) = _
  rw [Int.natCast_add, pyRange_one]
  exact congrArg _ (pick_eq_take l (l.drop a) _ k
    (fun i _ => ⟨a + i, by omega, List.getElem?_drop.symm⟩))

/-- … and `l[::-1]` is the reversed list -/
theorem pySlice_reverse {α : Type} (l : List α) : pySlice l none none (some (-1)) = .ok l.reverse := by
  show Except.ok (List.filterMap _ (Py.pyRange ((l.length : Int) - 1) (-1) (-1))) = _
  rw [pyRange_down, ← List.take_length (l := l.reverse), List.length_reverse]
  exact congrArg _ (pick_eq_take l l.reverse _ l.length
    (fun i hi => ⟨l.length - 1 - i, by omega, (List.getElem?_reverse hi).symm⟩))

/-- hence `x[a:b]` (IPv4, `0 ≤ a ≤ b ≤ size`) is the contiguous run of addresses
    `first+a … first+b-1`, and `x[::-1]` is the list of addresses descending -/
theorem slice_start_stop_reverse (x : Ranged) (h : x.WF) (h4 : x.ver = 4) (a b : Nat) (hab : a ≤ b)
    (hb : b ≤ (listOf x).length) :
    getItemSlice x (some a) (some b) none = .ok (((listOf x).drop a).take (b - a)) ∧
    getItemSlice x none none (some (-1)) = .ok (listOf x).reverse := by
  rw [slice_spec x h h4, slice_spec x h h4]
  exact ⟨pySlice_start_stop _ a b hab hb, pySlice_reverse _⟩

/-- a zero step is rejected with ValueError, as `list(x)[a:b:0]` is -/
theorem slice_zero_step (x : Ranged) (h4 : x.ver ≠ 6) (a b : Option Int) :
    getItemSlice x a b (some 0) = .error .value := by
  rw [getItemSlice, if_neg h4, Py.sliceIndices]
  rfl

theorem slice_v6 (x : Ranged) (h6 : x.ver = 6) (a b c : Option Int) : getItemSlice x a b c = .error .type_ := by
  rw [getItemSlice, if_pos h6]

example : getItemSlice (ofNet ⟨4, 0x0a000000, 29⟩) none none (some 3) =
    .ok [⟨4, 0x0a000000⟩, ⟨4, 0x0a000003⟩, ⟨4, 0x0a000006⟩] := by decide
example : getItemSlice (ofNet ⟨4, 0x0a000000, 29⟩) (some 0) (some 0) none = .ok [] := by decide
example : getItemSlice (ofNet ⟨4, 0, 29⟩) none none (some (-3)) = .ok [⟨4, 7⟩, ⟨4, 4⟩, ⟨4, 1⟩] := by decide
example : pySlice [10, 11, 12, 13, 14] (some (-100)) (some 100) (some 2) = .ok [10, 12, 14] := by decide

end NV.C10
