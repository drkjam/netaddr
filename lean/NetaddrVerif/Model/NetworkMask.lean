/-
Model/NetworkMask.lean — the `netmask` setter of `IPNetwork` for EVERY argument form the
constructor `IPAddress(value)` distinguishes (audit 2a, finding 3).  Model/Network.lean
(`SetArg` = int | IPAddress | junk) is shared and stays as it is; this file adds the two argument
forms it leaves out, beside it:

    @netmask.setter
    def netmask(self, value):                          # netaddr/ip/__init__.py:1067-1078
        ip = IPAddress(value)                          # version=None, flags=0
        if ip.version != self.version:  raise ValueError
        if not ip.is_netmask():  raise ValueError
        self.prefixlen = ip.netmask_bits()

`IPAddress(value)` (netaddr/ip/__init__.py:255-327) with version=None, flags=0:
  * `isinstance(addr, BaseIP)` — an `IPAddress` OR an `IPNetwork` object (both derive from
    `BaseIP`): copy branch, `_value` and `_module` taken over; the prefix length of a network
    argument is not looked at                                          → `MaskArg.net`
  * a `str`: '/' in it → ValueError; else `_ipv4.str_to_int(addr, 0)` (= `inet_aton`, the BSD
    shorthand texts), else `_ipv6.str_to_int`, else AddrFormatError     → `MaskArg.str`, which is
    the C01 model function `AddrParse.ipAddress be s none 0` itself
  * an int / anything else: `addrOfSetArg` of Model/Network.lean        → `MaskArg.plain`

Outside the modelled domain (recorded in obligations/C02.json): `bytes` (TypeError out of
`'/' in addr`), `IPRange` / `IPGlob` (AttributeError: no `_value`), `bool` (an int subclass: it IS
an int for `isinstance`, `True` is the address 0.0.0.1).
-/
import NetaddrVerif.Model.NetworkSet
import NetaddrVerif.Model.AddrParse
namespace NV.NetMask
open NV NV.AddrParse NV.SetTrace

/-- argument of `n.netmask = x` -/
inductive MaskArg where
  | plain (x : SetArg)          -- int | IPAddress object | junk (Model/Network.lean)
  | str (s : List Char)         -- a `str`
  | net (m : Net)               -- an `IPNetwork` object (a `BaseIP`: copy branch)
deriving Repr

/-- `IPAddress(value)` as the netmask setter calls it: version=None, flags=0 -/
def addrOfMaskArg (be : Backend) : MaskArg → R Addr
  | .plain x => addrOfSetArg x
  | .str s => ipAddress be s none 0
  | .net m => .ok ⟨m.ver, m.val⟩

/-- the body of the netmask setter after `ip = IPAddress(value)` has returned or raised `r`
    (the same statements as `setNetmask` of Model/Network.lean) -/
def setNetmaskOf (n : Net) (r : R Addr) : R Net := do
  let ip ← r
  if ip.ver ≠ n.ver then .error .value
  else if !isNetmask (width ip.ver) ip.val then .error .value
  else
    let bits ← netmaskBits (width ip.ver) ip.val
    setPrefixlen n (.int bits)

/-- `IPNetwork.netmask` setter, every argument form -/
def setNetmaskX (be : Backend) (n : Net) (x : MaskArg) : R Net := setNetmaskOf n (addrOfMaskArg be x)

inductive SetOpX where
  | value (x : SetArg) | prefixlen (x : SetArg) | netmask (x : MaskArg)
deriving Repr

def applySetX (be : Backend) (n : Net) : SetOpX → R Net
  | .value x => setValue n x
  | .prefixlen x => setPrefixlen n x
  | .netmask x => setNetmaskX be n x

/-- one step of a live object: a failing assignment leaves the object as it was -/
def stepSetX (be : Backend) (n : Net) (op : SetOpX) : Net × Option Err :=
  match applySetX be n op with
  | .ok n' => (n', none)
  | .error e => (n, some e)

/-- the setter operations of Model/Network.lean are the `plain` ones -/
def SetOpX.ofSetOp : SetOp → SetOpX
  | .value x => .value x
  | .prefixlen x => .prefixlen x
  | .netmask x => .netmask (.plain x)

/-! ### statement by statement (Model/NetworkSet.lean's trace monad: stores survive a raise) -/

/-- the netmask setter body with `IPAddress(value)` = `r`; its last statement is the assignment
    `self.prefixlen = …`, i.e. a call of `_set_prefixlen` -/
def setNetmaskOfT (r : R Addr) : M Unit := do
  let ip ← call r
  let n ← self
  if ip.ver ≠ n.ver then raise .value
  if !isNetmask (width ip.ver) ip.val then raise .value
  let bits ← call (netmaskBits (width ip.ver) ip.val)
  setPrefixlenT (.int bits)

def setterBodyX (be : Backend) : SetOpX → M Unit
  | .value x => setValueT x
  | .prefixlen x => setPrefixlenT x
  | .netmask x => setNetmaskOfT (addrOfMaskArg be x)

/-- one assignment statement `n.<attr> = x` on the live object: outcome, the object as the setter
    left it, and the stores it made -/
def setterTraceX (be : Backend) (n : Net) (op : SetOpX) : Except Err Unit × St := setterBodyX be op ⟨n, []⟩

end NV.NetMask
