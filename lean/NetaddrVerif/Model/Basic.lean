/-
Model/Basic.lean — shared vocabulary of the executable model (core Lean only, no Mathlib:
everything under Model/ and Gen/ is compiled into the native driver).

Python `int` values that the code keeps inside `0 .. max_int` are `Nat`; places where the
code can go negative use `Int` locally.  Exceptions are `Except Err`.
-/
namespace NV

/-- Exception classes that properties name.  Messages are not modelled. -/
inductive Err where
  | addrFormat | addrConversion | value | type_ | index | notRegistered | key | notImpl | other
deriving DecidableEq, Repr, Inhabited

def Err.tag : Err → String
  | .addrFormat => "addrFormat"
  | .addrConversion => "addrConversion"
  | .value => "value"
  | .type_ => "type"
  | .index => "index"
  | .notRegistered => "notRegistered"
  | .key => "key"
  | .notImpl => "notImpl"
  | .other => "other"

abbrev R (α : Type) := Except Err α

/-- `module.width` of the two IP strategy modules and the two EUI ones. -/
def width (ver : Nat) : Nat :=
  if ver = 4 then 32 else if ver = 6 then 128 else ver

/-- `module.max_int = 2 ** width - 1`. -/
def maxInt (ver : Nat) : Nat := 2 ^ width ver - 1

/-- An `IPNetwork`: `_module.version`, `_value`, `_prefixlen`. -/
structure Net where
  ver : Nat
  val : Nat
  plen : Nat
deriving DecidableEq, Repr, Inhabited

/-- An `IPAddress`: `_module.version`, `_value`. -/
structure Addr where
  ver : Nat
  val : Nat
deriving DecidableEq, Repr, Inhabited

/-- An `IPRange`: version, `_start._value`, `_end._value`. -/
structure Rng where
  ver : Nat
  lo : Nat
  hi : Nat
deriving DecidableEq, Repr, Inhabited

def Net.WF (n : Net) : Prop := (n.ver = 4 ∨ n.ver = 6) ∧ n.val < 2 ^ width n.ver ∧ n.plen ≤ width n.ver
def Addr.WF (a : Addr) : Prop := (a.ver = 4 ∨ a.ver = 6) ∧ a.val < 2 ^ width a.ver

end NV
