/-
Model/IPSet.lean — `netaddr.ip.sets.IPSet` as a state machine (C06, C07), following
netaddr/ip/sets.py function by function.

State = the keys of `self._cidrs` in insertion order (`List Net`).  Python's dict compares
keys with `IPNetwork.__eq__` = `key()` = `(version, first, last)`; assigning an existing key
keeps the old key object and its position; `del` removes the equal key.  Iteration order is
kept for determinism of the executable model, but no modelled observation depends on it:
everything observable goes through `sorted(self._cidrs)`; `pop()` takes the block the
implementation chose as an argument (DESIGN.md 3.1).

`x in net` for two networks is taken in its specified form (same version, interval
inclusion); C04 proves the shift-compare spelling of `IPNetwork.__contains__` equal to it.
-/
import NetaddrVerif.Model.Cidr
import NetaddrVerif.Model.Compare
namespace NV.IPSet
open NV

abbrev St := List Net

/-- `IPNetwork.__eq__`: equal `key()` -/
def keyEq (a b : Net) : Bool := a.ver == b.ver && a.first == b.first && a.last == b.last

/-- `k in self._cidrs` -/
def dMem (s : St) (k : Net) : Bool := s.any (fun c => keyEq c k)
/-- `self._cidrs[k] = True` -/
def dInsert (s : St) (k : Net) : St := if dMem s k then s else s ++ [k]
/-- `del self._cidrs[k]` -/
def dDel (s : St) (k : Net) : St := s.filter (fun c => !keyEq c k)
/-- `dict.fromkeys(l, True)` -/
def fromKeys (l : List Net) : St := l.foldl dInsert []

/-- `a in b` for two networks (specified form, see header) -/
def netIn (a b : Net) : Bool := a.ver == b.ver && b.first ≤ a.first && a.last ≤ b.last

def toPfx (n : Net) : Pfx := ⟨n.val, n.plen⟩
def ofPfx (ver : Nat) (b : Pfx) : Net := ⟨ver, b.val, b.plen⟩

/-- `iprange_to_cidrs(IPAddress(lo), IPAddress(hi))` -/
def rangeCidrs (ver lo hi : Nat) : List Net :=
  let w := width ver
  (iprangeToCidrs w ⟨lo, w⟩ ⟨hi, w⟩).map (ofPfx ver)

/-- `cidr_merge(self._cidrs)`-style call on keys plus extra items -/
def mergeKeys (keys : List Net) (extra : List MItem) : List Net :=
  cidrMerge (keys.map (fun n => MItem.net n.ver (toPfx n)) ++ extra)

/-- `supernet = self.cidr; supernet._prefixlen = q; supernet.cidr` -/
def supernetAt (n : Net) (q : Nat) : Net := netCidr ⟨n.ver, (netCidr n).val, q⟩

/-- the `for cidr in self._cidrs` scan of `_compact_single_network`:
    returns `(to_remove, True)` when a supernet of `a` was met, else `(to_remove, False)` -/
def scan (a : Net) : List Net → List Net → List Net × Bool
  | [], acc => (acc, false)
  | c :: rest, acc =>
    if c.ver != a.ver || keyEq c a then scan a rest acc
    else if c.first ≥ a.first && c.last ≤ a.last then scan a rest (acc ++ [c])
    else if c.first ≤ a.first && c.last ≥ a.last then (acc, true)
    else scan a rest acc

/-- the `while added_network.prefixlen != 0` merge loop (fuel = prefixlen) -/
def mergeLoop : Nat → St → Net → Nat → St
  | 0, s, _, _ => s
  | fuel + 1, s, a, shift =>
    if a.plen = 0 then s else
    let w := width a.ver
    let theBit := (a.val >>> shift) % 2
    let size := 2 ^ (w - a.plen)
    let net := netNetwork w a.val a.plen
    -- `previous()` / `next()`: network address -/+ one block size, same prefix
    let cand : Net := if theBit = 1 then ⟨a.ver, net - size, a.plen⟩ else ⟨a.ver, net + size, a.plen⟩
    if !dMem s cand then s
    else
      let s1 := dDel (dDel s cand) a
      let a' : Net := ⟨a.ver, (a.val >>> (shift + 1)) <<< (shift + 1), a.plen - 1⟩
      mergeLoop fuel (dInsert s1 a') a' (shift + 1)

/-- `_compact_single_network(added_network)`; `a` is already a key of `s` -/
def compactSingle (s : St) (a : Net) : St :=
  let w := width a.ver
  if a.plen = w then
    if (List.range a.plen).any (fun q => dMem s (supernetAt a q)) then dDel s a
    else mergeLoop a.plen s a (w - a.plen)
  else
    let (toRemove, sup) := scan a s []
    if sup then dDel s a
    else mergeLoop a.plen (toRemove.foldl dDel s) a (w - a.plen)

/-- `compact()` -/
def compact (s : St) : St := fromKeys (mergeKeys s [])

/-- `add(addr)` for anything that is not an IPRange: the harness sends the network
    `IPNetwork(addr)` (ints and addresses are /width networks); `add` normalises with `.cidr` -/
def addNet (s : St) (n : Net) : St :=
  let a := netCidr n
  compactSingle (dInsert s a) a

/-- `add(IPRange)` -/
def addRange (s : St) (r : Rng) : St :=
  compact ((rangeCidrs r.ver r.lo r.hi).foldl dInsert s)

/-- `remove(addr)` for a network / address / int argument -/
def removeNet (s : St) (addr : Net) : St :=
  let s1 := addNet s addr
  match s1.find? (fun c => netIn addr c) with
  | none => s1
  | some c =>
    let rem := (cidrExclude (width c.ver) (toPfx c) (toPfx addr)).map (ofPfx c.ver)
    rem.foldl dInsert (dDel s1 c)

/-- `remove(IPRange)` -/
def removeRange (s : St) (r : Rng) : St :=
  (rangeCidrs r.ver r.lo r.hi).foldl removeNet s

/-- argument forms after the harness has parsed strings / ints -/
inductive Arg where
  | net (n : Net)            -- IPNetwork, IPAddress, int, str
  | rng (r : Rng)            -- IPRange, IPGlob
deriving Repr, Inhabited

def Arg.toItem : Arg → MItem
  | .net n => .net n.ver (toPfx n)
  | .rng r => .rng r.ver r.lo r.hi

def add (s : St) : Arg → St
  | .net n => addNet s n
  | .rng r => addRange s r

def remove (s : St) : Arg → St
  | .net n => removeNet s n
  | .rng r => removeRange s r

/-- `update(IPSet)` -/
def updateSet (s t : St) : St := fromKeys (mergeKeys (s ++ t) [])

/-- `update(iterable)`: merged blocks are added to the old keys, then `compact()` -/
def updateList (s : St) (items : List Arg) : St :=
  compact ((mergeKeys s (items.map Arg.toItem)).foldl dInsert s)

/-- `IPSet(iterable)` constructor forms -/
def newOfNet (n : Net) : St := [netCidr n]
def newOfRange (r : Rng) : St := fromKeys (rangeCidrs r.ver r.lo r.hi)
def newOfSet (t : St) : St := fromKeys (sortNets t)
def newOfList (items : List Arg) : St := fromKeys (cidrMerge (items.map Arg.toItem))

/-- `copy()`, pickling, `copy.copy/deepcopy`: same keys in the same order -/
def copy (s : St) : St := fromKeys s

/-- `pop()`: the harness supplies the block the implementation returned -/
def pop (s : St) (b : Net) : R St :=
  if dMem s b then .ok (dDel s b) else .error .key

/-- `iter_cidrs()` = `sorted(self._cidrs)` -/
def iterCidrs (s : St) : List Net := sortNets s

/-- `__contains__(ip)`: `IPNetwork(ip)`, then walk the supernets by decrementing `_prefixlen` -/
def contains (s : St) (n : Net) : Bool :=
  (List.range (n.plen + 1)).any (fun q => dMem s ⟨n.ver, n.val, q⟩)

def size (s : St) : Nat := (s.map (fun c => netSize (width c.ver) c.val c.plen)).sum

/-- `__len__`: IndexError above `sys.maxsize` -/
def len (maxint : Nat) (s : St) : R Nat :=
  if size s > maxint then .error .index else .ok (size s)

/-- `__eq__`: dict equality (all values are True) -/
def eq (s t : St) : Bool := s.length == t.length && s.all (fun c => dMem t c)

def issubset (s t : St) : Bool := s.all (fun c => contains t c)
def issuperset (s t : St) : Bool := t.all (fun c => contains s c)
def lt (s t : St) : Bool := size s < size t && issubset s t
def gt (s t : St) : Bool := size s > size t && issuperset s t

/-- `Net.sort_key() <` -/
def netLt (a b : Net) : Bool := tupleLt a.sortKey b.sortKey

/-- the two-cursor sweep of `intersection` (fuel ≥ |own| + |other|) -/
def interSweep : Nat → List Net → List Net → St → St
  | 0, _, _, acc => acc
  | _ + 1, [], _, acc => acc
  | _ + 1, _ :: _, [], acc => acc
  | fuel + 1, a :: as, b :: bs, acc =>
    if keyEq a b then interSweep fuel as bs (dInsert acc a)
    else if netIn a b then interSweep fuel as (b :: bs) (dInsert acc a)
    else if netIn b a then interSweep fuel (a :: as) bs (dInsert acc b)
    else if netLt a b then interSweep fuel as (b :: bs) acc
    else interSweep fuel (a :: as) bs acc

def intersection (s t : St) : St :=
  interSweep (s.length + t.length + 1) (sortNets s) (sortNets t) []

def isdisjoint (s t : St) : Bool := (intersection s t).isEmpty

/-- a `(version, first, last)` tuple -/
abbrev VR := Nat × Nat × Nat

/-- the `while subnet_idx < len(subnets)` loop of `_subtract`;
    returns (unconsumed subnets, ranges, prev_subnet) -/
def subtractLoop (sup : Net) : Net → List Net → List VR → List Net × List VR × Net
  | prev, [], acc => ([], acc, prev)
  | prev, c :: rest, acc =>
    if !netIn c sup then (c :: rest, acc, prev)
    else if prev.last + 1 == c.first then subtractLoop sup c rest acc
    else subtractLoop sup c rest (acc ++ [(sup.ver, prev.last + 1, c.first - 1)])

/-- `_subtract(supernet, subnets, subnet_idx, ranges)` on the suffix `subnets[subnet_idx:]` -/
def subtract (sup : Net) (subs : List Net) (ranges : List VR) : List Net × List VR :=
  match subs with
  | [] => ([], ranges)
  | sub :: rest =>
    let r1 := if sub.first > sup.first then ranges ++ [(sup.ver, sup.first, sub.first - 1)] else ranges
    let (rest', r2, prev) := subtractLoop sup sub rest r1
    let first := prev.last + 1
    let r3 := if first ≤ sup.last then r2 ++ [(sup.ver, first, sup.last)] else r2
    (rest', r3)

/-- `_iter_merged_ranges(sorted_ranges)` -/
def mergedRangesAux : VR → List VR → List VR
  | cur, [] => [cur]
  | (cv, cs, ce), (nv, ns, ne) :: rest =>
    if ns == ce + 1 && nv == cv then mergedRangesAux (cv, cs, ne) rest
    else (cv, cs, ce) :: mergedRangesAux (nv, ns, ne) rest

def mergedRanges : List VR → List VR
  | [] => []
  | r :: rest => mergedRangesAux r rest

/-- keys produced from merged ranges through `iprange_to_cidrs` -/
def rangesToCidrs (rs : List VR) : List Net :=
  (mergedRanges rs).flatMap (fun r => rangeCidrs r.1 r.2.1 r.2.2)

def vrOf (n : Net) : VR := (n.ver, n.first, n.last)

/-- the sweep of `difference`: returns (result_cidrs, result_ranges) -/
def diffSweep : Nat → List Net → List Net → St → List VR → St × List VR
  | 0, _, _, cs, rs => (cs, rs)
  | _ + 1, [], _, cs, rs => (cs, rs)
  | _ + 1, a :: as, [], cs, rs => ((a :: as).foldl dInsert cs, rs)
  | fuel + 1, a :: as, b :: bs, cs, rs =>
    if keyEq a b then diffSweep fuel as bs cs rs
    else if netIn a b then diffSweep fuel as (b :: bs) cs rs
    else if netIn b a then
      let (bs', rs') := subtract a (b :: bs) rs
      diffSweep fuel as bs' cs rs'
    else if netLt a b then diffSweep fuel as (b :: bs) (dInsert cs a) rs
    else diffSweep fuel (a :: as) bs cs rs

def difference (s t : St) : St :=
  let (cs, rs) := diffSweep (s.length + t.length + 1) (sortNets s) (sortNets t) [] []
  (rangesToCidrs rs).foldl dInsert cs

/-- the sweep of `symmetric_difference`: returns result_ranges -/
def xorSweep : Nat → List Net → List Net → List VR → List VR
  | 0, _, _, rs => rs
  | _ + 1, as, [], rs => rs ++ as.map vrOf
  | _ + 1, [], bs, rs => rs ++ bs.map vrOf
  | fuel + 1, a :: as, b :: bs, rs =>
    if keyEq a b then xorSweep fuel as bs rs
    else if netIn a b then
      let (as', rs') := subtract b (a :: as) rs
      xorSweep fuel as' bs rs'
    else if netIn b a then
      let (bs', rs') := subtract a (b :: bs) rs
      xorSweep fuel as bs' rs'
    else if netLt a b then xorSweep fuel as (b :: bs) (rs ++ [vrOf a])
    else xorSweep fuel (a :: as) bs (rs ++ [vrOf b])

def symmetricDifference (s t : St) : St :=
  fromKeys (rangesToCidrs (xorSweep (s.length + t.length + 1) (sortNets s) (sortNets t) []))

/-- `union` = `copy()` + `update(other)` -/
def union (s t : St) : St := updateSet (copy s) t

/-- `iscontiguous()` (as repaired: compares `(version, integer)` pairs) -/
def contigAux : Nat × Nat → List Net → Bool
  | _, [] => true
  | prev, c :: rest => if (c.ver, c.first) != prev then false else contigAux (c.ver, c.last + 1) rest

def iscontiguous (s : St) : Bool :=
  match iterCidrs s with
  | [] => true
  | [_] => true
  | c :: rest => contigAux (c.ver, c.first) (c :: rest)

/-- `iprange()`: None for the empty set, ValueError when not contiguous -/
def iprange (s : St) : R (Option Rng) :=
  if iscontiguous s then
    match iterCidrs s with
    | [] => .ok none
    | c :: rest => .ok (some ⟨c.ver, c.first, ((c :: rest).getLast?.getD c).last⟩)
  else .error .value

/-- `iter_ipranges()` -/
def iterIpranges (s : St) : List VR := mergedRanges ((iterCidrs s).map vrOf)

/-! ### histories: typed operations over several live sets -/

inductive BinOp where
  | or | and | sub | xor
deriving Repr, DecidableEq, Inhabited

/-- one mutating step of a history over indexed live sets.  `pop` carries the block the
    implementation returned (`none` = it raised KeyError). -/
inductive Op where
  | newNone (i : Nat)
  | newNet (i : Nat) (n : Net)
  | newRng (i : Nat) (r : Rng)
  | newSet (i j : Nat)
  | newList (i : Nat) (xs : List Arg)
  | add (i : Nat) (x : Arg)
  | rem (i : Nat) (x : Arg)
  | updSet (i j : Nat)
  | updArg (i : Nat) (x : Arg)
  | updList (i : Nat) (xs : List Arg)
  | clear (i : Nat)
  | pop (i : Nat) (b : Option Net)
  | compact (i : Nat)
  | copy (j i : Nat)
  | bin (k i j : Nat) (o : BinOp)
deriving Repr, Inhabited

def getSet (sets : List St) (i : Nat) : St := sets.getD i []
def setSet (sets : List St) (i : Nat) (s : St) : List St :=
  let sets := if sets.length ≤ i then sets ++ List.replicate (i + 1 - sets.length) [] else sets
  sets.set i s

def binOp (o : BinOp) (a b : St) : St :=
  match o with
  | .or => union a b
  | .and => intersection a b
  | .sub => difference a b
  | .xor => symmetricDifference a b

/-- apply one operation; returns the new sets and the index of the touched set
    (a failing `pop` leaves everything unchanged) -/
def stepOp (sets : List St) : Op → List St × Nat × Option Err
  | .newNone i => (setSet sets i [], i, none)
  | .newNet i n => (setSet sets i (newOfNet n), i, none)
  | .newRng i r => (setSet sets i (newOfRange r), i, none)
  | .newSet i j => (setSet sets i (newOfSet (getSet sets j)), i, none)
  | .newList i xs => (setSet sets i (newOfList xs), i, none)
  | .add i x => (setSet sets i (add (getSet sets i) x), i, none)
  | .rem i x => (setSet sets i (remove (getSet sets i) x), i, none)
  | .updSet i j => (setSet sets i (updateSet (getSet sets i) (getSet sets j)), i, none)
  | .updArg i x => (setSet sets i (add (getSet sets i) x), i, none)
  | .updList i xs => (setSet sets i (updateList (getSet sets i) xs), i, none)
  | .clear i => (setSet sets i [], i, none)
  | .pop i none => (sets, i, if (getSet sets i).isEmpty then some .key else some .other)
  | .pop i (some b) =>
    match pop (getSet sets i) b with
    | .ok s => (setSet sets i s, i, none)
    | .error e => (sets, i, some e)
  | .compact i => (setSet sets i (compact (getSet sets i)), i, none)
  | .copy j i => (setSet sets j (copy (getSet sets i)), j, none)
  | .bin k i j o => (setSet sets k (binOp o (getSet sets i) (getSet sets j)), k, none)

/-- run a whole history from no sets at all -/
def runOps (ops : List Op) : List St := ops.foldl (fun sets op => (stepOp sets op).1) []

/-! ### additions (C06/C07 deepening): address iteration, `repr`, `!=`, and the non-mutating
operations as steps over the store of live sets.  Nothing above is changed. -/

/-- `IPNetwork.__iter__` = `iter_iprange(IPAddress(first), IPAddress(last))`: the index starts
    at `first` and is yielded while `index <= last` (nothing when `first > last`) -/
def netAddrs (c : Net) : List (Nat × Nat) :=
  (List.range' c.first (c.last + 1 - c.first)).map (fun a => (c.ver, a))

/-- `IPSet.__iter__` = `itertools.chain(*sorted(self._cidrs))`: `(version, address)` pairs -/
def iterAddrs (s : St) : List (Nat × Nat) := (iterCidrs s).flatMap netAddrs

/-- `__repr__` = `'IPSet(%r)' % [str(c) for c in sorted(self._cidrs)]` at value level: the
    sorted key list, each key shown as `(version, value, prefixlen)` — `str(c)` prints the stored
    value (host bits included) and the prefix length (Model/IPSetText.lean prints the strings) -/
def reprSet (s : St) : List Net := sortNets s

/-- `__ne__`: `self._cidrs != other._cidrs` (dict `!=` is the negation of dict `==`) -/
def ne (s t : St) : Bool := !(eq s t)

/-- `__bool__` / `__nonzero__`: `bool(self._cidrs)` -/
def nonzero (s : St) : Bool := !s.isEmpty

/-- `__le__ = issubset`, `__ge__ = issuperset` -/
def le (s t : St) : Bool := issubset s t
def ge (s t : St) : Bool := issuperset s t

/-- the live sets of a history -/
abbrev Store := List St

/-- the non-mutating operations: comparisons, predicates, size, the range views, membership,
    iteration, `iter_cidrs`, `repr`, truth value -/
inductive QOp where
  | eq (i j : Nat) | ne (i j : Nat)
  | issubset (i j : Nat) | issuperset (i j : Nat)
  | le (i j : Nat) | ge (i j : Nat) | lt (i j : Nat) | gt (i j : Nat)
  | isdisjoint (i j : Nat)
  | size (i : Nat) | len (i : Nat)
  | iscontiguous (i : Nat) | iprange (i : Nat) | iterIpranges (i : Nat)
  | contains (i : Nat) (n : Net)
  | iter (i : Nat) | iterCidrs (i : Nat) | repr (i : Nat) | nonzero (i : Nat)
deriving Repr, Inhabited, DecidableEq

/-- what a query returns -/
inductive QVal where
  | bool (b : Bool)
  | nat (n : Nat)
  | rng (r : Option Rng)
  | ranges (l : List VR)
  | addrs (l : List (Nat × Nat))
  | cidrs (l : List Net)
deriving Repr, Inhabited, DecidableEq

/-- the value (or exception) of a query on the current store; `maxint` = `sys.maxsize` -/
def evalQ (maxint : Nat) (sets : Store) : QOp → R QVal
  | .eq i j => .ok (.bool (eq (getSet sets i) (getSet sets j)))
  | .ne i j => .ok (.bool (ne (getSet sets i) (getSet sets j)))
  | .issubset i j => .ok (.bool (issubset (getSet sets i) (getSet sets j)))
  | .issuperset i j => .ok (.bool (issuperset (getSet sets i) (getSet sets j)))
  | .le i j => .ok (.bool (le (getSet sets i) (getSet sets j)))
  | .ge i j => .ok (.bool (ge (getSet sets i) (getSet sets j)))
  | .lt i j => .ok (.bool (lt (getSet sets i) (getSet sets j)))
  | .gt i j => .ok (.bool (gt (getSet sets i) (getSet sets j)))
  | .isdisjoint i j => .ok (.bool (isdisjoint (getSet sets i) (getSet sets j)))
  | .size i => .ok (.nat (size (getSet sets i)))
  | .len i => (len maxint (getSet sets i)).map .nat
  | .iscontiguous i => .ok (.bool (iscontiguous (getSet sets i)))
  | .iprange i => (iprange (getSet sets i)).map .rng
  | .iterIpranges i => .ok (.ranges (iterIpranges (getSet sets i)))
  | .contains i n => .ok (.bool (contains (getSet sets i) n))
  | .iter i => .ok (.addrs (iterAddrs (getSet sets i)))
  | .iterCidrs i => .ok (.cidrs (iterCidrs (getSet sets i)))
  | .repr i => .ok (.cidrs (reprSet (getSet sets i)))
  | .nonzero i => .ok (.bool (nonzero (getSet sets i)))

/-- a query as a step of a history: the store it leaves behind and what it returned -/
def stepQ (maxint : Nat) (sets : Store) (q : QOp) : Store × R QVal := (sets, evalQ maxint sets q)

/-- a history step is a mutation / construction (`Op`) or a query (`QOp`) -/
inductive Step where
  | op (o : Op)
  | q (q : QOp)
deriving Repr, Inhabited

/-- one step of a mixed history: new store and, for a query, its outcome -/
def stepAny (maxint : Nat) (sets : Store) : Step → Store × Option (R QVal)
  | .op o => ((stepOp sets o).1, none)
  | .q q => ((stepQ maxint sets q).1, some (stepQ maxint sets q).2)

/-! #### the same answers, computed faster (the driver runs these; `Lemmas/IPSetStore.lean`
proves each equal to the definition above) -/

/-- `k in keys` where `keys` are the `(version, first, last)` tuples of a dict, computed once -/
def dMemK (keys : List VR) (k : Net) : Bool :=
  let kk := vrOf k
  keys.any (fun c => c == kk)

def containsK (keys : List VR) (n : Net) : Bool :=
  (List.range (n.plen + 1)).any (fun q => dMemK keys ⟨n.ver, n.val, q⟩)

def issubsetK (s t : St) : Bool :=
  let keys := t.map vrOf
  s.all (fun c => containsK keys c)

def eqK (s t : St) : Bool :=
  let keys := t.map vrOf
  s.length == t.length && s.all (fun c => dMemK keys c)

/-- `evalQ` with the dictionary keys of the right operand computed once per query -/
def evalQFast (maxint : Nat) (sets : Store) : QOp → R QVal
  | .eq i j => .ok (.bool (eqK (getSet sets i) (getSet sets j)))
  | .ne i j => .ok (.bool (!(eqK (getSet sets i) (getSet sets j))))
  | .issubset i j => .ok (.bool (issubsetK (getSet sets i) (getSet sets j)))
  | .issuperset i j => .ok (.bool (issubsetK (getSet sets j) (getSet sets i)))
  | .le i j => .ok (.bool (issubsetK (getSet sets i) (getSet sets j)))
  | .ge i j => .ok (.bool (issubsetK (getSet sets j) (getSet sets i)))
  | .lt i j => .ok (.bool (size (getSet sets i) < size (getSet sets j) && issubsetK (getSet sets i) (getSet sets j)))
  | .gt i j => .ok (.bool (size (getSet sets i) > size (getSet sets j) && issubsetK (getSet sets j) (getSet sets i)))
  | .contains i n => .ok (.bool (containsK ((getSet sets i).map vrOf) n))
  | q => evalQ maxint sets q

/-- a query step evaluated the fast way -/
def stepQFast (maxint : Nat) (sets : Store) (q : QOp) : Store × R QVal := (sets, evalQFast maxint sets q)

/-- a row of queries evaluated one after the other, the store threaded through them -/
def runQs (maxint : Nat) (sets : Store) (qs : List QOp) : Store × List (R QVal) :=
  qs.foldl (fun acc q => let r := stepQFast maxint acc.1 q; (r.1, acc.2 ++ [r.2])) (sets, [])

end NV.IPSet
