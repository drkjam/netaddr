-- Root of the NetaddrVerif library: every module except the translation tie (Gen.Trans, Model.PyOps,
-- Model.TieAttr, Lemmas.TieL, Props.Tie*), which the checks build by name so that a tie theorem lost to a
-- rewrite of the Python text does not break this build.  A new module is added here by hand.
import NetaddrVerif.Driver.All
import NetaddrVerif.Driver.C01
import NetaddrVerif.Driver.C02
import NetaddrVerif.Driver.C03
import NetaddrVerif.Driver.C04
import NetaddrVerif.Driver.C05
import NetaddrVerif.Driver.C06
import NetaddrVerif.Driver.C07
import NetaddrVerif.Driver.C08
import NetaddrVerif.Driver.C09
import NetaddrVerif.Driver.C10
import NetaddrVerif.Driver.C11
import NetaddrVerif.Driver.C12
import NetaddrVerif.Driver.C13
import NetaddrVerif.Driver.C14
import NetaddrVerif.Driver.C15
import NetaddrVerif.Driver.C16
import NetaddrVerif.Driver.C17
import NetaddrVerif.Driver.C18
import NetaddrVerif.Driver.C19
import NetaddrVerif.Driver.C20
import NetaddrVerif.Driver.Cidr
import NetaddrVerif.Driver.Coerce
import NetaddrVerif.Driver.Runtime
import NetaddrVerif.Gen.Base85
import NetaddrVerif.Gen.Dialects
import NetaddrVerif.Gen.Iana
import NetaddrVerif.Gen.MacFormats
import NetaddrVerif.Gen.Tables
import NetaddrVerif.Lemmas.Bitwise
import NetaddrVerif.Lemmas.C01L4
import NetaddrVerif.Lemmas.C01L6
import NetaddrVerif.Lemmas.C01LAton
import NetaddrVerif.Lemmas.C01LAtonG
import NetaddrVerif.Lemmas.C01LZf
import NetaddrVerif.Lemmas.C01LCross
import NetaddrVerif.Lemmas.C01LFb
import NetaddrVerif.Lemmas.C01LFbPrint
import NetaddrVerif.Lemmas.C01LGrammar
import NetaddrVerif.Lemmas.C01LGrammarPton6
import NetaddrVerif.Lemmas.ListText
import NetaddrVerif.Lemmas.MapM
import NetaddrVerif.Lemmas.Exc
import NetaddrVerif.Lemmas.Numerals
import NetaddrVerif.Lemmas.C01LDigits
import NetaddrVerif.Lemmas.C01LCtor
import NetaddrVerif.Lemmas.C01LRaw
import NetaddrVerif.Lemmas.C03L
import NetaddrVerif.Lemmas.C03LInt
import NetaddrVerif.Lemmas.C03LAcc
import NetaddrVerif.Lemmas.C03LAbbrev
import NetaddrVerif.Lemmas.C03LSpell
import NetaddrVerif.Lemmas.C04L
import NetaddrVerif.Lemmas.C04M
import NetaddrVerif.Lemmas.C05LMerge
import NetaddrVerif.Lemmas.C05LNet
import NetaddrVerif.Lemmas.C05LPart
import NetaddrVerif.Lemmas.C05LRange
import NetaddrVerif.Lemmas.C08L
import NetaddrVerif.Lemmas.C08LBare
import NetaddrVerif.Lemmas.C08LCtor
import NetaddrVerif.Lemmas.C08LCtor2
import NetaddrVerif.Lemmas.C08LHex
import NetaddrVerif.Lemmas.C08LMatch
import NetaddrVerif.Lemmas.C08LSlice
import NetaddrVerif.Lemmas.C08LText
import NetaddrVerif.Lemmas.C09L
import NetaddrVerif.Lemmas.C10L
import NetaddrVerif.Lemmas.C11L
import NetaddrVerif.Lemmas.C11LTrace
import NetaddrVerif.Lemmas.C12L
import NetaddrVerif.Lemmas.C13L
import NetaddrVerif.Lemmas.C14L
import NetaddrVerif.Lemmas.C14LHex
import NetaddrVerif.Lemmas.C14LInplace
import NetaddrVerif.Lemmas.C15LArpa
import NetaddrVerif.Lemmas.C15LB85
import NetaddrVerif.Lemmas.C15LBits
import NetaddrVerif.Lemmas.C15LBytes
import NetaddrVerif.Lemmas.C15LSep
import NetaddrVerif.Lemmas.C15LWords
import NetaddrVerif.Lemmas.C16L
import NetaddrVerif.Lemmas.C17LBlock
import NetaddrVerif.Lemmas.C17LCidrGrammar
import NetaddrVerif.Lemmas.C17LConv
import NetaddrVerif.Lemmas.C17LGlob
import NetaddrVerif.Lemmas.C17LNmap
import NetaddrVerif.Lemmas.C17LNmapGrammar
import NetaddrVerif.Lemmas.C17LPlan
import NetaddrVerif.Lemmas.C17LPyLit
import NetaddrVerif.Lemmas.C17LPyLitDefs
import NetaddrVerif.Lemmas.C17LNum
import NetaddrVerif.Lemmas.C17LOctets
import NetaddrVerif.Lemmas.C17LRange
import NetaddrVerif.Lemmas.C17LTile
import NetaddrVerif.Lemmas.C18L
import NetaddrVerif.Lemmas.C19L
import NetaddrVerif.Lemmas.C19LKey
import NetaddrVerif.Lemmas.C19LLoad
import NetaddrVerif.Lemmas.C19LAudit2
import NetaddrVerif.Lemmas.C20L
import NetaddrVerif.Lemmas.C20L2
import NetaddrVerif.Lemmas.Canon
import NetaddrVerif.Lemmas.CanonSetL
import NetaddrVerif.Lemmas.Digits
import NetaddrVerif.Lemmas.GlueL
import NetaddrVerif.Lemmas.IPSetIntervals
import NetaddrVerif.Lemmas.IPSetSweep
import NetaddrVerif.Lemmas.IPSetDifference
import NetaddrVerif.Lemmas.IPSetFaithful
import NetaddrVerif.Lemmas.IPSetIterAddrs
import NetaddrVerif.Lemmas.IPSetStore
import NetaddrVerif.Lemmas.IPSetReprInj
import NetaddrVerif.Lemmas.IPSetMergeOps
import NetaddrVerif.Lemmas.IPSetAddRemove
import NetaddrVerif.Lemmas.IPSetHistory
import NetaddrVerif.Lemmas.IPSetState
import NetaddrVerif.Lemmas.IPSetCompact
import NetaddrVerif.Lemmas.IPSetLine
import NetaddrVerif.Lemmas.IPSetInter
import NetaddrVerif.Lemmas.BlkCount
import NetaddrVerif.Lemmas.IPSetMergedRanges
import NetaddrVerif.Lemmas.IPSetQueries
import NetaddrVerif.Lemmas.Inter
import NetaddrVerif.Lemmas.MergeUp
import NetaddrVerif.Lemmas.Minimal
import NetaddrVerif.Lemmas.NetBlock
import NetaddrVerif.Lemmas.NetworkL
import NetaddrVerif.Lemmas.PartStruct
import NetaddrVerif.Lemmas.Partition
import NetaddrVerif.Lemmas.PyRange
import NetaddrVerif.Lemmas.Quad
import NetaddrVerif.Lemmas.Sweep
import NetaddrVerif.Lemmas.StrLit
import NetaddrVerif.Lemmas.TupleOrder
import NetaddrVerif.Model.AddrParse
import NetaddrVerif.Model.AddrRaw
import NetaddrVerif.Model.Address
import NetaddrVerif.Model.Basic
import NetaddrVerif.Model.Cidr
import NetaddrVerif.Model.Classify
import NetaddrVerif.Model.Codec
import NetaddrVerif.Model.CodecObj
import NetaddrVerif.Model.Coerce
import NetaddrVerif.Model.Compare
import NetaddrVerif.Model.ComparePickle
import NetaddrVerif.Model.Contains
import NetaddrVerif.Model.Convert
import NetaddrVerif.Model.Eui
import NetaddrVerif.Model.Eui2
import NetaddrVerif.Model.FbSocket
import NetaddrVerif.Model.Glob
import NetaddrVerif.Model.IPSet
import NetaddrVerif.Model.IPSetText
import NetaddrVerif.Model.ListLike
import NetaddrVerif.Model.NetParse
import NetaddrVerif.Model.NetParseX
import NetaddrVerif.Model.Network
import NetaddrVerif.Model.NetworkSet
import NetaddrVerif.Model.NetworkMask
import NetaddrVerif.Model.Nmap
import NetaddrVerif.Model.Proto
import NetaddrVerif.Model.PyRuntime
import NetaddrVerif.Model.Registry
import NetaddrVerif.Model.SpanErr
import NetaddrVerif.Model.Splitter
import NetaddrVerif.Model.Subnet
import NetaddrVerif.Model.SubnetTrace
import NetaddrVerif.Model.Summarise
import NetaddrVerif.Model.Text4
import NetaddrVerif.Model.Text6
import NetaddrVerif.Props.C01
import NetaddrVerif.Props.C01b
import NetaddrVerif.Props.C01Audit2
import NetaddrVerif.Props.C02
import NetaddrVerif.Props.C02Setters
import NetaddrVerif.Props.C02Audit2
import NetaddrVerif.Props.C03
import NetaddrVerif.Props.C03b
import NetaddrVerif.Props.C03c
import NetaddrVerif.Props.C03Audit2
import NetaddrVerif.Props.C04
import NetaddrVerif.Props.C05
import NetaddrVerif.Props.C06
import NetaddrVerif.Props.C07
import NetaddrVerif.Props.C07b
import NetaddrVerif.Props.C08
import NetaddrVerif.Props.C08Ext
import NetaddrVerif.Props.C08Audit2
import NetaddrVerif.Props.C09
import NetaddrVerif.Props.C10
import NetaddrVerif.Props.C11
import NetaddrVerif.Props.C11Audit2
import NetaddrVerif.Props.C12
import NetaddrVerif.Props.C12Pickle
import NetaddrVerif.Props.C12Audit2
import NetaddrVerif.Props.C13
import NetaddrVerif.Props.C14
import NetaddrVerif.Props.C14Deep
import NetaddrVerif.Props.C15
import NetaddrVerif.Props.C15Deep
import NetaddrVerif.Props.C15Audit2
import NetaddrVerif.Props.C16
import NetaddrVerif.Props.C17
import NetaddrVerif.Props.C17Nmap
import NetaddrVerif.Props.C17Audit2
import NetaddrVerif.Props.C18
import NetaddrVerif.Props.C19
import NetaddrVerif.Props.C19Exact
import NetaddrVerif.Props.C19Audit2
import NetaddrVerif.Props.C20
import NetaddrVerif.Props.C20Full
import NetaddrVerif.Props.C20Audit2
import NetaddrVerif.Props.Glue
